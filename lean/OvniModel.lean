import OvniModel.Generated.All
import OvniModel.Version
import OvniModel.Lemmas.Version
import OvniModel.Props.C14
import OvniModel.Rt.Event
import OvniModel.Rt.Buffer
import OvniModel.Lemmas.Rt
import OvniModel.Lemmas.RtEvent
import OvniModel.Props.C01
import OvniModel.Rt.WriteLoop
import OvniModel.Props.C01Write
import OvniModel.Props.C02
import OvniModel.Rt.Fs
import OvniModel.Rt.FsOld
import OvniModel.Rt.FsSpec
import OvniModel.Lemmas.Fs
import OvniModel.Lemmas.FsView
import OvniModel.Lemmas.FsThread
import OvniModel.Lemmas.FsGlobal
import OvniModel.Lemmas.FsBuffer
import OvniModel.Lemmas.FsWitness
import OvniModel.Lemmas.FsSpec
import OvniModel.Lemmas.FsSched
import OvniModel.Props.C09
import OvniModel.Props.C10
import OvniModel.Emu.Chan
import OvniModel.Emu.Core
import OvniModel.Emu.View
import OvniModel.Spec.EventValues
import OvniModel.Spec.TrackModes
import OvniModel.Props.C08Stack
import OvniModel.Props.C08
import OvniModel.Emu.Prv
import OvniModel.Props.C13
import OvniModel.Rt.Mark
import OvniModel.Emu.MarkEmu
import OvniModel.Lemmas.MarkLabels
import OvniModel.Lemmas.MarkMerge
import OvniModel.Lemmas.MarkRt
import OvniModel.Props.C17
import OvniModel.Tools.Ovnisort
import OvniModel.Tools.OvnisortOld
import OvniModel.Lemmas.OvnisortSort
import OvniModel.Lemmas.OvnisortRing
import OvniModel.Lemmas.OvnisortInv
import OvniModel.Lemmas.OvnisortGen
import OvniModel.Lemmas.OvnisortTop
import OvniModel.Props.C16

import OvniModel.Emu.System
import OvniModel.Emu.SystemSpec
import OvniModel.Lemmas.SystemRes
import OvniModel.Lemmas.SystemSort
import OvniModel.Lemmas.SystemCpu
import OvniModel.Lemmas.SystemProc
import OvniModel.Lemmas.SystemCreate
import OvniModel.Lemmas.SystemFinish
import OvniModel.Lemmas.SystemUnion
import OvniModel.Lemmas.SystemCrash
import OvniModel.Lemmas.SystemMain
import OvniModel.Lemmas.SystemOrder
import OvniModel.Lemmas.SystemContent
import OvniModel.Lemmas.SystemDirname
import OvniModel.Props.C15

import OvniModel.Emu.Sort
import OvniModel.Emu.Breakdown
import OvniModel.Lemmas.ListLemmas
import OvniModel.Lemmas.ExceptLemmas
import OvniModel.Lemmas.Chan
import OvniModel.Lemmas.InsertSort
import OvniModel.Lemmas.Sort
import OvniModel.Lemmas.SortState
import OvniModel.Lemmas.BreakdownWalk
import OvniModel.Lemmas.Breakdown
import OvniModel.Lemmas.DirtyOrder
import OvniModel.Props.C20
import OvniModel.Lemmas.BreakdownSys

import OvniModel.Emu.Task
import OvniModel.Emu.TaskSpec
import OvniModel.Lemmas.Task
import OvniModel.Lemmas.TaskEmu
import OvniModel.Props.C07

import OvniModel.Emu.Heap
import OvniModel.Emu.Player
import OvniModel.Lemmas.Heap
import OvniModel.Lemmas.Merge
import OvniModel.Lemmas.Player
import OvniModel.Props.C03

import OvniModel.Emu.Basic
import OvniModel.Emu.Stream
import OvniModel.Emu.Meta
import OvniModel.Lemmas.Stream
import OvniModel.Lemmas.StreamTotal
import OvniModel.Lemmas.Meta
import OvniModel.Props.C12
import OvniModel.Props.C19

import OvniModel.Lemmas.EmuCore
import OvniModel.Lemmas.EmuCoreWF
import OvniModel.Lemmas.EmuCoreSteps
import OvniModel.Lemmas.EmuCoreCases
import OvniModel.Lemmas.EmuCoreSpec
import OvniModel.Lemmas.EmuCoreHist
import OvniModel.Lemmas.EmuCoreRec
import OvniModel.Lemmas.EmuCoreTotal
import OvniModel.Props.C04
import OvniModel.Props.C05

import OvniModel.Generated.Footprint
import OvniModel.Rt.Conc
import OvniModel.Lemmas.ConcSafe
import OvniModel.Lemmas.Conc
import OvniModel.Lemmas.ConcWitness
import OvniModel.Props.C11

import OvniModel.Emu.EvSpec
import OvniModel.Emu.Dispatch
import OvniModel.Lemmas.Dispatch
import OvniModel.Lemmas.EvSpec
import OvniModel.Lemmas.C18.All
import OvniModel.Props.C18

import OvniModel.Emu.Bay
import OvniModel.Emu.BaySpec
import OvniModel.Lemmas.Bay
import OvniModel.Lemmas.BayPropagate
import OvniModel.Lemmas.BayMux
import OvniModel.Lemmas.BayOrder
import OvniModel.Lemmas.BayTrack
import OvniModel.Lemmas.BayBuild
import OvniModel.Lemmas.BayTotal
import OvniModel.Lemmas.BayTopo
import OvniModel.Lemmas.CoreBayIdx
import OvniModel.Lemmas.CoreBayConn
import OvniModel.Lemmas.CoreBaySim
import OvniModel.Lemmas.CoreBayHandlers
import OvniModel.Lemmas.CoreBay
import OvniModel.Lemmas.CoreBayInit
import OvniModel.Lemmas.CoreBayView
import OvniModel.Lemmas.CoreBayJobs
import OvniModel.Lemmas.CoreBayOrder
import OvniModel.Lemmas.CoreBayFresh
import OvniModel.Emu.Emit
import OvniModel.Lemmas.EmitWalk
import OvniModel.Lemmas.EmitReg
import OvniModel.Lemmas.EmitLines
import OvniModel.Lemmas.EmitEmu
import OvniModel.Emu.TaskHook
import OvniModel.Lemmas.TaskHook
import OvniModel.Lemmas.SysRows
import OvniModel.Lemmas.SysEmit
import OvniModel.Lemmas.EmitZero
import OvniModel.Lemmas.TaskCoupleChan
import OvniModel.Lemmas.TaskCoupleSets
import OvniModel.Lemmas.TaskCouple
import OvniModel.Lemmas.EmuBayHist
import OvniModel.Props.C06
import OvniModel.Props.C02Emu
import OvniModel.Emu.HandlerFacts
import OvniModel.Props.Gen

import OvniModel.Json
import OvniModel.Lemmas.JsonBasic
import OvniModel.Lemmas.JsonExt
import OvniModel.Lemmas.JsonFuel
import OvniModel.Lemmas.JsonRoundTrip
import OvniModel.Lemmas.JsonComments
import OvniModel.Lemmas.JsonTop
import OvniModel.Lemmas.JsonGet
import OvniModel.Props.Json
import OvniModel.Emu.MetaJson
import OvniModel.Lemmas.FsJsonCodec

import OvniModel.Emu.PvLines
import OvniModel.Emu.PvText
import OvniModel.Lemmas.PvText
import OvniModel.Lemmas.PvPcf
import OvniModel.Lemmas.PvPcfRt
import OvniModel.Lemmas.PvPcfGrown
import OvniModel.Lemmas.PvRegs
import OvniModel.Props.C13Text
