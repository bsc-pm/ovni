/-
  Model of the metadata merge of the emulator (property C15):

    src/emu/trace.c    trace_load (the relpath sort of the streams)
    src/emu/system.c   system_init: create_system (is_thread_stream, create_loom,
                       create_proc, create_thread), set_sort_criteria, sort_lpt,
                       init_global_lists, init_global_indices, init_end_system,
                       report_libovni_version; the row names of system_connect
    src/emu/loom.c     loom_name, loom_init_begin, loom_load_metadata/load_cpus,
                       loom_find_cpu, loom_get_cpu, loom_add_cpu, loom_set_rank_min,
                       loom_sort, loom_init_end
    src/emu/proc.c     proc_stream_get_pid, proc_init_begin, load_appid, load_rank,
                       proc_add_thread, proc_sort, proc_init_end
    src/emu/thread.c   thread_stream_get_tid, thread_load_metadata
    src/emu/cpu.c      cpu_init_begin, set_name

  Representation.  The C keeps, per loom, a uthash of processes and one of CPUs,
  per process a uthash of threads; uthash iterates in insertion order and
  HASH_SORT / DL_SORT are stable merge sorts.  The model keeps the same data as
  four flat tables in *global insertion order* (`looms`, `procs`, `threads`,
  `cpus`, every row carrying its loom name / pid); "the hash of loom L" is the
  sub-list of rows of L, which is in the same (insertion) order as the C hash.
  `finish` regroups the tables into the loom → process → thread hierarchy the
  way `sort_lpt`/`init_global_lists` walk it.

  Numbers.  JSON numbers are modelled as integers that fit an `int`
  (`(int) json_number(..)` is the identity); a missing numeric key reads as 0
  exactly as `json_object_dotget_number` does.  Strings are byte lists.

  `Mode.fixed` is the code as it is in /repo; `Mode.asIs` is the code before
  ovni's f0b14dc.  They differ in exactly one place: in `.fixed`, `load_cpus` looks
  the index up among the CPUs already in the hash (`find_cpu_by_index`) instead of
  calling `loom_get_cpu`, which indexes the (not yet allocated) `cpus_array`.
-/
namespace Ovni.Emu.System

/-- C strings as lists of byte values (no NUL). -/
abbrev Str := List Nat

/-- Error classes (one per `err(...)` exit that the modelled functions have). -/
inductive Err where
  | noPart            -- is_thread_stream: no ovni.part
  | noLoom            -- loom_name: no ovni.loom
  | loomName          -- loom_init_begin: '/' in the name, or name too long
  | cpusEmpty         -- load_cpus: empty array
  | cpuIndexNeg       -- load_cpus: index < 0
  | cpuIndexMismatch  -- load_cpus: phyid known with another index
  | cpuIndexRedefined -- load_cpus: index known with another phyid
  | cpuPhyidNeg       -- loom_add_cpu: negative phyid
  | pid               -- proc_stream_get_pid
  | appidMismatch     -- load_appid
  | appidNonPos       -- load_appid
  | rankNeg | rankMismatch | nranksMissing | nranksNonPos | nranksMismatch | rankRange -- load_rank
  | tid               -- thread_stream_get_tid
  | dupThread         -- create_thread: thread with tid already exists
  | notFinished       -- thread_load_metadata
  | rankMissing       -- loom_set_rank_min: process has no rank information
  | appidMissing      -- proc_init_end: appid not set
  | rankMinUnset      -- loom_init_end
  | noCpus            -- loom_init_end: loom has no physical CPUs
  | cpuIndexOob       -- loom_init_end: cpu index out of bounds
  | cpuIndexTaken     -- loom_init_end: cpu with index already taken
  | noVersion | noCommit -- report_libovni_version
  deriving DecidableEq, Repr

/-- Result of a modelled C function: returned 0 / returned -1 after `err(..)` /
    the C code would dereference NULL. -/
inductive Res (α : Type) where
  | ok (a : α)
  | error (e : Err)
  | crash
  deriving DecidableEq, Repr

def Res.bind {α β : Type} : Res α → (α → Res β) → Res β
  | .ok a, f => f a
  | .error e, _ => .error e
  | .crash, _ => .crash

inductive Mode where
  | asIs | fixed
  deriving DecidableEq, Repr

/-! ### Input -/

/-- The attributes that belong to the stream (thread) itself. `pid`, `tid`,
    `finished` are 0 when the key is absent (`json_object_dotget_number`). -/
structure ThreadPart where
  relpath : Str
  part : Option Str
  loom : Option Str
  pid : Int
  tid : Int
  finished : Int
  hasVersion : Bool
  hasCommit : Bool
  deriving DecidableEq, Repr

/-- One stream's metadata: the thread part plus the per-process (`appId`,
    `rank`, `nranks`) and per-loom (`cpus` = list of (index, phyid)) attributes
    that this stream happens to carry. -/
structure StreamMeta where
  tp : ThreadPart
  appId : Option Int
  rank : Option Int
  nranks : Option Int
  cpus : Option (List (Int × Int))
  deriving DecidableEq, Repr

def sThread : Str := [116, 104, 114, 101, 97, 100]   -- "thread"
def cSlash : Nat := 47
def pathMax : Nat := 4096
def intMax : Int := 2147483647

/-! ### strcmp and the stable sort -/

/-- `strcmp` on unsigned bytes. -/
def cmpStr : Str → Str → Ordering
  | [], [] => .eq
  | [], _ :: _ => .lt
  | _ :: _, [] => .gt
  | a :: as, b :: bs => if a < b then .lt else if b < a then .gt else cmpStr as bs

def leStr (a b : Str) : Bool := cmpStr a b != .gt

/-- Insert `x` before the first element `y` with `x ≤ y`. -/
def insertBy {α : Type} (le : α → α → Bool) (x : α) : List α → List α
  | [] => [x]
  | y :: ys => if le x y then x :: y :: ys else y :: insertBy le x ys

/-- Stable sort (`DL_SORT`, `HASH_SORT`: stable merge sorts; the result of a
    stable sort is unique, so insertion from the right models it). -/
def sortBy {α : Type} (le : α → α → Bool) : List α → List α
  | [] => []
  | x :: xs => insertBy le x (sortBy le xs)

/-- `trace_load`: streams are sorted by relpath (`cmp_streams`) whatever the
    order in which `nftw` enumerated them. -/
def load (ss : List StreamMeta) : List StreamMeta :=
  sortBy (fun a b => leStr a.tp.relpath b.tp.relpath) ss

/-! ### State built by create_system -/

structure ProcRow where
  loom : Str
  pid : Int
  appid : Int
  rank : Int
  nranks : Int
  deriving DecidableEq, Repr

structure ThreadRow where
  loom : Str
  pid : Int
  tid : Int
  hasVersion : Bool
  hasCommit : Bool
  deriving DecidableEq, Repr

structure CpuRow where
  loom : Str
  index : Int
  phyid : Int
  deriving DecidableEq, Repr

structure Sys where
  looms : List Str
  procs : List ProcRow
  threads : List ThreadRow
  cpus : List CpuRow
  deriving DecidableEq, Repr

def Sys.empty : Sys := ⟨[], [], [], []⟩

/-! ### loom.c: load_cpus -/

/-- `loom->ncpus`. -/
def ncpus (cpus : List CpuRow) (n : Str) : Nat :=
  (cpus.filter (fun c => c.loom = n)).length

/-- `loom_find_cpu` for a physical id (`HASH_FIND_INT`). -/
def findCpu (cpus : List CpuRow) (n : Str) (phyid : Int) : Option CpuRow :=
  cpus.find? (fun c => c.loom = n ∧ c.phyid = phyid)

def findCpuIdx (cpus : List CpuRow) (n : Str) (index : Int) : Option CpuRow :=
  cpus.find? (fun c => c.loom = n ∧ c.index = index)

/-- `loom_get_cpu` as `load_cpus` calls it, i.e. before `loom_init_end`
    allocated `cpus_array` (it is NULL): `ok true` = a CPU was returned,
    `ok false` = NULL returned, `crash` = `loom->cpus_array[index]` is
    evaluated with `cpus_array == NULL`. -/
def getCpuEarly (m : Mode) (cpus : List CpuRow) (n : Str) (index : Int) : Res Bool :=
  match m with
  | .asIs =>
    if index = -1 then .ok true
    else if index < 0 ∨ index ≥ (ncpus cpus n : Int) then .ok false
    else .crash
  | .fixed =>
    if index = -1 then .ok true
    else .ok (findCpuIdx cpus n index).isSome

/-- One iteration of the loop of `load_cpus`. -/
def loadCpuEntry (m : Mode) (n : Str) (cpus : List CpuRow) (e : Int × Int) : Res (List CpuRow) :=
  let index := e.1
  let phyid := e.2
  if index < 0 then .error .cpuIndexNeg
  else if phyid = -1 then
    -- loom_find_cpu returns the virtual CPU, whose index is -1 ≠ index
    .error .cpuIndexMismatch
  else
    match findCpu cpus n phyid with
    | some c => if c.index ≠ index then .error .cpuIndexMismatch else .ok cpus
    | none =>
      match getCpuEarly m cpus n index with
      | .crash => .crash
      | .error e => .error e
      | .ok true => .error .cpuIndexRedefined
      | .ok false =>
        -- cpu_init_begin; loom_add_cpu
        if phyid < 0 then .error .cpuPhyidNeg
        else .ok (cpus ++ [⟨n, index, phyid⟩])

def loadCpuList (m : Mode) (n : Str) : List CpuRow → List (Int × Int) → Res (List CpuRow)
  | cpus, [] => .ok cpus
  | cpus, e :: es =>
    match loadCpuEntry m n cpus e with
    | .ok cpus' => loadCpuList m n cpus' es
    | .error x => .error x
    | .crash => .crash

/-- `load_cpus` / `loom_load_metadata`. -/
def loadCpus (m : Mode) (n : Str) (cpus : List CpuRow) : Option (List (Int × Int)) → Res (List CpuRow)
  | none => .ok cpus
  | some [] => .error .cpusEmpty
  | some (e :: es) => loadCpuList m n cpus (e :: es)

/-! ### proc.c: load_appid, load_rank -/

def loadAppid (p : ProcRow) : Option Int → Res ProcRow
  | none => .ok p
  | some a =>
    if p.appid ≠ 0 ∧ p.appid ≠ a then .error .appidMismatch
    else if a ≤ 0 then .error .appidNonPos
    else .ok { p with appid := a }

def loadRank (p : ProcRow) (rank nranks : Option Int) : Res ProcRow :=
  match rank with
  | none => .ok p
  | some r =>
    if r < 0 then .error .rankNeg
    else if p.rank ≥ 0 ∧ p.rank ≠ r then .error .rankMismatch
    else match nranks with
      | none => .error .nranksMissing
      | some k =>
        if k ≤ 0 then .error .nranksNonPos
        else if p.nranks > 0 ∧ p.nranks ≠ k then .error .nranksMismatch
        else if r ≥ k then .error .rankRange
        else .ok { p with rank := r, nranks := k }

/-- `proc_load_metadata`. -/
def loadProc (p : ProcRow) (s : StreamMeta) : Res ProcRow :=
  (loadAppid p s.appId).bind fun p' => loadRank p' s.rank s.nranks

def isProc (n : Str) (pid : Int) (p : ProcRow) : Prop := p.loom = n ∧ p.pid = pid
instance (n : Str) (pid : Int) (p : ProcRow) : Decidable (isProc n pid p) := by
  unfold isProc; exact inferInstance

/-- `loom_find_proc`. -/
def findProc (procs : List ProcRow) (n : Str) (pid : Int) : Option ProcRow :=
  procs.find? (fun p => isProc n pid p)

def setProc (procs : List ProcRow) (n : Str) (pid : Int) (q : ProcRow) : List ProcRow :=
  procs.map (fun p => if isProc n pid p then q else p)

def isThread (n : Str) (pid tid : Int) (t : ThreadRow) : Prop := t.loom = n ∧ t.pid = pid ∧ t.tid = tid
instance (n : Str) (pid tid : Int) (t : ThreadRow) : Decidable (isThread n pid tid t) := by
  unfold isThread; exact inferInstance

/-! ### system.c: create_system -/

/-- `create_loom`: `loom_name`, `find_loom`, `loom_init_begin`, then
    `loom_load_metadata`. Returns the loom name too. -/
def createLoom (m : Mode) (sys : Sys) (s : StreamMeta) : Res (Str × List Str × List CpuRow) :=
  match s.tp.loom with
  | none => .error .noLoom
  | some n =>
    let looms : Res (List Str) :=
      if n ∈ sys.looms then .ok sys.looms
      else if cSlash ∈ n ∨ n.length ≥ pathMax then .error .loomName
      else .ok (sys.looms ++ [n])
    looms.bind fun ls =>
    (loadCpus m n sys.cpus s.cpus).bind fun cs => .ok (n, ls, cs)

/-- `create_proc`: `proc_stream_get_pid`, `loom_find_proc`, `proc_init_begin` +
    `loom_add_proc` when new, then `proc_load_metadata`. -/
def createProc (procs : List ProcRow) (n : Str) (s : StreamMeta) : Res (List ProcRow) :=
  let pid := s.tp.pid
  if pid ≤ 0 then .error .pid
  else
    let procs' := match findProc procs n pid with
      | some _ => procs
      | none => procs ++ [⟨n, pid, 0, -1, 0⟩]
    match findProc procs' n pid with
    | none => .ok procs'   -- unreachable
    | some p => (loadProc p s).bind fun p' => .ok (setProc procs' n pid p')

/-- `create_thread`: `thread_stream_get_tid`, `proc_find_thread`,
    `thread_load_metadata` (finished flag), `proc_add_thread`. -/
def createThread (threads : List ThreadRow) (n : Str) (s : StreamMeta) : Res (List ThreadRow) :=
  let tid := s.tp.tid
  if tid ≤ 0 then .error .tid
  else if threads.any (fun t => isThread n s.tp.pid tid t) then .error .dupThread
  else if s.tp.finished ≠ 1 then .error .notFinished
  else .ok (threads ++ [⟨n, s.tp.pid, tid, s.tp.hasVersion, s.tp.hasCommit⟩])

/-- Body of the loop of `create_system` for one stream. -/
def step (m : Mode) (sys : Sys) (s : StreamMeta) : Res Sys :=
  match s.tp.part with
  | none => .error .noPart
  | some p =>
    if p ≠ sThread then .ok sys      -- "ignoring unknown stream"
    else
      (createLoom m sys s).bind fun (n, ls, cs) =>
      (createProc sys.procs n s).bind fun ps =>
      (createThread sys.threads n s).bind fun ts =>
      .ok ⟨ls, ps, ts, cs⟩

/-- `create_system`. -/
def createFrom (m : Mode) : Sys → List StreamMeta → Res Sys
  | sys, [] => .ok sys
  | sys, s :: r =>
    match step m sys s with
    | .ok sys' => createFrom m sys' r
    | .error e => .error e
    | .crash => .crash

def create (m : Mode) (l : List StreamMeta) : Res Sys := createFrom m Sys.empty l

/-! ### The sorted hierarchy -/

structure HProc where
  pid : Int
  appid : Int
  rank : Int
  nranks : Int
  threads : List ThreadRow      -- sorted by tid
  deriving DecidableEq, Repr

structure HLoom where
  name : Str
  rankEnabled : Bool
  rankMin : Int
  procs : List HProc            -- sorted by rank or pid
  cpus : List CpuRow            -- sorted by phyid (the virtual CPU is implicit, last)
  deriving DecidableEq, Repr

structure Hier where
  sortByRank : Bool
  looms : List HLoom
  deriving DecidableEq, Repr

def leInt (a b : Int) : Bool := decide (a ≤ b)

/-- `loom_set_rank_min` (rank_enabled, rank_min) for the processes of one loom. -/
def rankMinOf (ps : List ProcRow) : Int :=
  ps.foldl (fun acc p => if p.rank < acc then p.rank else acc) intMax

/-- `proc_sort`. -/
def mkProc (threads : List ThreadRow) (p : ProcRow) : HProc :=
  { pid := p.pid, appid := p.appid, rank := p.rank, nranks := p.nranks,
    threads := sortBy (fun a b => leInt a.tid b.tid)
      (threads.filter (fun t => t.loom = p.loom ∧ t.pid = p.pid)) }

/-- `loom_set_rank_min` followed (later) by `loom_sort` for one loom. -/
def mkLoom (sys : Sys) (n : Str) : Res HLoom :=
  let ps := sys.procs.filter (fun p => p.loom = n)
  let enabled := ps.any (fun p => decide (p.rank ≥ 0))
  if enabled ∧ ps.any (fun p => decide (p.rank < 0)) then .error .rankMissing
  else
    let rmin := if enabled then rankMinOf ps else intMax
    let sorted := if enabled then sortBy (fun a b => leInt a.rank b.rank) ps
                  else sortBy (fun a b => leInt a.pid b.pid) ps
    .ok { name := n, rankEnabled := enabled, rankMin := rmin,
          procs := sorted.map (mkProc sys.threads),
          cpus := sortBy (fun a b => leInt a.phyid b.phyid) (sys.cpus.filter (fun c => c.loom = n)) }

/-- `set_sort_criteria` loop (stops at the first failing loom). -/
def mkLooms (sys : Sys) : List Str → Res (List HLoom)
  | [] => .ok []
  | n :: r =>
    match mkLoom sys n with
    | .ok l => (mkLooms sys r).bind fun ls => .ok (l :: ls)
    | .error e => .error e
    | .crash => .crash

/-- `sort_lpt`: looms by rank_min when every loom has ranks, else by name. -/
def sortLooms (ls : List HLoom) : Bool × List HLoom :=
  let byRank := ls.all (fun l => l.rankEnabled)
  (byRank, if byRank then sortBy (fun a b => leInt a.rankMin b.rankMin) ls
           else sortBy (fun a b => leStr a.name b.name) ls)

/-- Array fill of `loom_init_end`: walk the CPUs (sorted by phyid), `taken` =
    indices already placed in `cpus_array`. -/
def fillArray (n : Nat) : List Int → List CpuRow → Res Unit
  | _, [] => .ok ()
  | taken, c :: cs =>
    if c.index < 0 ∨ c.index ≥ (n : Int) then .error .cpuIndexOob
    else if c.index ∈ taken then .error .cpuIndexTaken
    else fillArray n (c.index :: taken) cs

/-- Body of `init_end_system` for one loom: `proc_init_end` of every process,
    then `loom_init_end`. -/
def initEndLoom (l : HLoom) : Res Unit :=
  if l.procs.any (fun p => decide (p.appid ≤ 0)) then .error .appidMissing
  else if l.rankEnabled ∧ l.rankMin = intMax then .error .rankMinUnset
  else if l.cpus.length = 0 then .error .noCpus
  else fillArray l.cpus.length [] l.cpus

def initEnd : List HLoom → Res Unit
  | [] => .ok ()
  | l :: ls =>
    match initEndLoom l with
    | .ok _ => initEnd ls
    | .error e => .error e
    | .crash => .crash

/-- Threads in global order (`init_global_lists`). -/
def Hier.threads (h : Hier) : List (HProc × ThreadRow) :=
  h.looms.flatMap fun l => l.procs.flatMap fun p => p.threads.map fun t => (p, t)

/-- `report_libovni_version`: every thread must carry lib.version and lib.commit. -/
def reportVersion : List (HProc × ThreadRow) → Res Unit
  | [] => .ok ()
  | (_, t) :: r =>
    if ¬ t.hasVersion then .error .noVersion
    else if ¬ t.hasCommit then .error .noCommit
    else reportVersion r

/-- Everything `system_init` does after `create_system`. -/
def finish (sys : Sys) : Res Hier :=
  (mkLooms sys sys.looms).bind fun ls =>
  let (byRank, sorted) := sortLooms ls
  let h : Hier := ⟨byRank, sorted⟩
  (initEnd sorted).bind fun _ =>
  (reportVersion h.threads).bind fun _ => .ok h

/-- `trace_load` + `system_init` for a set of streams given in any
    enumeration order. -/
def build (m : Mode) (ss : List StreamMeta) : Res Hier :=
  (create m (load ss)).bind finish

/-! ### Rows (system_connect) -/

/-- Rows of `thread.prv`: row `i+1` is named `"TH <appid>.<tid>"`. -/
def Hier.threadRows (h : Hier) : List (Int × Int) :=
  h.threads.map fun (p, t) => (p.appid, t.tid)

def loomCpuRows (i : Nat) (l : HLoom) : List (Nat × Option Int) :=
  l.cpus.map (fun c => (i, some c.phyid)) ++ [(i, none)]

def cpuRowsFrom : Nat → List HLoom → List (Nat × Option Int)
  | _, [] => []
  | i, l :: ls => loomCpuRows i l ++ cpuRowsFrom (i + 1) ls

/-- Rows of `cpu.prv`: `(i, some phyid)` is `" CPU i.phyid"`, `(i, none)` is the
    virtual CPU `"vCPU i.*"` of loom number `i` (the loom's gindex). -/
def Hier.cpuRows (h : Hier) : List (Nat × Option Int) := cpuRowsFrom 0 h.looms

/-- The `ok` part of an outcome. -/
def Res.okPart {α : Type} : Res α → Option α
  | .ok a => some a
  | _ => none

end Ovni.Emu.System
