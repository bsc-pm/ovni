import OvniModel.Emu.BaySpec
import OvniModel.Lemmas.ListLemmas
import OvniModel.Lemmas.Chan

/- Frame lemmas of the bay primitives and of the two mux callbacks, `Bay.WF` kept by them, the loop
   rules of `propChan` / `dirtyPhase`; the four parts of `Bay.Layered`. -/
namespace Ovni.Emu

theorem Bay.chan_of_getElem? {b : Bay} {c : Nat} {ch : Chan} (h : b.chans[c]? = some ch) : b.chan c = ch :=
  getD_of_getElem? _ h

theorem Bay.getElem?_chan {b : Bay} {c : Nat} (h : c < b.chans.length) : b.chans[c]? = some (b.chan c) := by
  simp [Bay.chan, List.getD_eq_getElem?_getD, List.getElem?_eq_getElem h]

theorem Bay.write_ok {b b' : Bay} {c : Nat} {f : Chan → Except Err Chan} (h : b.write c f = .ok b') :
    ∃ ch', c < b.chans.length ∧ f (b.chan c) = .ok ch' ∧
      b' = { b with chans := b.chans.set c ch',
                    dirty := if !(b.chan c).dirty && ch'.dirty then b.dirty ++ [c] else b.dirty } := by
  unfold Bay.write at h
  split at h
  · cases h
  · rename_i ch hch
    cases Bay.chan_of_getElem? hch
    split at h
    · cases h
    · rename_i ch' hf
      injection h with h
      exact ⟨ch', (List.getElem?_eq_some_iff.mp hch).1, hf, h.symm⟩

theorem Bay.write1 {b : Bay} {c : Nat} {ch ch' : Chan} {f : Chan → Except Err Chan}
    (hc : b.chans[c]? = some ch) (hfc : f ch = .ok ch') :
    ∃ b1, b.write c f = .ok b1 ∧ b1.chans[c]? = some ch' ∧ ∀ c', c' ≠ c → b1.chans[c']? = b.chans[c']? := by
  have hlt : c < b.chans.length := (List.getElem?_eq_some_iff.mp hc).1
  refine ⟨{ b with chans := b.chans.set c ch',
                    dirty := if !ch.dirty && ch'.dirty then b.dirty ++ [c] else b.dirty }, ?_, ?_, ?_⟩
  · unfold Bay.write; rw [hc]; simp only [hfc]
  · simp [hlt]
  · intro c' hne; simp [List.getElem?_set_ne (Ne.symm hne)]

theorem Bay.write_muxes {b b' : Bay} {c f} (h : b.write c f = .ok b') : b'.muxes = b.muxes := by
  obtain ⟨_, _, _, rfl⟩ := Bay.write_ok h; rfl
theorem Bay.write_cbs {b b' : Bay} {c f} (h : b.write c f = .ok b') : b'.cbs = b.cbs := by
  obtain ⟨_, _, _, rfl⟩ := Bay.write_ok h; rfl
theorem Bay.write_selected {b b' : Bay} {c f} (h : b.write c f = .ok b') : b'.selected = b.selected := by
  obtain ⟨_, _, _, rfl⟩ := Bay.write_ok h; rfl
theorem Bay.write_emits {b b' : Bay} {c f} (h : b.write c f = .ok b') : b'.emits = b.emits := by
  obtain ⟨_, _, _, rfl⟩ := Bay.write_ok h; rfl
theorem Bay.write_maxStack {b b' : Bay} {c f} (h : b.write c f = .ok b') : b'.maxStack = b.maxStack := by
  obtain ⟨_, _, _, rfl⟩ := Bay.write_ok h; rfl
theorem Bay.write_length {b b' : Bay} {c f} (h : b.write c f = .ok b') : b'.chans.length = b.chans.length := by
  obtain ⟨_, _, _, rfl⟩ := Bay.write_ok h; simp

theorem Bay.write_chan_ne {b b' : Bay} {c f} (h : b.write c f = .ok b') {c' : Nat} (hc : c' ≠ c) :
    b'.chan c' = b.chan c' := by
  obtain ⟨_, _, _, rfl⟩ := Bay.write_ok h
  simp only [Bay.chan]
  exact getD_set_ne _ _ _ _ _ (Ne.symm hc)

theorem Bay.write_chan_eq {b b' : Bay} {c f} (h : b.write c f = .ok b') :
    f (b.chan c) = .ok (b'.chan c) ∧ c < b.chans.length := by
  obtain ⟨ch', hlt, hf, rfl⟩ := Bay.write_ok h
  exact ⟨hf.trans (congrArg _ (getD_set_eq _ _ _ _ hlt).symm), hlt⟩

theorem Bay.write_dirty {b b' : Bay} {c f} (h : b.write c f = .ok b') :
    b'.dirty = if !(b.chan c).dirty && (b'.chan c).dirty then b.dirty ++ [c] else b.dirty := by
  obtain ⟨ch', hlt, _, rfl⟩ := Bay.write_ok h
  simp only [Bay.chan, getD_set_eq _ _ _ _ hlt]; rfl

theorem Bay.enableCb_eq (b : Bay) (c : Nat) (cb : Cb) :
    b.enableCb c cb = { b with cbs := (b.enableCb c cb).cbs } := by
  unfold Bay.enableCb; split <;> rfl

@[simp] theorem Bay.enableCb_chans (b : Bay) (c cb) : (b.enableCb c cb).chans = b.chans := by
  rw [Bay.enableCb_eq]
@[simp] theorem Bay.enableCb_muxes (b : Bay) (c cb) : (b.enableCb c cb).muxes = b.muxes := by
  rw [Bay.enableCb_eq]
@[simp] theorem Bay.enableCb_selected (b : Bay) (c cb) : (b.enableCb c cb).selected = b.selected := by
  rw [Bay.enableCb_eq]
@[simp] theorem Bay.enableCb_dirty (b : Bay) (c cb) : (b.enableCb c cb).dirty = b.dirty := by
  rw [Bay.enableCb_eq]
@[simp] theorem Bay.enableCb_emits (b : Bay) (c cb) : (b.enableCb c cb).emits = b.emits := by
  rw [Bay.enableCb_eq]
@[simp] theorem Bay.enableCb_maxStack (b : Bay) (c cb) : (b.enableCb c cb).maxStack = b.maxStack := by
  rw [Bay.enableCb_eq]
@[simp] theorem Bay.enableCb_cbs_length (b : Bay) (c cb) : (b.enableCb c cb).cbs.length = b.cbs.length := by
  unfold Bay.enableCb; split <;> simp
@[simp] theorem Bay.enableCb_chan (b : Bay) (c cb c') : (b.enableCb c cb).chan c' = b.chan c' := by
  simp [Bay.chan]
@[simp] theorem Bay.enableCb_selOf (b : Bay) (c cb mi) : (b.enableCb c cb).selOf mi = b.selOf mi := by
  simp [Bay.selOf]

theorem Bay.enableCb_cbsOf_ne (b : Bay) {c c' : Nat} (cb) (h : c' ≠ c) :
    (b.enableCb c cb).cbsOf c' = b.cbsOf c' := by
  unfold Bay.enableCb; split
  · rfl
  · simp only [Bay.cbsOf]; exact getD_set_ne _ _ _ _ _ (Ne.symm h)

theorem Bay.enableCb_cbsOf_eq (b : Bay) {c : Nat} (cb) (h : c < b.cbs.length) :
    (b.enableCb c cb).cbsOf c = if cb ∈ b.cbsOf c then b.cbsOf c else b.cbsOf c ++ [cb] := by
  unfold Bay.enableCb; split
  · rfl
  · simp only [Bay.cbsOf]; exact getD_set_eq _ _ _ _ h

theorem Bay.mem_enableCb (b : Bay) {c c' : Nat} (cb cb') (h : c < b.cbs.length) :
    cb' ∈ (b.enableCb c cb).cbsOf c' ↔ cb' ∈ b.cbsOf c' ∨ (c' = c ∧ cb' = cb) := by
  by_cases hc : c' = c
  · subst hc
    rw [Bay.enableCb_cbsOf_eq b cb h]
    split
    · constructor
      · exact Or.inl
      · rintro (h1 | ⟨_, rfl⟩)
        · exact h1
        · assumption
    · simp
  · rw [Bay.enableCb_cbsOf_ne b cb hc]; simp [hc]

@[simp] theorem Bay.disableCb_chans (b : Bay) (c cb) : (b.disableCb c cb).chans = b.chans := rfl
@[simp] theorem Bay.disableCb_muxes (b : Bay) (c cb) : (b.disableCb c cb).muxes = b.muxes := rfl
@[simp] theorem Bay.disableCb_selected (b : Bay) (c cb) : (b.disableCb c cb).selected = b.selected := rfl
@[simp] theorem Bay.disableCb_dirty (b : Bay) (c cb) : (b.disableCb c cb).dirty = b.dirty := rfl
@[simp] theorem Bay.disableCb_emits (b : Bay) (c cb) : (b.disableCb c cb).emits = b.emits := rfl
@[simp] theorem Bay.disableCb_maxStack (b : Bay) (c cb) : (b.disableCb c cb).maxStack = b.maxStack := rfl
@[simp] theorem Bay.disableCb_cbs_length (b : Bay) (c cb) : (b.disableCb c cb).cbs.length = b.cbs.length := by
  simp [Bay.disableCb]
@[simp] theorem Bay.disableCb_chan (b : Bay) (c cb c') : (b.disableCb c cb).chan c' = b.chan c' := rfl
@[simp] theorem Bay.disableCb_selOf (b : Bay) (c cb mi) : (b.disableCb c cb).selOf mi = b.selOf mi := rfl

theorem Bay.disableCb_cbsOf_ne (b : Bay) {c c' : Nat} (cb) (h : c' ≠ c) :
    (b.disableCb c cb).cbsOf c' = b.cbsOf c' := by
  simp only [Bay.disableCb, Bay.cbsOf]; exact getD_set_ne _ _ _ _ _ (Ne.symm h)

theorem Bay.disableCb_cbsOf_eq (b : Bay) (c : Nat) (cb) :
    (b.disableCb c cb).cbsOf c = (b.cbsOf c).erase cb := by
  simp only [Bay.disableCb, Bay.cbsOf]
  rcases Nat.lt_or_ge c b.cbs.length with h | h
  · exact getD_set_eq _ _ _ _ h
  · simp [List.set_eq_of_length_le h, List.getD_eq_getElem?_getD, List.getElem?_eq_none h]

@[simp] theorem Bay.setSelected_chans (b : Bay) (mi s) : (b.setSelected mi s).chans = b.chans := rfl
@[simp] theorem Bay.setSelected_muxes (b : Bay) (mi s) : (b.setSelected mi s).muxes = b.muxes := rfl
@[simp] theorem Bay.setSelected_cbs (b : Bay) (mi s) : (b.setSelected mi s).cbs = b.cbs := rfl
@[simp] theorem Bay.setSelected_dirty (b : Bay) (mi s) : (b.setSelected mi s).dirty = b.dirty := rfl
@[simp] theorem Bay.setSelected_emits (b : Bay) (mi s) : (b.setSelected mi s).emits = b.emits := rfl
@[simp] theorem Bay.setSelected_maxStack (b : Bay) (mi s) : (b.setSelected mi s).maxStack = b.maxStack := rfl
@[simp] theorem Bay.setSelected_chan (b : Bay) (mi s c) : (b.setSelected mi s).chan c = b.chan c := rfl
@[simp] theorem Bay.setSelected_cbsOf (b : Bay) (mi s c) : (b.setSelected mi s).cbsOf c = b.cbsOf c := rfl
@[simp] theorem Bay.setSelected_length (b : Bay) (mi s) :
    (b.setSelected mi s).selected.length = b.selected.length := by simp [Bay.setSelected]
theorem Bay.setSelected_selOf_eq (b : Bay) {mi : Nat} (s) (h : mi < b.selected.length) :
    (b.setSelected mi s).selOf mi = s := by
  simp only [Bay.setSelected, Bay.selOf]; exact getD_set_eq _ _ _ _ h
theorem Bay.setSelected_selOf_ne (b : Bay) {mi mj : Nat} (s) (h : mj ≠ mi) :
    (b.setSelected mi s).selOf mj = b.selOf mj := by
  simp only [Bay.setSelected, Bay.selOf]; exact getD_set_ne _ _ _ _ _ (Ne.symm h)


theorem ChanOp.of_vals {f : Chan → Except Err Chan}
    (h : ∀ ch ch', f ch = .ok ch' → ch' = ch ∨ ∃ vs, ch' = { ch with vals := vs, dirty := true }) :
    ChanOp f := by
  intro ch ch' hf
  rcases h ch ch' hf with rfl | ⟨vs, rfl⟩
  · exact ⟨Or.inl rfl, rfl, rfl, rfl, rfl⟩
  · exact ⟨Or.inr rfl, rfl, rfl, rfl, rfl⟩

theorem chanOp_set (v : Value) : ChanOp (·.set v) :=
  .of_vals fun _ _ h => (Chan.set_ok h).imp (·.2.2) (⟨_, ·.1⟩)

theorem chanOp_push (n : Nat) (v : Value) : ChanOp (Chan.push n · v) :=
  .of_vals fun _ _ h => (Chan.push_ok h).imp id (⟨_, ·⟩)

theorem chanOp_pop (v : Value) : ChanOp (·.pop v) :=
  .of_vals fun _ _ h => Or.inr ⟨_, Chan.pop_ok h⟩

theorem chanOp_pure : ChanOp (pure : Chan → Except Err Chan) := by
  intro ch ch' h
  cases h
  exact ⟨Or.inl rfl, rfl, rfl, rfl, rfl⟩

theorem ChanOp.comp {f g : Chan → Except Err Chan} (hf : ChanOp f) (hg : ChanOp g) :
    ChanOp fun c => f c >>= g := by
  intro ch ch' h
  obtain ⟨c1, h1, h2⟩ := bind_ok h
  obtain ⟨a, a1, a2, a3, a4⟩ := hf ch c1 h1
  obtain ⟨b, b1, b2, b3, b4⟩ := hg c1 ch' h2
  refine ⟨?_, b1.trans a1, b2.trans a2, b3.trans a3, b4.trans a4⟩
  rcases b with rfl | b
  · exact a
  · exact .inr b

theorem Bay.cbsOf_congr {b b' : Bay} (h : b'.cbs = b.cbs) (c : Nat) : b'.cbsOf c = b.cbsOf c := by
  simp [Bay.cbsOf, h]

theorem Bay.selOf_congr {b b' : Bay} (h : b'.selected = b.selected) (mi : Nat) : b'.selOf mi = b.selOf mi := by
  simp [Bay.selOf, h]

/-- The per-mux fields of `WF`, so that a step that touches no mux list can carry them over in one go. -/
def Bay.MuxOk (b : Bay) (mi : Nat) (m : Mux) : Prop :=
  m.sel < b.chans.length ∧ m.out < b.chans.length ∧
  (∀ (i c : Nat), m.inputs[i]? = some (some c) → c < b.chans.length ∧ c ≠ m.sel) ∧
  (b.chan m.out).allowDup = true ∧ Cb.muxSelect mi ∈ b.cbsOf m.sel

theorem Bay.WF.muxOk {b : Bay} (wf : b.WF) {mi : Nat} {m : Mux} (h : b.muxes[mi]? = some m) :
    b.MuxOk mi m :=
  ⟨wf.selLt mi m h, wf.outLt mi m h, fun i c hi => ⟨wf.inLt mi m i c h hi, fun e => wf.selNotIn mi m i h (e ▸ hi)⟩,
    wf.outDup mi m h, wf.selCb mi m h⟩

theorem Bay.WF.of_muxOk {b : Bay} (cbsLen : b.cbs.length = b.chans.length)
    (selLen : b.selected.length = b.muxes.length)
    (mux : ∀ (mi : Nat) (m : Mux), b.muxes[mi]? = some m → b.MuxOk mi m)
    (selCbOnly : ∀ (c mi : Nat), Cb.muxSelect mi ∈ b.cbsOf c → ∃ m, b.muxes[mi]? = some m ∧ m.sel = c)
    (inCbOnly : ∀ (c mi i : Nat), Cb.muxInput mi i ∈ b.cbsOf c →
      ∃ m, b.muxes[mi]? = some m ∧ m.inputs[i]? = some (some c))
    (cbsNodup : ∀ c, (b.cbsOf c).Nodup) (dirtyNodup : b.dirty.Nodup)
    (dirtyIff : ∀ c, c ∈ b.dirty ↔ (b.chan c).dirty = true) : b.WF :=
  ⟨cbsLen, selLen, fun mi m h => (mux mi m h).1, fun mi m h => (mux mi m h).2.1,
    fun mi m i c h hi => ((mux mi m h).2.2.1 i c hi).1, fun mi m i h hi => ((mux mi m h).2.2.1 i _ hi).2 rfl,
    fun mi m h => (mux mi m h).2.2.2.1, fun mi m h => (mux mi m h).2.2.2.2,
    selCbOnly, inCbOnly, cbsNodup, dirtyNodup, dirtyIff⟩

theorem Bay.WF.write {b b' : Bay} {c : Nat} {f} (wf : b.WF) (hf : ChanOp f) (h : b.write c f = .ok b') :
    b'.WF := by
  have hm := Bay.write_muxes h
  have hs := Bay.write_selected h
  have hl := Bay.write_length h
  have hcb : ∀ c, b'.cbsOf c = b.cbsOf c := Bay.cbsOf_congr (Bay.write_cbs h)
  have hop := hf _ _ (Bay.write_chan_eq h).1
  have hd := Bay.write_dirty h
  refine .of_muxOk (by rw [Bay.write_cbs h, hl]; exact wf.cbsLen) (by rw [hs, hm]; exact wf.selLen) ?_
    (fun c' mi h1 => by rw [hcb] at h1; rw [hm]; exact wf.selCbOnly c' mi h1)
    (fun c' mi i h1 => by rw [hcb] at h1; rw [hm]; exact wf.inCbOnly c' mi i h1)
    (fun c' => by rw [hcb]; exact wf.cbsNodup c') ?_ ?_
  · intro mi m h1
    rw [hm] at h1
    obtain ⟨g1, g2, g3, g4, g5⟩ := wf.muxOk h1
    refine ⟨by rw [hl]; exact g1, by rw [hl]; exact g2, fun i c' hi => by rw [hl]; exact g3 i c' hi, ?_,
      by rw [hcb]; exact g5⟩
    -- a `ChanOp` keeps the flags, so the output stays ALLOW_DUP
    by_cases hco : m.out = c
    · rw [hco, hop.2.1, ← hco]; exact g4
    · rw [Bay.write_chan_ne h hco]; exact g4
  · rw [hd]; split
    · rename_i hb
      have : (b.chan c).dirty = false := by
        cases hx : (b.chan c).dirty <;> simp [hx] at hb ⊢
      have hn : c ∉ b.dirty := by
        intro hmem; rw [wf.dirtyIff] at hmem; simp [this] at hmem
      exact List.nodup_append.mpr ⟨wf.dirtyNodup, (by simp),
        by intro a ha b' hb' ; simp at hb'; subst hb'; intro e; subst e; exact hn ha⟩
    · exact wf.dirtyNodup
  · intro c'
    by_cases hcc : c' = c
    · subst hcc
      rw [hd]
      rcases hop.1 with he | hdt
      · rw [he]; simp; exact wf.dirtyIff c'
      · rw [hdt]
        cases hx : (b.chan c').dirty
        · simp
        · simp; exact (wf.dirtyIff c').mpr hx
    · rw [Bay.write_chan_ne h hcc, hd]
      split
      · simp [hcc]; exact wf.dirtyIff c'
      · exact wf.dirtyIff c'


theorem Bay.cbInput_ok {b b' : Bay} {mi i : Nat} (h : b.cbInput mi i = .ok b') :
    ∃ m ic, b.muxes[mi]? = some m ∧ m.inputs[i]? = some (some ic) ∧
      b.write m.out (·.set (b.chan ic).cur) = .ok b' := by
  unfold Bay.cbInput at h
  split at h
  · cases h
  · rename_i m hm
    split at h
    · rename_i ic hic
      exact ⟨m, ic, hm, hic, h⟩
    · cases h

/-- The `cb_input` callback of input `o` of mux `mi`, with the channel whose list it is on. -/
def Mux.inputCb (m : Mux) (mi : Nat) : Option Nat → Option (Nat × Cb)
  | some i =>
    match m.inputs[i]? with
    | some (some c) => some (c, .muxInput mi i)
    | _ => none
  | none => none

theorem Mux.inputCb_eq_some {m : Mux} {mi : Nat} {o : Option Nat} {c : Nat} {cb : Cb} :
    m.inputCb mi o = some (c, cb) ↔
      ∃ i, o = some i ∧ cb = .muxInput mi i ∧ m.inputs[i]? = some (some c) := by
  constructor
  · intro h
    cases o with
    | none => cases h
    | some i =>
      simp only [Mux.inputCb] at h
      split at h
      · rename_i c' hc'; cases h; exact ⟨i, rfl, rfl, hc'⟩
      · cases h
  · rintro ⟨i, rfl, rfl, h⟩
    simp only [Mux.inputCb, h]

theorem Mux.inputCb_eq_none {m : Mux} {mi : Nat} {o : Option Nat}
    (h : ∀ i, o = some i → ∃ ic, m.inputs[i]? = some (some ic)) (hn : m.inputCb mi o = none) : o = none := by
  cases o with
  | none => rfl
  | some i => obtain ⟨ic, hic⟩ := h i rfl; simp [Mux.inputCb, hic] at hn

theorem Bay.mem_disableCb (b : Bay) (ic c : Nat) (cb cb' : Cb) (hnd : (b.cbsOf c).Nodup) :
    cb' ∈ (b.disableCb ic cb).cbsOf c ↔ cb' ∈ b.cbsOf c ∧ ¬(c = ic ∧ cb' = cb) := by
  by_cases hc : c = ic
  · subst hc
    rw [Bay.disableCb_cbsOf_eq, hnd.mem_erase_iff]
    constructor
    · rintro ⟨h1, h2⟩; exact ⟨h2, fun h => h1 h.2⟩
    · rintro ⟨h1, h2⟩; exact ⟨fun h => h2 ⟨rfl, h⟩, h1⟩
  · rw [Bay.disableCb_cbsOf_ne b cb hc]; simp [hc]

theorem Bay.enableCb_nodup (b : Bay) (c c' : Nat) (cb : Cb) (h : (b.cbsOf c').Nodup) :
    ((b.enableCb c cb).cbsOf c').Nodup := by
  unfold Bay.enableCb
  split
  · exact h
  · rename_i hn
    by_cases hc : c' = c
    · subst hc
      rcases Nat.lt_or_ge c' b.cbs.length with hl | hl
      · simp only [Bay.cbsOf] at hn h ⊢
        rw [getD_set_eq _ _ _ _ hl]
        exact List.nodup_append.mpr ⟨h, by simp, by
          intro a ha b' hb'; simp at hb'; subst hb'; intro e; subst e; exact hn ha⟩
      · simp only [Bay.cbsOf, List.set_eq_of_length_le hl] at h ⊢; exact h
    · simp only [Bay.cbsOf] at h ⊢
      rw [getD_set_ne _ _ _ _ _ (Ne.symm hc)]; exact h

theorem Bay.disableCb_nodup (b : Bay) (c c' : Nat) (cb : Cb) (h : (b.cbsOf c').Nodup) :
    ((b.disableCb c cb).cbsOf c').Nodup := by
  by_cases hc : c' = c
  · subst hc; rw [Bay.disableCb_cbsOf_eq]; exact h.erase cb
  · rw [Bay.disableCb_cbsOf_ne b cb hc]; exact h

/-- The bookkeeping of `cb_select`, on callbacks given with their channels: `old` is disabled,
    `new` enabled, `selected` of `mi` becomes `s`.  What it does holds for any `old` and `new`. -/
def Bay.reroute (b : Bay) (mi : Nat) (old new : Option (Nat × Cb)) (s : Option Nat) : Bay :=
  let b1 := match old with
    | some (c, cb) => (b.disableCb c cb).setSelected mi none
    | none => b
  match new with
  | some (c, cb) => (b1.enableCb c cb).setSelected mi s
  | none => b1

theorem Bay.reroute_fields (b : Bay) (mi : Nat) (old new : Option (Nat × Cb)) (s : Option Nat) :
    (b.reroute mi old new s).chans = b.chans ∧ (b.reroute mi old new s).muxes = b.muxes ∧
    (b.reroute mi old new s).dirty = b.dirty ∧ (b.reroute mi old new s).cbs.length = b.cbs.length ∧
    (b.reroute mi old new s).selected.length = b.selected.length := by
  cases old <;> cases new <;> simp [Bay.reroute]

theorem Bay.reroute_chan (b : Bay) (mi : Nat) (old new : Option (Nat × Cb)) (s : Option Nat) (c : Nat) :
    (b.reroute mi old new s).chan c = b.chan c := by
  simp [Bay.chan, (Bay.reroute_fields b mi old new s).1]

theorem Bay.reroute_selOf_ne (b : Bay) (mi : Nat) (old new : Option (Nat × Cb)) (s : Option Nat) {mj : Nat}
    (h : mj ≠ mi) : (b.reroute mi old new s).selOf mj = b.selOf mj := by
  cases old <;> cases new <;> simp [Bay.reroute, Bay.setSelected_selOf_ne _ _ h]

theorem Bay.reroute_selOf_eq (b : Bay) {mi : Nat} {old new : Option (Nat × Cb)} {s : Option Nat}
    (hlt : mi < b.selected.length) (ho : old = none → b.selOf mi = none) (hn : new = none → s = none) :
    (b.reroute mi old new s).selOf mi = s := by
  cases new with
  | some p => cases old <;> exact Bay.setSelected_selOf_eq _ _ (by simpa using hlt)
  | none =>
    rw [hn rfl]
    cases old with
    | none => exact ho rfl
    | some q => exact Bay.setSelected_selOf_eq _ _ (by simpa using hlt)

theorem Bay.mem_reroute (b : Bay) (mi : Nat) {old new : Option (Nat × Cb)} (s : Option Nat) {c : Nat} (cb : Cb)
    (hnd : (b.cbsOf c).Nodup) (hlt : ∀ p, new = some p → p.1 < b.cbs.length) :
    cb ∈ (b.reroute mi old new s).cbsOf c ↔ (cb ∈ b.cbsOf c ∧ old ≠ some (c, cb)) ∨ new = some (c, cb) := by
  rcases old with _ | ⟨oc, ocb⟩ <;> rcases new with _ | ⟨nc, ncb⟩
  · simp [Bay.reroute]
  · simp [Bay.reroute, Bay.mem_enableCb _ _ _ (hlt _ rfl), eq_comm]
  · simp [Bay.reroute, Bay.mem_disableCb _ _ _ _ _ hnd, eq_comm]
  · have := hlt _ rfl
    simp [Bay.reroute, Bay.mem_enableCb, Bay.mem_disableCb _ _ _ _ _ hnd, this, eq_comm]

theorem Bay.reroute_nodup (b : Bay) (mi : Nat) (old new : Option (Nat × Cb)) (s : Option Nat) (c : Nat)
    (h : (b.cbsOf c).Nodup) : ((b.reroute mi old new s).cbsOf c).Nodup := by
  rcases old with _ | q <;> rcases new with _ | p <;> simp only [Bay.reroute, Bay.setSelected_cbsOf]
  · exact h
  · exact Bay.enableCb_nodup _ _ _ _ h
  · exact Bay.disableCb_nodup _ _ _ _ h
  · exact Bay.enableCb_nodup _ _ _ _ (Bay.disableCb_nodup _ _ _ _ h)

theorem Bay.reroute_cbsOf_other (b : Bay) (mi : Nat) {old new : Option (Nat × Cb)} (s : Option Nat) {c : Nat}
    (ho : ∀ p, old = some p → c ≠ p.1) (hn : ∀ p, new = some p → c ≠ p.1) :
    (b.reroute mi old new s).cbsOf c = b.cbsOf c := by
  rcases old with _ | q <;> rcases new with _ | p
  · rfl
  · simp [Bay.reroute, Bay.enableCb_cbsOf_ne _ _ (hn p rfl)]
  · simp [Bay.reroute, Bay.disableCb_cbsOf_ne _ _ (ho q rfl)]
  · simp [Bay.reroute, Bay.enableCb_cbsOf_ne _ _ (hn p rfl), Bay.disableCb_cbsOf_ne _ _ (ho q rfl)]

abbrev Bay.reselect (b : Bay) (mi : Nat) (m : Mux) (s : Option Nat) : Bay :=
  b.reroute mi (m.inputCb mi (b.selOf mi)) (m.inputCb mi s) s

theorem Bay.mem_reselect {b : Bay} {mi : Nat} {m : Mux} (wf : b.WF) (hm : b.muxes[mi]? = some m)
    (s : Option Nat) (c : Nat) (cb : Cb) :
    cb ∈ (b.reselect mi m s).cbsOf c ↔
      (cb ∈ b.cbsOf c ∧
        ¬ (∃ j, b.selOf mi = some j ∧ cb = .muxInput mi j ∧ m.inputs[j]? = some (some c))) ∨
      (∃ i, s = some i ∧ cb = .muxInput mi i ∧ m.inputs[i]? = some (some c)) := by
  simp only [← Mux.inputCb_eq_some]
  refine Bay.mem_reroute b mi s cb (wf.cbsNodup c) fun p hp => ?_
  have ⟨_, _, _, hi⟩ := Mux.inputCb_eq_some.mp hp
  exact wf.cbsLen ▸ wf.inLt mi m _ _ hm hi

theorem Bay.reselect_selOf_eq (b : Bay) (mi : Nat) (m : Mux) (s : Option Nat) (hlt : mi < b.selected.length)
    (hj : ∀ j, b.selOf mi = some j → ∃ ic, m.inputs[j]? = some (some ic))
    (hi : ∀ i, s = some i → ∃ ic, m.inputs[i]? = some (some ic)) :
    (b.reselect mi m s).selOf mi = s :=
  Bay.reroute_selOf_eq b hlt (Mux.inputCb_eq_none hj) (Mux.inputCb_eq_none hi)

theorem Bay.reselect_cbsOf_other (b : Bay) (mi : Nat) (m : Mux) (s : Option Nat) (c : Nat)
    (hc : ∀ i : Nat, m.inputs[i]? ≠ some (some c)) : (b.reselect mi m s).cbsOf c = b.cbsOf c := by
  have hne : ∀ o p, m.inputCb mi o = some p → c ≠ p.1 := by
    rintro o ⟨c', cb⟩ hp rfl
    obtain ⟨i, _, _, h⟩ := Mux.inputCb_eq_some.mp hp
    exact hc i h
  exact Bay.reroute_cbsOf_other b mi s (hne _) (hne _)

theorem Bay.clearSelected_ok {b b1 : Bay} {mi : Nat} {m : Mux} (h : b.clearSelected mi m = .ok b1) :
    (∀ j, b.selOf mi = some j → ∃ ic, m.inputs[j]? = some (some ic)) ∧ b1 = b.reselect mi m none := by
  unfold Bay.clearSelected at h
  unfold Bay.reselect Bay.reroute
  split at h
  · rename_i hn; cases h
    exact ⟨fun j hj => (by rw [hn] at hj; cases hj), by simp only [hn, Mux.inputCb]⟩
  · rename_i j hj
    split at h
    · rename_i ic hic; cases h
      exact ⟨fun j' hj' => (by rw [hj] at hj'; cases hj'; exact ⟨ic, hic⟩), by simp only [hj, Mux.inputCb, hic]⟩
    · cases h

theorem Bay.reselect_some (b : Bay) (mi : Nat) {m : Mux} {i ic : Nat} (hic : m.inputs[i]? = some (some ic)) :
    b.reselect mi m (some i) =
      ((b.reselect mi m none).enableCb ic (.muxInput mi i)).setSelected mi (some i) := by
  simp only [Bay.reselect, Bay.reroute, Mux.inputCb, hic]

/-- `cb_select` in normal form: the select function is asked, the callbacks are re-routed
    (`reselect`), then `specVal`, read before the re-routing, is written to the output. -/
theorem Bay.cbSelect_ok {b b' : Bay} {mi : Nat} (h : b.cbSelect mi = .ok b') :
    ∃ m s, b.muxes[mi]? = some m ∧ m.selectInput (b.chan m.sel).cur = .ok s ∧
      (∀ j, b.selOf mi = some j → ∃ ic, m.inputs[j]? = some (some ic)) ∧
      (∀ i, s = some i → ∃ ic, m.inputs[i]? = some (some ic)) ∧
      (b.reselect mi m s).write m.out (·.set (b.specVal m s)) = .ok b' := by
  unfold Bay.cbSelect at h
  split at h
  · cases h
  · rename_i m hm
    simp only at h
    split at h
    · cases h
    · rename_i b1 hb1
      obtain ⟨hj, rfl⟩ := Bay.clearSelected_ok hb1
      split at h
      · cases h
      · rename_i hsel
        exact ⟨m, none, hm, hsel, hj, fun _ e => (nomatch e), h⟩
      · rename_i i hsel
        split at h
        · rename_i ic hic
          refine ⟨m, some i, hm, hsel, hj, fun i' e => (by cases e; exact ⟨ic, hic⟩), ?_⟩
          rw [Bay.reselect_some b mi hic]
          simpa only [Bay.specVal, hic, Bay.setSelected_chan, Bay.enableCb_chan, Bay.reroute_chan] using h
        · cases h

theorem Bay.cbSelect_eq {b : Bay} {mi : Nat} {m : Mux} {s : Option Nat} (hm : b.muxes[mi]? = some m)
    (hsel : m.selectInput (b.chan m.sel).cur = .ok s)
    (hj : ∀ j, b.selOf mi = some j → ∃ ic, m.inputs[j]? = some (some ic))
    (hi : ∀ i, s = some i → ∃ ic, m.inputs[i]? = some (some ic)) :
    b.cbSelect mi = (b.reselect mi m s).write m.out (·.set (b.specVal m s)) := by
  have hclear : b.clearSelected mi m = .ok (b.reselect mi m none) := by
    unfold Bay.clearSelected Bay.reselect Bay.reroute
    cases hso : b.selOf mi with
    | none => rfl
    | some j => obtain ⟨icj, hicj⟩ := hj j hso; simp only [Mux.inputCb, hicj]
  simp only [Bay.cbSelect, hm, hclear, hsel]
  cases s with
  | none => rfl
  | some i =>
    obtain ⟨ic, hic⟩ := hi i rfl
    simp only [hic, Bay.reselect_some b mi hic, Bay.specVal, Bay.setSelected_chan, Bay.enableCb_chan,
      Bay.reroute_chan]

theorem Bay.WF.reselect {b : Bay} {mi : Nat} {m : Mux} (wf : b.WF) (hm : b.muxes[mi]? = some m)
    (s : Option Nat) : (b.reselect mi m s).WF := by
  obtain ⟨hch, hmx, hdt, hcl, hsl⟩ := Bay.reroute_fields b mi _ _ s
  -- only `cb_input` entries of `mi` come and go
  have hmem := Bay.mem_reselect wf hm s
  refine .of_muxOk (by rw [hcl, hch]; exact wf.cbsLen) (by rw [hsl, hmx]; exact wf.selLen) ?_ ?_ ?_
    (fun c => Bay.reroute_nodup b mi _ _ s c (wf.cbsNodup c)) (by rw [hdt]; exact wf.dirtyNodup)
    (fun c => by rw [hdt, Bay.reroute_chan]; exact wf.dirtyIff c)
  · intro mj m' h1
    rw [hmx] at h1
    obtain ⟨g1, g2, g3, g4, g5⟩ := wf.muxOk h1
    refine ⟨by rw [hch]; exact g1, by rw [hch]; exact g2, fun i c hi => by rw [hch]; exact g3 i c hi,
      by rw [Bay.reroute_chan]; exact g4, ?_⟩
    rw [hmem]
    exact Or.inl ⟨g5, by rintro ⟨j, _, h, _⟩; cases h⟩
  · intro c mj h1; rw [hmx]
    rw [hmem] at h1
    rcases h1 with ⟨h1, _⟩ | ⟨i, _, h, _⟩
    · exact wf.selCbOnly c mj h1
    · cases h
  · intro c mj i h1; rw [hmx]
    rw [hmem] at h1
    rcases h1 with ⟨h1, _⟩ | ⟨i', _, h, h3⟩
    · exact wf.inCbOnly c mj i h1
    · cases h; exact ⟨m, hm, h3⟩

theorem Bay.WF.cbInput {b b' : Bay} {mi i : Nat} (wf : b.WF) (h : b.cbInput mi i = .ok b') : b'.WF := by
  obtain ⟨m, ic, _, _, hw⟩ := Bay.cbInput_ok h
  exact wf.write (chanOp_set _) hw

theorem Bay.WF.cbSelect {b b' : Bay} {mi : Nat} (wf : b.WF) (h : b.cbSelect mi = .ok b') : b'.WF := by
  obtain ⟨m, s, hm, _, _, _, hw⟩ := Bay.cbSelect_ok h
  exact (wf.reselect hm s).write (chanOp_set _) hw

theorem Bay.WF.runCb {b b' : Bay} {cb : Cb} (wf : b.WF) (h : b.runCb cb = .ok b') : b'.WF := by
  cases cb with
  | muxSelect m => exact wf.cbSelect h
  | muxInput m i => exact wf.cbInput h


def Cb.mux : Cb → Nat
  | .muxSelect m => m
  | .muxInput m _ => m

theorem Bay.WF.cb_source {b : Bay} (wf : b.WF) {c : Nat} {cb : Cb} {m : Mux} (hcb : cb ∈ b.cbsOf c)
    (hm : b.muxes[cb.mux]? = some m) :
    cb = .muxSelect cb.mux ∧ m.sel = c ∨ ∃ i : Nat, cb = .muxInput cb.mux i ∧ m.inputs[i]? = some (some c) := by
  cases cb with
  | muxSelect mj =>
    obtain ⟨m0, h0, hs0⟩ := wf.selCbOnly c mj hcb
    cases hm.symm.trans h0; exact Or.inl ⟨rfl, hs0⟩
  | muxInput mj i =>
    obtain ⟨m0, h0, hi0⟩ := wf.inCbOnly c mj i hcb
    cases hm.symm.trans h0; exact Or.inr ⟨i, rfl, hi0⟩

theorem Bay.WF.cb_own {b : Bay} (wf : b.WF) {mi c : Nat} {m : Mux} {cb : Cb} (hm : b.muxes[mi]? = some m)
    (hsel : m.sel ∉ b.dirty) (hc : c ∈ b.dirty) (hcb : cb ∈ b.cbsOf c) (hown : cb.mux = mi) :
    ∃ i, cb = .muxInput mi i ∧ m.inputs[i]? = some (some c) := by
  subst hown
  exact (wf.cb_source hcb hm).resolve_left fun h => hsel (h.2 ▸ hc)

theorem Bay.write_dirty_cases {b b' : Bay} {c f} (h : b.write c f = .ok b') :
    b'.dirty = b.dirty ∨ b'.dirty = b.dirty ++ [c] := by
  rw [Bay.write_dirty h]; split
  · exact Or.inr rfl
  · exact Or.inl rfl

/-- What one callback of mux `m` does.  It ends by a `chan_set` of the output to `specVal m s`, read
    before: `s` is its own input for `cb_input`, which changes nothing else, and the select
    function's answer for `cb_select`, which makes it the selected input.  Beyond the output only
    `m`'s `selected` and its `cb_input` entries can change. -/
structure Bay.CbFrame (b b' : Bay) (cb : Cb) (m : Mux) (s : Option Nat) : Prop where
  mux : b.muxes[cb.mux]? = some m
  muxes : b'.muxes = b.muxes
  length : b'.chans.length = b.chans.length
  chan : ∀ c, c ≠ m.out → b'.chan c = b.chan c
  out : (b.chan m.out).set (b.specVal m s) = .ok (b'.chan m.out)
  dirty : b'.dirty = b.dirty ∨ b'.dirty = b.dirty ++ [m.out]
  selOf : ∀ mk, mk ≠ cb.mux → b'.selOf mk = b.selOf mk
  mem : ∀ c cb0, (∀ i, cb0 ≠ .muxInput cb.mux i) → (cb0 ∈ b'.cbsOf c ↔ cb0 ∈ b.cbsOf c)
  cbsOf : ∀ c, (∀ i : Nat, m.inputs[i]? ≠ some (some c)) → b'.cbsOf c = b.cbsOf c
  input : ∀ i, cb = .muxInput cb.mux i → s = some i ∧ b'.cbs = b.cbs ∧ b'.selected = b.selected
  select : cb = .muxSelect cb.mux → m.selectInput (b.chan m.sel).cur = .ok s ∧ b'.selOf cb.mux = s ∧
    ∀ i, b'.enabled cb.mux m i ↔ b.enabled cb.mux m i ∧ b.selOf cb.mux ≠ some i ∨ s = some i

theorem Bay.runCb_frame {b b' : Bay} {cb : Cb} (wf : b.WF) (h : b.runCb cb = .ok b') :
    ∃ m s, b.CbFrame b' cb m s := by
  cases cb with
  | muxInput mj i =>
    obtain ⟨m', ic, hm, hic, hw⟩ := Bay.cbInput_ok h
    refine ⟨m', some i, hm, Bay.write_muxes hw, Bay.write_length hw, fun c hc => Bay.write_chan_ne hw hc,
      by simpa only [Bay.specVal, hic] using (Bay.write_chan_eq hw).1, Bay.write_dirty_cases hw,
      fun mk _ => Bay.selOf_congr (Bay.write_selected hw) mk,
      fun c cb0 _ => by rw [Bay.cbsOf_congr (Bay.write_cbs hw)],
      fun c _ => Bay.cbsOf_congr (Bay.write_cbs hw) c,
      fun _ e => by cases e; exact ⟨rfl, Bay.write_cbs hw, Bay.write_selected hw⟩, fun e => (nomatch e)⟩
  | muxSelect mj =>
    obtain ⟨m', s, hm, hsel, hj, hi, hw⟩ := Bay.cbSelect_ok h
    obtain ⟨hch, hmx, hdt, _, _⟩ := Bay.reroute_fields b mj _ _ s
    have hout := (Bay.write_chan_eq hw).1
    rw [Bay.reroute_chan] at hout
    have hcbs := Bay.cbsOf_congr (Bay.write_cbs hw)
    have hmem := Bay.mem_reselect wf hm s
    refine ⟨m', s, hm, (Bay.write_muxes hw).trans hmx, (Bay.write_length hw).trans (congrArg _ hch), ?_,
      hout, ?_, ?_, ?_, ?_, fun _ e => (nomatch e), fun _ => ⟨hsel, ?_, ?_⟩⟩
    · intro c hc; rw [Bay.write_chan_ne hw hc, Bay.reroute_chan]
    · have := Bay.write_dirty_cases hw; rw [hdt] at this; exact this
    · intro mk hk; rw [Bay.selOf_congr (Bay.write_selected hw)]; exact Bay.reroute_selOf_ne _ _ _ _ _ hk
    · intro c cb0 hcb
      rw [hcbs, hmem]
      constructor
      · rintro (⟨h1, _⟩ | ⟨i, _, h2, _⟩)
        · exact h1
        · exact absurd h2 (hcb i)
      · intro h1; exact Or.inl ⟨h1, by rintro ⟨j, _, h2, _⟩; exact hcb j h2⟩
    · intro c hc; rw [hcbs]; exact Bay.reselect_cbsOf_other b mj m' s c hc
    · rw [Bay.selOf_congr (Bay.write_selected hw)]
      exact Bay.reselect_selOf_eq b mj m' s (wf.selLen ▸ (List.getElem?_eq_some_iff.mp hm).1) hj hi
    · -- the entry of the input selected before goes, that of the one selected now comes
      intro i
      constructor
      · rintro ⟨c, hic, hc⟩
        rw [hcbs, hmem] at hc
        rcases hc with ⟨h1, h2⟩ | ⟨_, hs, e, _⟩
        · exact Or.inl ⟨⟨c, hic, h1⟩, fun hso => h2 ⟨i, hso, rfl, hic⟩⟩
        · cases e; exact Or.inr hs
      · rintro (⟨⟨c, hic, hc⟩, hn⟩ | hs)
        · refine ⟨c, hic, ?_⟩
          rw [hcbs, hmem]
          exact Or.inl ⟨hc, by rintro ⟨j, hj', e, _⟩; cases e; exact hn hj'⟩
        · obtain ⟨c, hic⟩ := hi i hs
          refine ⟨c, hic, ?_⟩
          rw [hcbs, hmem]
          exact Or.inr ⟨i, hs, rfl, hic⟩

theorem Bay.runCb_chan_or_dirty {b b' : Bay} {cb : Cb} (wf : b.WF) (h : b.runCb cb = .ok b') (c : Nat) :
    b'.chan c = b.chan c ∨ (b'.chan c).dirty = true := by
  obtain ⟨m, _, fr⟩ := Bay.runCb_frame wf h
  by_cases hc : c = m.out
  · rw [hc]; exact (chanOp_set _ _ _ fr.out).1
  · exact Or.inl (fr.chan c hc)

theorem Bay.runCb_cbsOf_fixed {b b' : Bay} {c : Nat} {cb : Cb} (wf : b.WF) (hmem : cb ∈ b.cbsOf c)
    (h : b.runCb cb = .ok b') : b'.cbsOf c = b.cbsOf c := by
  obtain ⟨m', _, fr⟩ := Bay.runCb_frame wf h
  cases cb with
  | muxInput mj i => exact Bay.cbsOf_congr (fr.input i rfl).2.1 c
  | muxSelect mj =>
    obtain ⟨m, hm2, hsel⟩ := wf.selCbOnly c mj hmem
    cases fr.mux.symm.trans hm2
    apply fr.cbsOf
    intro i; rw [← hsel]; exact wf.selNotIn mj m' i hm2

theorem Bay.propChan_none {b : Bay} {c j : Nat} (fuel : Nat) (h : (b.cbsOf c)[j]? = none) :
    b.propChan fuel c j = .ok b := by
  unfold Bay.propChan; simp only [h]

theorem Bay.propChan_succ {b b1 : Bay} {c j : Nat} {cb : Cb} (fuel : Nat) (wf : b.WF)
    (hcb : (b.cbsOf c)[j]? = some cb) (hrun : b.runCb cb = .ok b1) :
    b1.cbsOf c = b.cbsOf c ∧ b.propChan (fuel + 1) c j = b1.propChan fuel c (j + 1) := by
  have hfix := Bay.runCb_cbsOf_fixed wf (List.mem_of_getElem? hcb) hrun
  obtain ⟨hjl, hget⟩ := List.getElem?_eq_some_iff.mp hcb
  have hidx : (b1.cbsOf c).idxOf cb = j := by
    rw [hfix, ← hget]; exact (wf.cbsNodup c).idxOf_getElem j hjl
  refine ⟨hfix, ?_⟩
  rw [Bay.propChan]; simp only [hcb, hrun, hidx]

/-- What every state of a propagation shares with an earlier one. -/
structure Bay.Grown (b b' : Bay) : Prop where
  muxes : b'.muxes = b.muxes
  length : b'.chans.length = b.chans.length
  dirty : ∃ ext, b'.dirty = b.dirty ++ ext

theorem Bay.Grown.refl (b : Bay) : b.Grown b := ⟨rfl, rfl, [], by simp⟩

theorem Bay.Grown.trans {b b1 b2 : Bay} (h1 : b.Grown b1) (h2 : b1.Grown b2) : b.Grown b2 := by
  obtain ⟨e1, he1⟩ := h1.dirty
  obtain ⟨e2, he2⟩ := h2.dirty
  exact ⟨h2.muxes.trans h1.muxes, h2.length.trans h1.length, e1 ++ e2, by rw [he2, he1, List.append_assoc]⟩

theorem Bay.runCb_grown {b b' : Bay} {cb : Cb} (wf : b.WF) (h : b.runCb cb = .ok b') : b.Grown b' :=
  have ⟨_, _, fr⟩ := Bay.runCb_frame wf h
  ⟨fr.muxes, fr.length, fr.dirty.elim (fun h => ⟨[], by simp [h]⟩) (fun h => ⟨_, h⟩)⟩

theorem Bay.Grown.getElem? {b b' : Bay} (g : b.Grown b') {k c : Nat} (h : b.dirty[k]? = some c) :
    b'.dirty[k]? = some c := by
  obtain ⟨ext, he⟩ := g.dirty
  rw [he, List.getElem?_append_left (List.getElem?_eq_some_iff.mp h).1]; exact h

/-- Loop rule of the walk over the callbacks of channel `c`; `Q b j`: about to run the callback
    at position `j` of `b.cbsOf c`.  Positions make sense because a callback leaves the list of
    `c` as it is, which `hstep` may use. -/
theorem Bay.propChan_rule (c : Nat) (Q : Bay → Nat → Prop)
    (hstep : ∀ (b : Bay) (j : Nat) (cb : Cb) (b' : Bay), b.WF → Q b j → (b.cbsOf c)[j]? = some cb →
      b.runCb cb = .ok b' → b'.cbsOf c = b.cbsOf c → Q b' (j + 1)) :
    ∀ (fuel : Nat) (b : Bay) (j : Nat) (b' : Bay), b.WF → Q b j → j ≤ (b.cbsOf c).length →
      b.propChan fuel c j = .ok b' → b'.WF ∧ b'.cbsOf c = b.cbsOf c ∧ Q b' (b.cbsOf c).length := by
  intro fuel
  induction fuel with
  | zero =>
    intro b j b' wf hq hj h
    cases hcb : (b.cbsOf c)[j]? with
    | none =>
      rw [Bay.propChan_none _ hcb] at h; cases h
      exact ⟨wf, rfl, Nat.le_antisymm hj (List.getElem?_eq_none_iff.mp hcb) ▸ hq⟩
    | some cb => rw [Bay.propChan] at h; simp only [hcb] at h; cases h
  | succ fuel ih =>
    intro b j b' wf hq hj h
    cases hcb : (b.cbsOf c)[j]? with
    | none => exact ih b j b' wf hq hj (by rw [Bay.propChan_none _ hcb] at h ⊢; exact h)
    | some cb =>
      cases hrun : b.runCb cb with
      | error e => rw [Bay.propChan] at h; simp only [hcb, hrun] at h; cases h
      | ok b1 =>
        obtain ⟨hfix, e⟩ := Bay.propChan_succ fuel wf hcb hrun
        rw [e] at h
        have hjl := (List.getElem?_eq_some_iff.mp hcb).1
        obtain ⟨wf', hl, hq'⟩ := ih b1 (j + 1) b' (wf.runCb hrun) (hstep b j cb b1 wf hq hcb hrun hfix)
          (by rw [hfix]; omega) h
        exact ⟨wf', hl.trans hfix, hfix ▸ hq'⟩

theorem Bay.propChan_grown {b b' : Bay} {c fuel j : Nat} (wf : b.WF) (hj : j ≤ (b.cbsOf c).length)
    (h : b.propChan fuel c j = .ok b') : b'.WF ∧ b.Grown b' :=
  let r := Bay.propChan_rule c (fun b1 _ => b.Grown b1)
    (fun _ _ _ _ wf1 g _ hrun _ => g.trans (Bay.runCb_grown wf1 hrun)) fuel b j b' wf (.refl b) hj h
  ⟨r.1, r.2.2⟩

theorem Bay.dirtyPhase_none {b : Bay} {k : Nat} (fuel : Nat) (h : b.dirty[k]? = none) :
    b.dirtyPhase fuel k = .ok b := by
  unfold Bay.dirtyPhase; simp only [h]

/-- Loop rule of `bay_propagate`'s first loop: the loop over the dirty list and, inside it, the one
    over a channel's callbacks, taken as one walk over the positions `(k, j)`, callback `j` of the
    `k`-th dirty channel, from `b0` on.  The dirty list grows while it is walked, so `Q` is
    concluded at the length of the final list. -/
theorem Bay.dirtyPhase_walk {b0 : Bay} (Q : Bay → Nat → Nat → Prop)
    (hcb : ∀ (b b' : Bay) (k c j : Nat) (cb : Cb), b.WF → b0.Grown b → b.dirty[k]? = some c →
      (b.cbsOf c)[j]? = some cb → b.runCb cb = .ok b' → b'.cbsOf c = b.cbsOf c → Q b k j → Q b' k (j + 1))
    (hnext : ∀ (b : Bay) (k c : Nat), b.WF → b0.Grown b → b.dirty[k]? = some c →
      Q b k (b.cbsOf c).length → Q b (k + 1) 0)
    {fuel : Nat} {b' : Bay} (wf : b0.WF) (h0 : Q b0 0 0)
    (h : b0.dirtyPhase fuel 0 = .ok b') : b'.WF ∧ b0.Grown b' ∧ Q b' b'.dirty.length 0 := by
  suffices ∀ (fuel : Nat) (b : Bay) (k : Nat), b.WF → b0.Grown b → Q b k 0 → k ≤ b.dirty.length →
      b.dirtyPhase fuel k = .ok b' → b'.WF ∧ b0.Grown b' ∧ Q b' b'.dirty.length 0 from
    this fuel b0 0 wf (.refl b0) h0 (Nat.zero_le _) h
  intro fuel
  induction fuel with
  | zero =>
    intro b k wf g hq hk h
    cases hc : b.dirty[k]? with
    | none =>
      rw [Bay.dirtyPhase_none _ hc] at h; cases h
      exact ⟨wf, g, Nat.le_antisymm hk (List.getElem?_eq_none_iff.mp hc) ▸ hq⟩
    | some c => rw [Bay.dirtyPhase] at h; simp only [hc] at h; cases h
  | succ fuel ih =>
    intro b k wf g hq hk h
    cases hc : b.dirty[k]? with
    | none => exact ih b k wf g hq hk (by rw [Bay.dirtyPhase_none _ hc] at h ⊢; exact h)
    | some c =>
      rw [Bay.dirtyPhase] at h; simp only [hc] at h
      split at h
      · cases h
      · rename_i b1 hrun
        obtain ⟨wf1, hfix, hc1, g1, hq1⟩ := Bay.propChan_rule c
          (fun b1 j => b1.dirty[k]? = some c ∧ b0.Grown b1 ∧ Q b1 k j)
          (fun b1 j cb b2 wf1 ⟨hc1, g1, hq1⟩ hcb1 hrun1 hfix1 =>
            have g2 := Bay.runCb_grown wf1 hrun1
            ⟨g2.getElem? hc1, g1.trans g2, hcb b1 b2 k c j cb wf1 g1 hc1 hcb1 hrun1 hfix1 hq1⟩)
          _ b 0 b1 wf ⟨hc, g, hq⟩ (Nat.zero_le _) hrun
        exact ih b1 (k + 1) wf1 g1 (hnext b1 k c wf1 g1 hc1 (hfix ▸ hq1))
          (List.getElem?_eq_some_iff.mp hc1).1 h

theorem Bay.dirtyPhase_inv {b0 : Bay} (I : Bay → Prop)
    (hstep : ∀ (b : Bay) (c : Nat) (cb : Cb) (b' : Bay), b.WF → b0.Grown b → I b → c ∈ b.dirty →
      cb ∈ b.cbsOf c → b.runCb cb = .ok b' → I b')
    {fuel : Nat} {b' : Bay} (wf : b0.WF) (hI : I b0) (h : b0.dirtyPhase fuel 0 = .ok b') :
    b'.WF ∧ b0.Grown b' ∧ I b' :=
  Bay.dirtyPhase_walk (fun b _ _ => I b)
    (fun b b' _ c _ cb wf g hc hcb hrun _ hI =>
      hstep b c cb b' wf g hI (List.mem_of_getElem? hc) (List.mem_of_getElem? hcb) hrun)
    (fun _ _ _ _ _ _ hI => hI) wf hI h


/-- A callback that is on the list of a channel still to be propagated, and stays there while
    other callbacks run, does run: `I` holds until then, `G` from then on. -/
theorem Bay.dirtyPhase_until {b0 : Bay} (c0 : Nat) (cb0 : Cb) (I G : Bay → Prop)
    (hI : ∀ (b : Bay) (c : Nat) (cb : Cb) (b' : Bay), b.WF → b0.Grown b → I b → c ∈ b.dirty →
      cb ∈ b.cbsOf c → cb ≠ cb0 → b.runCb cb = .ok b' → I b' ∧ cb0 ∈ b'.cbsOf c0)
    (hrun : ∀ (b b' : Bay), b.WF → b0.Grown b → I b → cb0 ∈ b.cbsOf c0 → b.runCb cb0 = .ok b' → G b')
    (hG : ∀ (b : Bay) (c : Nat) (cb : Cb) (b' : Bay), b.WF → b0.Grown b → G b → c ∈ b.dirty →
      cb ∈ b.cbsOf c → b.runCb cb = .ok b' → G b')
    {fuel : Nat} {b' : Bay} (wf : b0.WF) (hI0 : I b0) (hc : c0 ∈ b0.dirty) (hcb : cb0 ∈ b0.cbsOf c0)
    (h : b0.dirtyPhase fuel 0 = .ok b') : b'.WF ∧ b0.Grown b' ∧ G b' := by
  -- `k'`: where `c0` sits in the dirty list; at `k' = k` the callback is among those not yet run
  obtain ⟨k0, hk0⟩ := List.mem_iff_getElem?.mp hc
  obtain ⟨wf', g, hq⟩ := Bay.dirtyPhase_walk
    (fun b k j => G b ∨ (I b ∧ cb0 ∈ b.cbsOf c0 ∧
      ∃ k', k ≤ k' ∧ b.dirty[k']? = some c0 ∧ (k' = k → cb0 ∈ (b.cbsOf c0).drop j)))
    (by
      intro b b' k c j cb wf g hc hcbj hrun1 hfix hq
      have hcm := List.mem_of_getElem? hc
      have hcbm := List.mem_of_getElem? hcbj
      rcases hq with hg | ⟨hi, hmem, k', hk', hk'c, hdrop⟩
      · exact Or.inl (hG b c cb b' wf g hg hcm hcbm hrun1)
      · by_cases e : cb = cb0
        · exact Or.inl (hrun b b' wf g hi hmem (e ▸ hrun1))
        · obtain ⟨hi', hmem'⟩ := hI b c cb b' wf g hi hcm hcbm e hrun1
          refine Or.inr ⟨hi', hmem', k', hk', (Bay.runCb_grown wf hrun1).getElem? hk'c, ?_⟩
          rintro rfl
          cases hc.symm.trans hk'c
          have := hdrop rfl
          rw [drop_of_get hcbj] at this
          rw [hfix]
          exact (List.mem_cons.mp this).resolve_left (Ne.symm e))
    (by
      intro b k c wf g hc hq
      rcases hq with hg | ⟨hi, hmem, k', hk', hk'c, hdrop⟩
      · exact Or.inl hg
      · refine Or.inr ⟨hi, hmem, k', ?_, hk'c, fun _ => by simpa using hmem⟩
        apply Nat.lt_of_le_of_ne hk'
        rintro rfl
        cases hc.symm.trans hk'c
        simpa using hdrop rfl)
    wf (Or.inr ⟨hI0, hcb, k0, Nat.zero_le _, hk0, fun _ => by simpa using hcb⟩) h
  refine ⟨wf', g, hq.resolve_right ?_⟩
  rintro ⟨_, _, k', hk', hk'c, _⟩
  have := (List.getElem?_eq_some_iff.mp hk'c).1
  omega

theorem Bay.lt_of_dirty {b : Bay} {c : Nat} (h : (b.chan c).dirty = true) : c < b.chans.length := by
  rcases Nat.lt_or_ge c b.chans.length with hl | hl
  · exact hl
  · simp [Bay.chan, List.getD_eq_getElem?_getD, List.getElem?_eq_none hl] at h

theorem Bay.WF.dirty_lt {b : Bay} (wf : b.WF) {c : Nat} (h : c ∈ b.dirty) : c < b.chans.length :=
  Bay.lt_of_dirty ((wf.dirtyIff c).mp h)

theorem Bay.WF.dirty_length {b : Bay} (wf : b.WF) : b.dirty.length ≤ b.chans.length := by
  simpa using wf.dirtyNodup.length_le_of_subset (l₂ := List.range b.chans.length)
    fun _ h => List.mem_range.mpr (wf.dirty_lt h)

theorem Bay.propChan_fuel (c : Nat) : ∀ (f1 f2 : Nat) (b : Bay) (j : Nat), b.WF →
    (b.cbsOf c).length ≤ f1 + j → (b.cbsOf c).length ≤ f2 + j →
    b.propChan f1 c j = b.propChan f2 c j := by
  intro f1
  induction f1 with
  | zero =>
    intro f2 b j wf h1 h2
    have : (b.cbsOf c)[j]? = none := List.getElem?_eq_none_iff.mpr (by omega)
    rw [Bay.propChan_none _ this, Bay.propChan_none _ this]
  | succ f1 ih =>
    intro f2 b j wf h1 h2
    cases hcb : (b.cbsOf c)[j]? with
    | none => rw [Bay.propChan_none _ hcb, Bay.propChan_none _ hcb]
    | some cb =>
      have hjl : j < (b.cbsOf c).length := (List.getElem?_eq_some_iff.mp hcb).1
      cases f2 with
      | zero => omega
      | succ f2 =>
        cases hrun : b.runCb cb with
        | error e => rw [Bay.propChan, Bay.propChan]; simp only [hcb, hrun]
        | ok b1 =>
          obtain ⟨hfix, e⟩ := Bay.propChan_succ f1 wf hcb hrun
          rw [e, (Bay.propChan_succ f2 wf hcb hrun).2]
          exact ih f2 b1 (j + 1) (wf.runCb hrun) (by rw [hfix]; omega) (by rw [hfix]; omega)

/-- Fuel beyond the size of the channel table does not matter: the dirty list holds distinct
    channels. -/
theorem Bay.dirtyPhase_fuel : ∀ (f1 f2 : Nat) (b : Bay) (k : Nat), b.WF →
    b.chans.length ≤ f1 + k → b.chans.length ≤ f2 + k →
    b.dirtyPhase f1 k = b.dirtyPhase f2 k := by
  intro f1
  induction f1 with
  | zero =>
    intro f2 b k wf h1 h2
    have hl := wf.dirty_length
    have : b.dirty[k]? = none := List.getElem?_eq_none_iff.mpr (by omega)
    rw [Bay.dirtyPhase_none _ this, Bay.dirtyPhase_none _ this]
  | succ f1 ih =>
    intro f2 b k wf h1 h2
    cases hc : b.dirty[k]? with
    | none => rw [Bay.dirtyPhase_none _ hc, Bay.dirtyPhase_none _ hc]
    | some c =>
      have hkl : k < b.dirty.length := (List.getElem?_eq_some_iff.mp hc).1
      have hl := wf.dirty_length
      cases f2 with
      | zero => omega
      | succ f2 =>
        rw [Bay.dirtyPhase, Bay.dirtyPhase]
        simp only [hc]
        cases hrun : b.propChan (b.chanFuel c) c 0 with
        | error e => rfl
        | ok b1 =>
          simp only
          obtain ⟨wf1, g⟩ := Bay.propChan_grown wf (Nat.zero_le _) hrun
          exact ih f2 b1 (k + 1) wf1 (by rw [g.length]; omega) (by rw [g.length]; omega)

theorem Bay.Layered.sel_lt {b : Bay} {L : Nat} (hl : b.Layered L) {mi : Nat} {m : Mux}
    (hm : b.muxes[mi]? = some m) : m.sel < L :=
  (hl mi m hm).1

theorem Bay.Layered.input_lt {b : Bay} {L : Nat} (hl : b.Layered L) {mi : Nat} {m : Mux}
    (hm : b.muxes[mi]? = some m) {i c : Nat} (hi : m.inputs[i]? = some (some c)) : c < L :=
  (hl mi m hm).2.1 i c hi

theorem Bay.Layered.le_out {b : Bay} {L : Nat} (hl : b.Layered L) {mi : Nat} {m : Mux}
    (hm : b.muxes[mi]? = some m) : L ≤ m.out :=
  (hl mi m hm).2.2.1

theorem Bay.Layered.out_inj {b : Bay} {L : Nat} (hl : b.Layered L) {mi mj : Nat} {m m' : Mux}
    (hm : b.muxes[mi]? = some m) (hm' : b.muxes[mj]? = some m') (h : m'.out = m.out) : mj = mi :=
  Decidable.byContradiction fun hne => (hl mi m hm).2.2.2 mj m' hm' hne h

end Ovni.Emu
