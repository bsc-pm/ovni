import OvniModel.Lemmas.Bay

/-
  C06: the construction API (`register`, `muxInit`, `muxSetInput`, `muxSetDefault`)
  establishes `Bay.WF`; when `muxInit` and `muxSetInput` succeed and what they then return.
-/
namespace Ovni.Emu

theorem Bay.WF.empty : ({} : Bay).WF := by
  constructor <;> simp [Bay.cbsOf, Bay.chan]

theorem Bay.register_cbsOf (b : Bay) (ch : Chan) (c : Nat) : (b.register ch).1.cbsOf c = b.cbsOf c := by
  simp only [Bay.register, Bay.cbsOf]; exact getD_append_default _ _ _

theorem Bay.register_chan (b : Bay) (ch : Chan) (c : Nat) :
    (b.register ch).1.chan c = if c = b.chans.length then ch else b.chan c := by
  simp only [Bay.register, Bay.chan, List.getD_eq_getElem?_getD]
  rcases Nat.lt_trichotomy c b.chans.length with h | h | h
  · rw [List.getElem?_append_left h]; simp [Nat.ne_of_lt h]
  · subst h; simp
  · rw [List.getElem?_append_right (Nat.le_of_lt h), List.getElem?_eq_none (Nat.le_of_lt h)]
    have : c - b.chans.length ≠ 0 := by omega
    cases hk : c - b.chans.length with
    | zero => exact absurd hk this
    | succ k => simp [Nat.ne_of_gt h]

theorem Bay.WF.register {b : Bay} (wf : b.WF) (ch : Chan) (hd : ch.dirty = false) :
    (b.register ch).1.WF := by
  have hlen : (b.register ch).1.chans.length = b.chans.length + 1 := by simp [Bay.register]
  have hold : ∀ c, c < b.chans.length → (b.register ch).1.chan c = b.chan c := by
    intro c hc; rw [Bay.register_chan]; simp [Nat.ne_of_lt hc]
  refine .of_muxOk (by simp [Bay.register, wf.cbsLen]) wf.selLen ?_
    (fun c mi h => by rw [Bay.register_cbsOf] at h; exact wf.selCbOnly c mi h)
    (fun c mi i h => by rw [Bay.register_cbsOf] at h; exact wf.inCbOnly c mi i h)
    (fun c => by rw [Bay.register_cbsOf]; exact wf.cbsNodup c) wf.dirtyNodup ?_
  · intro mi m h
    obtain ⟨g1, g2, g3, g4, g5⟩ := wf.muxOk h
    refine ⟨by rw [hlen]; omega, by rw [hlen]; omega, fun i c hi => ⟨?_, (g3 i c hi).2⟩,
      by rw [hold _ g2]; exact g4, by rw [Bay.register_cbsOf]; exact g5⟩
    rw [hlen]; exact Nat.lt_succ_of_lt (g3 i c hi).1
  · intro c
    show c ∈ b.dirty ↔ _
    rw [Bay.register_chan]
    split
    · rename_i hc; subst hc
      simp only [hd]
      constructor
      · intro h; exact absurd (wf.dirty_lt h) (Nat.lt_irrefl _)
      · intro h; cases h
    · exact wf.dirtyIff c

/-- `mux_init` succeeds exactly when both channels exist, the output is a single-value channel
    other than the select; it then appends the mux, with `mux->selected = 0`, and enables its
    select callback. -/
theorem Bay.muxInit_iff {b : Bay} {sel out n : Nat} {kind : SelKind} {r : Bay × Nat} :
    b.muxInit sel out kind n = .ok r ↔
    ∃ oc, b.chans[out]? = some oc ∧ sel < b.chans.length ∧ oc.isStack = false ∧ sel ≠ out ∧
      r = (({ b with chans := b.chans.set out { oc with dirtyWrite := true, allowDup := true },
                     muxes := b.muxes ++ [{ sel := sel, out := out, kind := kind,
                                            inputs := List.replicate n none }],
                     selected := b.selected ++ [some 0] } : Bay).enableCb sel (.muxSelect b.muxes.length),
           b.muxes.length) := by
  unfold Bay.muxInit
  constructor
  · intro h
    split at h
    · rename_i oc sc hoc hsc
      split at h
      · cases h
      · split at h
        · cases h
        · rename_i hst hne
          cases h
          exact ⟨oc, hoc, (List.getElem?_eq_some_iff.mp hsc).1, by simpa using hst, hne, rfl⟩
    · cases h
  · rintro ⟨oc, ho, hs, hst, hne, rfl⟩
    rw [ho, List.getElem?_eq_getElem hs]
    simp only [hst, hne, Bool.false_eq_true, if_false]

theorem Bay.WF.muxInit {b b' : Bay} {sel out n mi : Nat} {kind : SelKind} (wf : b.WF)
    (h : b.muxInit sel out kind n = .ok (b', mi)) : b'.WF ∧ mi = b.muxes.length ∧
      b'.muxes = b.muxes ++ [{ sel := sel, out := out, kind := kind, inputs := List.replicate n none }] := by
  obtain ⟨oc, hoc, hsel, hst, hne, h⟩ := Bay.muxInit_iff.mp h
  cases h
  have holt : out < b.chans.length := (List.getElem?_eq_some_iff.mp hoc).1
  have hob : b.chan out = oc := getD_of_getElem? _ hoc
  let mnew : Mux := { sel := sel, out := out, kind := kind, inputs := List.replicate n none }
  let b1 : Bay := { b with chans := b.chans.set out { oc with dirtyWrite := true, allowDup := true },
                           muxes := b.muxes ++ [mnew], selected := b.selected ++ [some 0] }
  have hlen : (b1.enableCb sel (.muxSelect b.muxes.length)).chans.length = b.chans.length := by simp [b1]
  have hmem : ∀ c cb, cb ∈ (b1.enableCb sel (.muxSelect b.muxes.length)).cbsOf c ↔
      cb ∈ b.cbsOf c ∨ (c = sel ∧ cb = .muxSelect b.muxes.length) := fun c cb =>
    Bay.mem_enableCb b1 _ _ (wf.cbsLen ▸ hsel)
  have hchan : ∀ c, (b1.enableCb sel (.muxSelect b.muxes.length)).chan c =
      if c = out then { oc with dirtyWrite := true, allowDup := true } else b.chan c := by
    intro c
    rw [Bay.enableCb_chan]
    show (b.chans.set out _).getD c {} = _
    split
    · rename_i hc; subst hc; exact getD_set_eq _ _ _ _ holt
    · rename_i hc; exact getD_set_ne _ _ _ _ _ (Ne.symm hc)
  have hold : ∀ (mj : Nat) (m : Mux), b.muxes[mj]? = some m → (b.muxes ++ [mnew])[mj]? = some m :=
    fun mj m hm => by rw [List.getElem?_append_left (List.getElem?_eq_some_iff.mp hm).1]; exact hm
  refine ⟨.of_muxOk (by simp [wf.cbsLen]) (by simp [wf.selLen]) ?_ ?_ ?_ ?_
    (by rw [Bay.enableCb_dirty]; exact wf.dirtyNodup) ?_, rfl, by simp⟩
  · intro mj m hm
    rw [Bay.enableCb_muxes] at hm
    unfold Bay.MuxOk
    rw [hlen, hchan, hmem]
    rcases getElem?_append_some hm with h | ⟨rfl, rfl⟩
    · obtain ⟨h1, h2, h3, h4, h5⟩ := wf.muxOk h
      exact ⟨h1, h2, h3, by split; rfl; exact h4, Or.inl h5⟩
    · exact ⟨hsel, holt, by simp [List.getElem?_replicate], by rw [if_pos rfl],
        Or.inr ⟨rfl, rfl⟩⟩
  · intro c mj hc
    rw [Bay.enableCb_muxes]
    rcases (hmem c _).mp hc with hc | ⟨rfl, hcb⟩
    · obtain ⟨m, hm, hs⟩ := wf.selCbOnly c mj hc
      exact ⟨m, hold mj m hm, hs⟩
    · cases hcb
      exact ⟨mnew, by show (b.muxes ++ [mnew])[b.muxes.length]? = some mnew; simp, rfl⟩
  · intro c mj i hc
    rw [Bay.enableCb_muxes]
    rcases (hmem c _).mp hc with hc | ⟨_, hcb⟩
    · obtain ⟨m, hm, hs⟩ := wf.inCbOnly c mj i hc
      exact ⟨m, hold mj m hm, hs⟩
    · cases hcb
  · exact fun c => Bay.enableCb_nodup b1 sel c _ (wf.cbsNodup c)
  · intro c
    rw [Bay.enableCb_dirty, hchan]
    split
    · rename_i hc; subst hc
      show c ∈ b.dirty ↔ oc.dirty = true
      rw [← hob]; exact wf.dirtyIff c
    · exact wf.dirtyIff c

/-- What `mux_set_input` and `mux_set_default` do: mux `mi` is replaced. -/
def Bay.setMux (b : Bay) (mi : Nat) (m : Mux) : Bay := { b with muxes := b.muxes.set mi m }

/-- `mux_set_input` succeeds exactly on a free input slot of an existing mux, for a channel of
    the bay other than the output. -/
theorem Bay.muxSetInput_iff {b b' : Bay} {mi i c : Nat} :
    b.muxSetInput mi i c = .ok b' ↔
    ∃ m, b.muxes[mi]? = some m ∧ c ≠ m.out ∧ m.inputs[i]? = some none ∧ c < b.chans.length ∧
      b' = b.setMux mi { m with inputs := m.inputs.set i (some c) } := by
  unfold Bay.muxSetInput Bay.setMux
  constructor
  · intro h
    split at h
    · cases h
    · rename_i m hm
      split at h
      · cases h
      · rename_i hne
        split at h
        · rename_i hin
          split at h
          · rename_i hlt; cases h; exact ⟨m, hm, hne, hin, hlt, rfl⟩
          · cases h
        · cases h
  · rintro ⟨m, hm, hne, hi, hc, rfl⟩
    simp only [hm, hne, hi, hc, if_false, if_true]

theorem Bay.WF.setMux {b : Bay} {mi : Nat} {m : Mux} (wf : b.WF) (hm : b.muxes[mi]? = some m) (m' : Mux)
    (hsel : m'.sel = m.sel) (hout : m'.out = m.out)
    (hold : ∀ (i c : Nat), m.inputs[i]? = some (some c) → m'.inputs[i]? = some (some c))
    (hnew : ∀ (i c : Nat), m'.inputs[i]? = some (some c) →
      m.inputs[i]? = some (some c) ∨ (c < b.chans.length ∧ c ≠ m.sel)) :
    (b.setMux mi m').WF := by
  have hmilt : mi < b.muxes.length := (List.getElem?_eq_some_iff.mp hm).1
  -- every mux keeps its select and the inputs it had, so each callback still has its reason
  have hcb : ∀ (mj : Nat) (m0 : Mux), b.muxes[mj]? = some m0 →
      ∃ m1 : Mux, (b.muxes.set mi m')[mj]? = some m1 ∧
      m1.sel = m0.sel ∧ ∀ (i c : Nat), m0.inputs[i]? = some (some c) → m1.inputs[i]? = some (some c) := by
    intro mj m0 h
    by_cases e : mj = mi
    · subst e; rw [hm] at h; cases h
      exact ⟨m', by simp [hmilt], hsel, hold⟩
    · exact ⟨m0, by rw [List.getElem?_set_ne (Ne.symm e)]; exact h, rfl, fun _ _ hi => hi⟩
  refine .of_muxOk wf.cbsLen
    (by show _ = (b.muxes.set mi m').length; rw [List.length_set]; exact wf.selLen) ?_ ?_ ?_
    wf.cbsNodup wf.dirtyNodup wf.dirtyIff
  · intro mj m1 h
    rcases getElem?_set_some h with ⟨rfl, rfl⟩ | ⟨_, h⟩
    · obtain ⟨h1, h2, h3, h4, h5⟩ := wf.muxOk hm
      unfold Bay.MuxOk
      rw [hsel, hout]
      exact ⟨h1, h2, fun i c hi => (hnew i c hi).elim (h3 i c) id, h4, h5⟩
    · exact wf.muxOk h
  · intro c mj hc
    obtain ⟨m0, h0, hs⟩ := wf.selCbOnly c mj hc
    obtain ⟨m1, h1, e, _⟩ := hcb mj m0 h0
    exact ⟨m1, h1, e.trans hs⟩
  · intro c mj i hc
    obtain ⟨m0, h0, hs⟩ := wf.inCbOnly c mj i hc
    obtain ⟨m1, h1, _, hi⟩ := hcb mj m0 h0
    exact ⟨m1, h1, hi i c hs⟩

theorem Bay.WF.muxSetInput {b b' : Bay} {mi i c : Nat} (wf : b.WF)
    (h : b.muxSetInput mi i c = .ok b')
    (hsel : ∀ m, b.muxes[mi]? = some m → c ≠ m.sel) : b'.WF := by
  obtain ⟨m, hm, hne, hin, hlt, rfl⟩ := Bay.muxSetInput_iff.mp h
  refine wf.setMux hm _ rfl rfl ?_ ?_
  · intro i' c' hi'
    have : i ≠ i' := by rintro rfl; rw [hin] at hi'; cases hi'
    show (m.inputs.set i (some c))[i']? = _
    rw [List.getElem?_set_ne this]; exact hi'
  · intro i' c' hi'
    rcases getElem?_set_some (l := m.inputs) hi' with ⟨_, e⟩ | ⟨_, h2⟩
    · cases e; exact Or.inr ⟨hlt, hsel m hm⟩
    · exact Or.inl h2

theorem Bay.WF.muxSetDefault {b b' : Bay} {mi : Nat} {v : Value} (wf : b.WF)
    (h : b.muxSetDefault mi v = .ok b') : b'.WF := by
  unfold Bay.muxSetDefault at h
  split at h
  · cases h
  · rename_i m hm
    cases h
    exact wf.setMux hm _ rfl rfl (fun _ _ hi => hi) (fun _ _ hi => Or.inl hi)

theorem Bay.setInputs_eq : ∀ (cs : List Nat) (b : Bay) (mi i : Nat) (m : Mux) (done : List (Option Nat)),
    b.muxes[mi]? = some m → done.length = i → m.inputs = done ++ List.replicate cs.length none →
    (∀ c ∈ cs, c ≠ m.out ∧ c < b.chans.length) →
    b.setInputs mi i cs =
      .ok (b.setMux mi { m with inputs := done ++ cs.map some }) := by
  intro cs
  induction cs with
  | nil =>
    intro b mi i m done hm _ hin _
    obtain ⟨hlt, e⟩ := List.getElem?_eq_some_iff.mp hm
    have : ({ m with inputs := done ++ ([] : List Nat).map some } : Mux) = m := by
      cases m; simp at hin ⊢; exact hin.symm
    rw [this, ← e, Bay.setMux, List.set_getElem_self hlt]; rfl
  | cons c cs ih =>
    intro b mi i m done hm rfl hin hc
    have hmilt : mi < b.muxes.length := (List.getElem?_eq_some_iff.mp hm).1
    have hset : m.inputs.set done.length (some c) = (done ++ [some c]) ++ List.replicate cs.length none := by
      rw [hin, List.set_append_right _ _ (Nat.le_refl _)]
      simp [List.replicate_succ]
    have h1 := Bay.muxSetInput_iff.mpr ⟨m, hm, (hc c (by simp)).1,
      show m.inputs[done.length]? = some none by rw [hin]; simp [List.replicate_succ], (hc c (by simp)).2, rfl⟩
    have h2 := ih (b.setMux mi { m with inputs := m.inputs.set done.length (some c) })
      mi _ { m with inputs := m.inputs.set done.length (some c) } (done ++ [some c])
      (by simp [Bay.setMux, hmilt]) List.length_append hset (fun c' hc' => hc c' (by simp [hc']))
    rw [Bay.setInputs, h1]
    simp only [List.length_singleton] at h2 ⊢
    rw [h2]
    simp [Bay.setMux, List.set_set]

end Ovni.Emu
