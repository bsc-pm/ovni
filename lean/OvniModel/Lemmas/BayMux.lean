import OvniModel.Lemmas.BayPropagate

/-
  C06, one mux inside a network: effect of its own two callbacks, frame of the others'.  In the
  dirty phase the mux is in sync from the moment its `cb_select` has run (select channel dirty) or
  the callback of its selected input (that input dirty), and stays so (`runCb_sync`); that this
  callback does run is `Bay.dirtyPhase_until`.
-/
namespace Ovni.Emu

theorem Bay.SyncUpTo.mono {strong : Bool} {b : Bay} {mi : Nat} {m : Mux} {P P' : Nat → Nat → Prop}
    (h : b.SyncUpTo strong mi m P) (hp : ∀ i c, m.inputs[i]? = some (some c) → P i c → P' i c) :
    b.SyncUpTo strong mi m P' := by
  obtain ⟨s, h1, h2, h3, h4⟩ := h
  refine ⟨s, h1, h2, h3, ?_⟩
  rcases h4 with h4 | ⟨i, c, hs, hi, hpc⟩
  · exact Or.inl h4
  · exact Or.inr ⟨i, c, hs, hi, hp i c hi hpc⟩

theorem Bay.SyncUpTo.out {strong : Bool} {b : Bay} {mi : Nat} {m : Mux}
    (h : b.SyncUpTo strong mi m (fun _ _ => False)) :
    ∃ s, m.selectInput (b.chan m.sel).cur = .ok s ∧ (∀ i, b.enabled mi m i ↔ s = some i) ∧
      (strong = true → b.selOf mi = s) ∧ (b.chan m.out).cur = b.specVal m s := by
  obtain ⟨s, h1, h2, h3, h4⟩ := h
  exact ⟨s, h1, h2, h3, h4.resolve_right fun ⟨_, _, _, _, hf⟩ => hf⟩

theorem Bay.SyncUpTo.weaken {strong : Bool} {b : Bay} {mi : Nat} {m : Mux} {P : Nat → Nat → Prop}
    (h : b.SyncUpTo true mi m (fun _ _ => False)) : b.SyncUpTo strong mi m P := by
  obtain ⟨s, h1, h2, h3, h4⟩ := h.out
  exact ⟨s, h1, h2, fun _ => h3 rfl, Or.inl h4⟩

theorem Bay.Weak.ofNoInputs {b : Bay} {mi : Nat} {m : Mux} (hno : ∀ (c i : Nat), Cb.muxInput mi i ∉ b.cbsOf c) :
    b.Weak mi m := by
  rintro i ⟨c, _, h⟩; exact absurd h (hno c i)

theorem Bay.MuxSync.ofNoInputs {b : Bay} {mi : Nat} {m : Mux} (hno : ∀ (c i : Nat), Cb.muxInput mi i ∉ b.cbsOf c)
    (hsel : (b.chan m.sel).cur = .null) (hout : (b.chan m.out).cur = m.dflt) :
    b.MuxSync false mi m := by
  have hen : ∀ i, ¬ b.enabled mi m i := by
    rintro i ⟨c, _, h⟩; exact hno c i h
  refine ⟨.ofNoInputs hno, none, by rw [hsel]; rfl, ?_, by simp, Or.inl hout⟩
  intro i; constructor
  · intro h; exact absurd h (hen i)
  · intro h; cases h

theorem Bay.enabled_congr {b b' : Bay} (h : b'.cbs = b.cbs) (mi : Nat) (m : Mux) (i : Nat) :
    b'.enabled mi m i ↔ b.enabled mi m i := by
  unfold Bay.enabled; simp only [Bay.cbsOf_congr h]

/-- Everything the sync relation of mux `mi` looks at is the same in `b` and `b'`. -/
structure Bay.SameView (b b' : Bay) (mi : Nat) (m : Mux) : Prop where
  sel : (b'.chan m.sel).cur = (b.chan m.sel).cur
  out : (b'.chan m.out).cur = (b.chan m.out).cur
  inp : ∀ (i c : Nat), m.inputs[i]? = some (some c) → (b'.chan c).cur = (b.chan c).cur
  en : ∀ (i c : Nat), Cb.muxInput mi i ∈ b'.cbsOf c ↔ Cb.muxInput mi i ∈ b.cbsOf c
  selOf : b'.selOf mi = b.selOf mi

theorem Bay.SameView.enabled {b b' : Bay} {mi : Nat} {m : Mux} (v : b.SameView b' mi m) (i : Nat) :
    b'.enabled mi m i ↔ b.enabled mi m i := by
  unfold Bay.enabled
  constructor
  · rintro ⟨c, h1, h2⟩; exact ⟨c, h1, (v.en i c).mp h2⟩
  · rintro ⟨c, h1, h2⟩; exact ⟨c, h1, (v.en i c).mpr h2⟩

theorem Bay.specVal_congr {b b' : Bay} {m : Mux} {s : Option Nat}
    (h : ∀ (i c : Nat), s = some i → m.inputs[i]? = some (some c) → (b'.chan c).cur = (b.chan c).cur) :
    b'.specVal m s = b.specVal m s := by
  cases s with
  | none => rfl
  | some i =>
    simp only [Bay.specVal]
    split
    · rename_i c hc; rw [h i c rfl hc]
    · rfl

theorem Bay.SameView.weak {b b' : Bay} {mi : Nat} {m : Mux} (v : b.SameView b' mi m)
    (h : b.Weak mi m) : b'.Weak mi m := by
  intro i hi; rw [v.selOf]; exact h i ((v.enabled i).mp hi)

theorem Bay.SameView.sync {strong : Bool} {b b' : Bay} {mi : Nat} {m : Mux} {P : Nat → Nat → Prop}
    (v : b.SameView b' mi m) (h : b.SyncUpTo strong mi m P) : b'.SyncUpTo strong mi m P := by
  obtain ⟨s, h1, h2, h3, h4⟩ := h
  refine ⟨s, by rw [v.sel]; exact h1, fun i => (v.enabled i).trans (h2 i), by rw [v.selOf]; exact h3, ?_⟩
  rcases h4 with h4 | h4
  · left; rw [v.out, Bay.specVal_congr fun i c _ => v.inp i c]; exact h4
  · exact Or.inr h4

theorem Bay.runCb_other {b b' : Bay} {cb : Cb} {mi : Nat} {m : Mux} (wf : b.WF)
    (hfr : b.Frame mi m) (hne : cb.mux ≠ mi) (h : b.runCb cb = .ok b') : b.SameView b' mi m := by
  obtain ⟨m', _, fr⟩ := Bay.runCb_frame wf h
  obtain ⟨f1, f2, f3⟩ := hfr cb.mux m' fr.mux
  refine ⟨by rw [fr.chan _ (Ne.symm f1)], by rw [fr.chan _ (Ne.symm (f3 hne))], ?_, ?_, fr.selOf mi (Ne.symm hne)⟩
  · intro i c hi; rw [fr.chan]; rintro rfl; exact f2 i hi
  · intro i c; apply fr.mem; intro i' e; cases e; exact hne rfl

/-- `cb_select` disables what was enabled, under `Weak` the input selected before, and enables the
    select function's answer. -/
theorem Bay.cbSelect_sync {b b' : Bay} {mi : Nat} {m : Mux} (wf : b.WF) (hm : b.muxes[mi]? = some m)
    (hfr : b.Frame mi m) (hw : b.Weak mi m) (h : b.cbSelect mi = .ok b') :
    b'.Weak mi m ∧ b'.SyncUpTo true mi m (fun _ _ => False) := by
  obtain ⟨m', s, fr⟩ := Bay.runCb_frame (cb := .muxSelect mi) wf h
  cases hm.symm.trans fr.mux
  obtain ⟨hsel, hselOf, hen0⟩ := fr.select rfl
  obtain ⟨f1, f2, _⟩ := hfr mi m hm
  have hen : ∀ i, b'.enabled mi m i ↔ s = some i := fun i =>
    (hen0 i).trans ⟨fun h => h.elim (fun h => absurd (hw i h.1) h.2) id, Or.inr⟩
  refine ⟨fun i hi => hselOf.trans ((hen i).mp hi), s, by rw [fr.chan _ (Ne.symm f1)]; exact hsel, hen,
    fun _ => hselOf, Or.inl ?_⟩
  rw [Chan.set_cur fr.out (wf.outDup mi m hm)]
  exact (Bay.specVal_congr fun i c _ hic => by rw [fr.chan c (by rintro rfl; exact f2 i hic)]).symm

/-- The select channel of `mi` is no mux output, so no callback makes it dirty. -/
theorem Bay.runCb_sel_clean {b b' : Bay} {cb : Cb} {m : Mux} {mi : Nat} (wf : b.WF)
    (hrun : b.runCb cb = .ok b') (hfr : b.Frame mi m) (h : m.sel ∉ b.dirty) : m.sel ∉ b'.dirty := by
  obtain ⟨m', _, fr⟩ := Bay.runCb_frame wf hrun
  rcases fr.dirty with e | e <;> rw [e]
  · exact h
  · simp only [List.mem_append, List.mem_singleton, not_or]
    exact ⟨h, Ne.symm (hfr cb.mux m' fr.mux).1⟩

theorem Bay.runCb_weak {b b' : Bay} {cb : Cb} {mi : Nat} {m : Mux} (wf : b.WF)
    (hm : b.muxes[mi]? = some m) (hfr : b.Frame mi m) (hweak : b.Weak mi m)
    (hrun : b.runCb cb = .ok b') : b'.Weak mi m := by
  by_cases hown : cb.mux = mi
  · cases cb with
    | muxSelect mj => cases hown; exact (Bay.cbSelect_sync wf hm hfr hweak hrun).1
    | muxInput mj i0 =>
      cases hown
      obtain ⟨_, _, fr⟩ := Bay.runCb_frame wf hrun
      obtain ⟨_, hcbs, hsl⟩ := fr.input i0 rfl
      intro i hi
      rw [Bay.selOf_congr hsl]
      exact hweak i ((Bay.enabled_congr hcbs _ m i).mp hi)
  · exact (Bay.runCb_other wf hfr hown hrun).weak hweak

theorem Bay.Frame.congr {b b' : Bay} {mi : Nat} {m : Mux} (h : b'.muxes = b.muxes) (hf : b.Frame mi m) :
    b'.Frame mi m := by
  unfold Bay.Frame at *; rw [h]; exact hf

/-- The callback of an enabled input copies that input: whatever the output showed, it now shows
    the specified value. -/
theorem Bay.cbInput_sync {strong : Bool} {b b' : Bay} {mi i d : Nat} {m : Mux} (wf : b.WF)
    (hm : b.muxes[mi]? = some m) (hfr : b.Frame mi m) (hs : b.SyncUpTo strong mi m (fun _ _ => True))
    (hmem : Cb.muxInput mi i ∈ b.cbsOf d) (h : b.cbInput mi i = .ok b') :
    b'.SyncUpTo strong mi m (fun _ _ => False) := by
  obtain ⟨m', _, fr⟩ := Bay.runCb_frame (cb := .muxInput mi i) wf h
  cases hm.symm.trans fr.mux
  obtain ⟨rfl, hcbs, hsl⟩ := fr.input i rfl
  obtain ⟨f1, f2, _⟩ := hfr mi m hm
  obtain ⟨s, h1, h2, h3, _⟩ := hs
  obtain ⟨_, hm0, hid⟩ := wf.inCbOnly d mi i hmem
  cases hm.symm.trans hm0
  refine ⟨s, by rw [fr.chan _ (Ne.symm f1)]; exact h1, fun i' => (Bay.enabled_congr hcbs mi m i').trans (h2 i'),
    by rw [Bay.selOf_congr hsl]; exact h3, Or.inl ?_⟩
  rw [Chan.set_cur fr.out (wf.outDup mi m hm), (h2 i).mp ⟨d, hid, hmem⟩]
  exact (Bay.specVal_congr fun i' c _ hic => by rw [fr.chan c (by rintro rfl; exact f2 i' hic)]).symm

/-- Once in sync, always in sync: the select and input channels are no mux outputs, so their
    values stand still during the phase, and each callback of the mux re-establishes its output. -/
theorem Bay.runCb_sync {strong : Bool} {b b' : Bay} {cb : Cb} {d mi : Nat} {m : Mux} (wf : b.WF)
    (hm : b.muxes[mi]? = some m) (hfr : b.Frame mi m) (hs : b.MuxSync strong mi m)
    (hmem : cb ∈ b.cbsOf d) (hrun : b.runCb cb = .ok b') : b'.MuxSync strong mi m := by
  refine ⟨Bay.runCb_weak wf hm hfr hs.1 hrun, ?_⟩
  by_cases hown : cb.mux = mi
  · cases cb with
    | muxSelect mj => cases hown; exact (Bay.cbSelect_sync wf hm hfr hs.1 hrun).2.weaken
    | muxInput mj i => cases hown; exact Bay.cbInput_sync wf hm hfr (hs.2.mono fun _ _ _ _ => trivial) hmem hrun
  · exact (Bay.runCb_other wf hfr hown hrun).sync hs.2

/-- The first loop of `bay_propagate` leaves mux `mi` in sync if one of its callbacks is bound to run
    and repair it (`hpre`): its select channel is dirty, so `cb_select` recomputes everything (until
    then only `Weak` holds), or all is right up to a dirty selected input, which `cb_input` copies.
    `Bay.MuxSync.afterWrites` gives `hpre` after the writes of an event. -/
theorem Bay.dirtyPhase_sync {strong : Bool} {b b1 : Bay} {mi : Nat} {m : Mux} (wf : b.WF)
    (hm : b.muxes[mi]? = some m) (hfr : b.Frame mi m) (hweak : b.Weak mi m)
    (hpre : (b.chan m.sel).dirty = true ∨ b.SyncUpTo strong mi m (fun _ c => (b.chan c).dirty = true))
    {fuel : Nat} (h : b.dirtyPhase fuel 0 = .ok b1) :
    b1.WF ∧ b.Grown b1 ∧ b1.MuxSync strong mi m := by
  have hmf : ∀ b', b.Grown b' → b'.muxes[mi]? = some m ∧ b'.Frame mi m :=
    fun b' g => ⟨g.muxes ▸ hm, hfr.congr g.muxes⟩
  have hG : ∀ (b2 : Bay) (c : Nat) (cb : Cb) (b3 : Bay), b2.WF → b.Grown b2 → b2.MuxSync strong mi m →
      c ∈ b2.dirty → cb ∈ b2.cbsOf c → b2.runCb cb = .ok b3 → b3.MuxSync strong mi m :=
    fun b2 c cb b3 wf2 g hs _ hcb hrun => Bay.runCb_sync wf2 (hmf b2 g).1 (hmf b2 g).2 hs hcb hrun
  cases hd : (b.chan m.sel).dirty with
  | true =>
    -- only `Weak` until `cb_select` runs
    refine Bay.dirtyPhase_until m.sel (.muxSelect mi) (fun b' => b'.Weak mi m) _ ?_ ?_ hG wf hweak
      ((wf.dirtyIff _).mpr hd) (wf.selCb mi m hm) h
    · intro b2 c cb b3 wf2 g hw _ hcb _ hrun
      have g3 := g.trans (Bay.runCb_grown wf2 hrun)
      exact ⟨Bay.runCb_weak wf2 (hmf b2 g).1 (hmf b2 g).2 hw hrun, (wf2.runCb hrun).selCb mi m (hmf b3 g3).1⟩
    · intro b2 b3 wf2 g hw _ hrun
      obtain ⟨w, s⟩ := Bay.cbSelect_sync wf2 (hmf b2 g).1 (hmf b2 g).2 hw hrun
      exact ⟨w, s.weaken⟩
  | false =>
    obtain ⟨s, h1, h2, h3, h4⟩ := hpre.resolve_left (by simp [hd])
    rcases h4 with h4 | ⟨i, c, hs, hic, hdc⟩
    · exact Bay.dirtyPhase_inv _ hG wf ⟨hweak, s, h1, h2, h3, Or.inl h4⟩ h
    · -- the selected input is dirty: all but the output is right until its callback runs;
      -- `cb_select` does not run, the select channel being clean, nor another input's callback
      obtain ⟨c', hic', hcb0⟩ := (h2 i).mpr hs
      cases hic.symm.trans hic'
      refine Bay.dirtyPhase_until c (.muxInput mi i)
        (fun b' => b'.Weak mi m ∧ m.sel ∉ b'.dirty ∧ b'.SyncUpTo strong mi m (fun _ _ => True) ∧
          Cb.muxInput mi i ∈ b'.cbsOf c) _ ?_ ?_ hG wf
        ⟨hweak, fun hx => by simp [(wf.dirtyIff _).mp hx] at hd, ⟨s, h1, h2, h3, Or.inr ⟨i, c, hs, hic, trivial⟩⟩, hcb0⟩
        ((wf.dirtyIff _).mpr hdc) hcb0 h
      · intro b2 d cb b3 wf2 g ⟨hw, hsel, hsy, hcb2⟩ hdm hcb hne hrun
        obtain ⟨hm2, hfr2⟩ := hmf b2 g
        have hown : cb.mux ≠ mi := by
          intro e
          obtain ⟨i', rfl, hi0⟩ := wf2.cb_own hm2 hsel hdm hcb e
          obtain ⟨s2, _, e2, _, _⟩ := hsy
          cases ((e2 i').mp ⟨d, hi0, hcb⟩).symm.trans ((e2 i).mp ⟨c, hic, hcb2⟩)
          exact hne rfl
        have v := Bay.runCb_other wf2 hfr2 hown hrun
        have hcb3 := (v.en i c).mpr hcb2
        exact ⟨⟨v.weak hw, Bay.runCb_sel_clean wf2 hrun hfr2 hsel,
          (v.sync hsy).mono fun _ _ _ _ => trivial, hcb3⟩, hcb3⟩
      · intro b2 b3 wf2 g ⟨hw, _, hsy, _⟩ hcb2 hrun
        obtain ⟨hm2, hfr2⟩ := hmf b2 g
        exact ⟨Bay.runCb_weak wf2 hm2 hfr2 hw hrun, Bay.cbInput_sync wf2 hm2 hfr2 hsy hcb2 hrun⟩

/-- `dirtyPhase_sync` carried through the flush, which changes nothing `MuxSync` looks at. -/
theorem Bay.propagate_sync {strong : Bool} {b bF : Bay} {em : List (Nat × Value)} {mi : Nat} {m : Mux}
    (wf : b.WF) (hm : b.muxes[mi]? = some m) (hfr : b.Frame mi m) (hweak : b.Weak mi m)
    (hpre : (b.chan m.sel).dirty = true ∨ b.SyncUpTo strong mi m (fun _ c => (b.chan c).dirty = true))
    (h : b.propagate = .ok (bF, em)) :
    bF.WF ∧ bF.Clean ∧ bF.muxes = b.muxes ∧ bF.MuxSync strong mi m := by
  obtain ⟨b1, h1, rfl, _⟩ := (Bay.propagate_iff wf).mp h
  obtain ⟨wf1, g, hweak1, hsync1⟩ := Bay.dirtyPhase_sync wf hm hfr hweak hpre h1
  have v : b1.SameView b1.flushed mi m :=
    ⟨b1.flushed_cur _, b1.flushed_cur _, fun _ c _ => b1.flushed_cur c, fun _ _ => Iff.rfl, rfl⟩
  exact ⟨wf1.flushed, b1.flushed_clean, g.muxes, v.weak hweak1, v.sync hsync1⟩

/-- What is left of `MuxSync` after a sequence of writes, the precondition of `propagate_sync`: a
    written select channel is dirty, and so is a written selected input.  The writes must avoid
    `m.out`: a write there changes the output without dirtying the select channel or the selected
    input, so none of the mux's callbacks would run to repair it. -/
theorem Bay.MuxSync.afterWrites {strong : Bool} {b b1 : Bay} {mi : Nat} {m : Mux} (wf : b.WF)
    (hsync : b.MuxSync strong mi m) (h : Bay.Writes (· ≠ m.out) b b1) :
    b1.Weak mi m ∧
    ((b1.chan m.sel).dirty = true ∨ b1.SyncUpTo strong mi m (fun _ c => (b1.chan c).dirty = true)) := by
  have k := h.kept wf
  obtain ⟨s, g1, g2, g3, g4⟩ := hsync.2.out
  have hen := Bay.enabled_congr k.cbs mi m
  have hsel : b1.selOf mi = b.selOf mi := Bay.selOf_congr k.selected mi
  refine ⟨fun i hi => by rw [hsel]; exact hsync.1 i ((hen i).mp hi), ?_⟩
  cases hd : (b1.chan m.sel).dirty
  · right
    refine ⟨s, by rw [k.chan_of_clean _ hd]; exact g1, fun i => (hen i).trans (g2 i), by rw [hsel]; exact g3, ?_⟩
    have hout : b1.chan m.out = b.chan m.out := k.chan_of_not_ok _ (by simp)
    -- the selected input was written, or it still holds the value the output shows
    by_cases hx : ∃ i c, s = some i ∧ m.inputs[i]? = some (some c) ∧ (b1.chan c).dirty = true
    · exact Or.inr hx
    · left
      rw [hout, g4]
      refine (Bay.specVal_congr fun i c hs hic => ?_).symm
      cases hdc : (b1.chan c).dirty
      · rw [k.chan_of_clean c hdc]
      · exact absurd ⟨i, c, hs, hic, hdc⟩ hx
  · left; rfl

/-- None of the callbacks of a mux runs while its select channel is clean and no input callback of
    it is enabled; such is a CPU track before the CPU's `th_running` is first written. -/
theorem Bay.propagate_idle {b bF : Bay} {em : List (Nat × Value)} {mi : Nat} {m : Mux} (wf : b.WF)
    (hm : b.muxes[mi]? = some m) (hfr : b.Frame mi m) (hsel : (b.chan m.sel).dirty = false)
    (hno : ∀ (c i : Nat), Cb.muxInput mi i ∉ b.cbsOf c) (h : b.propagate = .ok (bF, em)) :
    (bF.chan m.out).cur = (b.chan m.out).cur ∧ (∀ (c i : Nat), Cb.muxInput mi i ∉ bF.cbsOf c) := by
  obtain ⟨b1, h1, rfl, _⟩ := (Bay.propagate_iff wf).mp h
  have hsel0 : m.sel ∉ b.dirty := by
    intro hx; have := (wf.dirtyIff _).mp hx; rw [hsel] at this; cases this
  obtain ⟨_, _, _, p4, p5⟩ := Bay.dirtyPhase_inv (fun b' => m.sel ∉ b'.dirty ∧
      (∀ (c i : Nat), Cb.muxInput mi i ∉ b'.cbsOf c) ∧ (b'.chan m.out).cur = (b.chan m.out).cur)
    (by
      intro b2 c cb b3 wf2 g ⟨q3, q4, q5⟩ hc hmem hrun
      have q1 : b2.muxes[mi]? = some m := g.muxes ▸ hm
      have q2 := hfr.congr g.muxes
      -- no callback of `mi` can run: its select channel is not dirty, no input callback is enabled
      have hne : cb.mux ≠ mi := fun e => by
        obtain ⟨i, rfl, _⟩ := wf2.cb_own q1 q3 hc hmem e
        exact q4 c i hmem
      have v := Bay.runCb_other wf2 q2 hne hrun
      exact ⟨Bay.runCb_sel_clean wf2 hrun q2 q3, fun c' i hx => q4 c' i ((v.en i c').mp hx),
        v.out.trans q5⟩)
    wf ⟨hsel0, hno, rfl⟩ h1
  exact ⟨(b1.flushed_cur _).trans p5, p4⟩

theorem Bay.Layered.frame {b : Bay} {L : Nat} (hl : b.Layered L) (mi : Nat) (m : Mux)
    (hm : b.muxes[mi]? = some m) : b.Frame mi m := by
  intro mj m' hm'
  have ho' := hl.le_out hm'
  refine ⟨by have := hl.sel_lt hm; omega, fun i e => ?_, fun hne h => hne (hl.out_inj hm hm' h)⟩
  have := hl.input_lt hm e
  omega

theorem Bay.Layered.congr {b b' : Bay} {L : Nat} (h : b'.muxes = b.muxes) (hl : b.Layered L) : b'.Layered L := by
  unfold Bay.Layered at hl ⊢; rw [h]; exact hl

/-- Mux `mi` has not run yet: select channel and output show null and no input callback of it is
    enabled.  A CPU track is so until the CPU's `th_running` is first written. -/
def Bay.Virgin (b : Bay) (mi : Nat) (m : Mux) : Prop :=
  (b.chan m.sel).cur = .null ∧ (b.chan m.out).cur = .null ∧ ∀ (c i : Nat), Cb.muxInput mi i ∉ b.cbsOf c

theorem Bay.Virgin.sync {b : Bay} {mi : Nat} {m : Mux} (hv : b.Virgin mi m) (hd : m.dflt = .null) :
    b.MuxSync false mi m :=
  .ofNoInputs hv.2.2 hv.1 (hv.2.1.trans hd.symm)

/-- From a mux in sync, any sequence of writes that avoids its output, followed by `bay_propagate`,
    leaves it in sync with the final values; `selected` is right as well once the select channel
    has been written. -/
theorem Bay.MuxSync.round {strong : Bool} {b b1 bF : Bay} {em : List (Nat × Value)} {mi : Nat} {m : Mux}
    (hsync : b.MuxSync strong mi m) (wf : b.WF) (hm : b.muxes[mi]? = some m) (hfr : b.Frame mi m)
    (hw : Bay.Writes (· ≠ m.out) b b1) (h : b1.propagate = .ok (bF, em)) :
    bF.WF ∧ bF.Clean ∧ bF.muxes = b.muxes ∧ bF.MuxSync strong mi m ∧
    ((b1.chan m.sel).dirty = true → bF.MuxSync true mi m) := by
  have k := hw.kept wf
  have hm1 : b1.muxes[mi]? = some m := by rw [k.muxes]; exact hm
  have hfr1 : b1.Frame mi m := hfr.congr k.muxes
  obtain ⟨hweak1, hpre1⟩ := hsync.afterWrites wf hw
  obtain ⟨wfF, hcl, hmx, hs⟩ := Bay.propagate_sync k.wf hm1 hfr1 hweak1 hpre1 h
  exact ⟨wfF, hcl, hmx.trans k.muxes, hs,
    fun hd => (Bay.propagate_sync (strong := true) k.wf hm1 hfr1 hweak1 (Or.inl hd) h).2.2.2⟩

/-- `round` for an event: a sequence of writes to channels below `L`, followed by `bay_propagate`; in a
    layered bay no mux output lies below `L`. -/
theorem Bay.MuxSync.step {L : Nat} {b b1 bF : Bay} {em : List (Nat × Value)} {mi : Nat} {m : Mux}
    (hs : b.MuxSync false mi m) (wf : b.WF) (hlay : b.Layered L) (hm : b.muxes[mi]? = some m)
    (hw : Bay.Writes (· < L) b b1) (hp : b1.propagate = .ok (bF, em)) : bF.MuxSync false mi m :=
  (hs.round wf hm (hlay.frame mi m hm) (hw.mono fun _ hc => ((hlay.noOut hc).out_ne hm).symm) hp).2.2.2.1

theorem Bay.Virgin.step {L : Nat} {b b1 bF : Bay} {em : List (Nat × Value)} {mi : Nat} {m : Mux}
    (hv : b.Virgin mi m) (wf : b.WF) (hlay : b.Layered L) (hm : b.muxes[mi]? = some m)
    (hw : Bay.Writes (· < L) b b1) (hp : b1.propagate = .ok (bF, em)) :
    ((b1.chan m.sel).dirty = true → bF.MuxSync false mi m) ∧
    ((b1.chan m.sel).dirty = false → bF.Virgin mi m) := by
  obtain ⟨v1, v2, v3⟩ := hv
  have k := hw.kept wf
  have hm1 : b1.muxes[mi]? = some m := by rw [k.muxes]; exact hm
  have hfr1 : b1.Frame mi m := (hlay.frame mi m hm).congr k.muxes
  have hno1 : ∀ (c i : Nat), Cb.muxInput mi i ∉ b1.cbsOf c := by
    intro c i; rw [Bay.cbsOf_congr k.cbs]; exact v3 c i
  refine ⟨fun hd => ?_, fun hd => ?_⟩
  · exact (Bay.propagate_sync (strong := false) k.wf hm1 hfr1 (.ofNoInputs hno1) (Or.inl hd) hp).2.2.2
  · obtain ⟨q1, q3⟩ := Bay.propagate_idle k.wf hm1 hfr1 hd hno1 hp
    refine ⟨?_, ?_, q3⟩
    · rw [Bay.propagate_noOut k.wf hp ((hlay.noOut (hlay.sel_lt hm)).congr k.muxes),
        Chan.flush_cur, k.chan_of_clean _ hd]
      exact v1
    · rw [q1, k.chan_of_not_ok m.out (Nat.not_lt.mpr (hlay.le_out hm))]; exact v2

theorem Bay.syncOrVirgin_step {L : Nat} {b b1 bF : Bay} {em : List (Nat × Value)} {mi : Nat} {m : Mux}
    (wf : b.WF) (hlay : b.Layered L) (hm : b.muxes[mi]? = some m) (hw : Bay.Writes (· < L) b b1)
    (hp : b1.propagate = .ok (bF, em)) (h : b.MuxSync false mi m ∨ b.Virgin mi m) :
    bF.MuxSync false mi m ∨ bF.Virgin mi m := by
  rcases h with hs | hv
  · exact .inl (hs.step wf hlay hm hw hp)
  · cases hd : (b1.chan m.sel).dirty with
    | true => exact .inl ((hv.step wf hlay hm hw hp).1 hd)
    | false => exact .inr ((hv.step wf hlay hm hw hp).2 hd)

end Ovni.Emu
