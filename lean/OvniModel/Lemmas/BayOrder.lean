import OvniModel.Lemmas.Bay

/-
  The dirty phase of a layered bay (sources below `L`, mux outputs at or above
  `L` and carrying no callbacks).  `Bay.dirtyPhase_layered` is `Bay.dirtyPhase_walk`
  over the channels that were dirty at the start; `_selectOnly` and `_ordered` are
  instances of it, `_reached` follows from `_ordered`, `_inputOnly` is an instance
  of `Bay.dirtyPhase_until`.
-/
namespace Ovni.Emu

/-- the output channel a callback may put on the dirty list: that of its mux, for a select callback -/
def Bay.outOfCb (b : Bay) : Cb → Option Nat
  | .muxSelect mi => (b.muxes[mi]?).map (·.out)
  | .muxInput _ _ => none

/-- the outputs of the muxes selected by channel `s`, in the order of their callbacks on `s` -/
def Bay.selOuts (b : Bay) (s : Nat) : List Nat := (b.cbsOf s).filterMap b.outOfCb

/-- Both callbacks end by writing the mux output, an ALLOW_DUP channel: dirty even with an
    unchanged value. -/
theorem Bay.CbFrame.out_dirty {b b' : Bay} {cb : Cb} {m : Mux} {s : Option Nat} (fr : b.CbFrame b' cb m s)
    (wf : b.WF) (wf' : b'.WF) : m.out ∈ b'.dirty :=
  (wf'.dirtyIff _).mpr (Chan.set_dirty_of_dup (wf.outDup cb.mux m fr.mux) fr.out)

theorem Bay.outOfCb_eq {b : Bay} {L : Nat} (hl : b.Layered L) {cb : Cb} {mi : Nat} {m : Mux}
    (hm : b.muxes[mi]? = some m) (h : b.outOfCb cb = some m.out) : cb = .muxSelect mi := by
  cases cb with
  | muxInput _ _ => cases h
  | muxSelect mj =>
    simp only [Bay.outOfCb] at h
    cases hmj : b.muxes[mj]? with
    | none => rw [hmj] at h; cases h
    | some m2 =>
      rw [hmj] at h
      rw [hl.out_inj hm hmj (Option.some.inj h)]

/-- The outputs appended during the phase lie at or above `L` and carry no callbacks, so the
    phase runs the callbacks of the channels that were dirty at the start, in order.
    `Q b' k j`: the invariant when `j` callbacks of the `k`-th of these channels have run. -/
theorem Bay.dirtyPhase_layered {b bP : Bay} {L fuel : Nat} (wf : b.WF) (hl : b.Layered L)
    (Q : Bay → Nat → Nat → Prop)
    (hcb : ∀ (b' b'' : Bay) (k c j : Nat) (cb : Cb), b'.WF → b'.muxes = b.muxes → b.dirty[k]? = some c →
      (b'.cbsOf c)[j]? = some cb → b'.runCb cb = .ok b'' → Q b' k j → Q b'' k (j + 1))
    (hnext : ∀ (b' : Bay) (k c : Nat), b.dirty[k]? = some c → Q b' k (b'.cbsOf c).length → Q b' (k + 1) 0)
    (h0 : Q b 0 0) (h : b.dirtyPhase fuel 0 = .ok bP) : Q bP b.dirty.length 0 := by
  -- past the initial list the position stands still: the appended channels have no callbacks
  obtain ⟨_, _, ⟨A, hA, _⟩, _, hq⟩ := Bay.dirtyPhase_walk
    (fun b' k j => (∃ A, b'.dirty = b.dirty ++ A ∧ ∀ x ∈ A, L ≤ x) ∧
      (k < b.dirty.length → Q b' k j) ∧ (b.dirty.length ≤ k → Q b' b.dirty.length 0))
    (by
      intro b4 b5 k c j cb wf4 g4 hk hcbj hrun4 _ ⟨⟨A4, r2, r3⟩, r4, _⟩
      obtain ⟨m', _, fr⟩ := Bay.runCb_frame wf4 hrun4
      have hm' : b.muxes[cb.mux]? = some m' := g4.muxes ▸ fr.mux
      have hkl : k < b.dirty.length := by
        -- a channel with a callback is a select or an input, so below `L`
        apply Classical.byContradiction
        intro hkl
        rw [r2, List.getElem?_append_right (Nat.le_of_not_lt hkl)] at hk
        have hcge := r3 c (List.mem_of_getElem? hk)
        rcases wf4.cb_source (List.mem_of_getElem? hcbj) fr.mux with ⟨_, h⟩ | ⟨i, _, h⟩
        · have := hl.sel_lt hm'; omega
        · have := hl.input_lt hm' h; omega
      have hc : b.dirty[k]? = some c := by
        rw [r2, List.getElem?_append_left hkl] at hk; exact hk
      refine ⟨?_, fun _ => hcb b4 b5 k c j cb wf4 g4.muxes hc hcbj hrun4 (r4 hkl), fun h => by omega⟩
      rcases fr.dirty with e | e
      · exact ⟨A4, by rw [e, r2], r3⟩
      · refine ⟨A4 ++ [m'.out], by rw [e, r2, List.append_assoc], fun x hx => ?_⟩
        rcases List.mem_append.mp hx with hx | hx
        · exact r3 x hx
        · rw [List.mem_singleton.mp hx]; exact hl.le_out hm')
    (by
      intro b' k c _ _ hk ⟨⟨A, p2, p3⟩, p4, p5⟩
      have hend : b.dirty.length ≤ k + 1 → Q b' b.dirty.length 0 := by
        intro hle
        rcases Nat.lt_or_ge k b.dirty.length with hkl | hkl
        · rw [p2, List.getElem?_append_left hkl] at hk
          exact Nat.le_antisymm hle hkl ▸ hnext b' k c hk (p4 hkl)
        · exact p5 hkl
      refine ⟨⟨A, p2, p3⟩, fun hkl => ?_, hend⟩
      rw [p2, List.getElem?_append_left (by omega)] at hk
      exact hnext b' k c hk (p4 (by omega)))
    wf ⟨⟨[], by simp, fun x hx => nomatch hx⟩, fun _ => h0,
      fun h => Nat.le_zero.mp h ▸ h0⟩ h
  exact hq (by rw [hA, List.length_append]; omega)

theorem Bay.dirtyPhase_selectOnly {b bP : Bay} {L fuel : Nat} (wf : b.WF) (hl : b.Layered L)
    (hd : ∀ s ∈ b.dirty, s < L ∧ (∀ cb ∈ b.cbsOf s, ∃ mi, cb = .muxSelect mi) ∧
      (∀ (mi : Nat) (m : Mux) (i : Nat), b.muxes[mi]? = some m → m.inputs[i]? ≠ some (some s)))
    (h : b.dirtyPhase fuel 0 = .ok bP) : bP.dirty = b.dirty ++ b.dirty.flatMap b.selOuts := by
  -- the callback lists stay; the dirty list grows by the outputs of the callbacks run so far
  -- (`getD k 0`: the default never matters, `hnext` is only asked for `k < b.dirty.length`)
  have key := Bay.dirtyPhase_layered wf hl
    (fun b' k j => (∀ s ∈ b.dirty, b'.cbsOf s = b.cbsOf s) ∧
      b'.dirty = b.dirty ++ (b.dirty.take k).flatMap b.selOuts ++
        ((b.cbsOf (b.dirty.getD k 0)).take j).filterMap b.outOfCb)
    ?_ ?_ ⟨fun _ _ => rfl, by simp⟩ h
  · rw [key.2, List.take_length]; simp
  · intro b4 b5 k c j cb wf4 r1 hc hcb hrun4 ⟨r2, r3⟩
    have hcm : c ∈ b.dirty := List.mem_of_getElem? hc
    rw [getD_of_getElem? 0 hc] at r3 ⊢
    rw [r2 c hcm] at hcb
    obtain ⟨mi, rfl⟩ := (hd c hcm).2.1 cb (List.mem_of_getElem? hcb)
    obtain ⟨m', _, fr⟩ := Bay.runCb_frame wf4 hrun4
    -- `cb_select` puts its output on the list (ALLOW_DUP)
    have hin : m'.out ∈ b5.dirty := fr.out_dirty wf4 (wf4.runCb hrun4)
    have hm0 : b.muxes[mi]? = some m' := r1 ▸ fr.mux
    refine ⟨fun s hs => ?_, ?_⟩
    · rw [fr.cbsOf s (fun i => (hd s hs).2.2 mi m' i hm0), r2 s hs]
    · -- and it was not there
      have hnot : m'.out ∉ b4.dirty := by
        rw [r3]
        simp only [List.mem_append, not_or]
        refine ⟨⟨?_, ?_⟩, ?_⟩
        · intro hx; have := (hd _ hx).1; have := hl.le_out hm0; omega
        · intro hx
          obtain ⟨s', hs', hx⟩ := List.mem_flatMap.mp hx
          obtain ⟨cb', hcb', ho⟩ := List.mem_filterMap.mp hx
          rw [Bay.outOfCb_eq hl hm0 ho] at hcb'
          obtain ⟨_, h1, h2⟩ := wf.selCbOnly s' mi hcb'
          obtain ⟨_, h3, h4⟩ := wf.selCbOnly c mi (List.mem_of_getElem? hcb)
          rw [h1] at h3; cases h3
          rw [h2.symm.trans h4] at hs'
          exact nodup_not_mem_take wf.dirtyNodup hc hs'
        · intro hx
          obtain ⟨cb', hcb', ho⟩ := List.mem_filterMap.mp hx
          rw [Bay.outOfCb_eq hl hm0 ho] at hcb'
          exact nodup_not_mem_take (wf.cbsNodup c) hcb hcb'
      have hd5 : b5.dirty = b4.dirty ++ [m'.out] := by
        rcases fr.dirty with e | e
        · rw [e] at hin; exact absurd hin hnot
        · exact e
      rw [hd5, r3, take_succ_of_get hcb, List.filterMap_append, ← List.append_assoc]
      simp [Bay.outOfCb, hm0]
  · intro b' k c hc ⟨r2, r3⟩
    refine ⟨r2, ?_⟩
    rw [getD_of_getElem? 0 hc, r2 c (List.mem_of_getElem? hc), List.take_length] at r3
    rw [r3, take_succ_of_get hc, List.flatMap_append]
    simp [Bay.selOuts]

theorem Bay.selOuts_lt {b : Bay} (wf : b.WF) {s x : Nat} (hx : x ∈ b.selOuts s) : x < b.chans.length := by
  obtain ⟨cb, _, hcb⟩ := List.mem_filterMap.mp hx
  cases cb with
  | muxInput _ _ => cases hcb
  | muxSelect mi =>
    simp only [Bay.outOfCb] at hcb
    cases hm : b.muxes[mi]? with
    | none => rw [hm] at hcb; cases hcb
    | some m => rw [hm] at hcb; cases hcb; exact wf.outLt mi m hm

theorem Bay.selOuts_sel {b : Bay} {L : Nat} (wf : b.WF) (hl : b.Layered L) {s x mi : Nat} {m : Mux}
    (hx : x ∈ b.selOuts s) (hm : b.muxes[mi]? = some m) (ho : m.out = x) : m.sel = s := by
  obtain ⟨cb, hcb, hcbo⟩ := List.mem_filterMap.mp hx
  rw [← ho] at hcbo
  rw [Bay.outOfCb_eq hl hm hcbo] at hcb
  obtain ⟨m3, h3, h4⟩ := wf.selCbOnly s mi hcb
  rw [hm] at h3; cases h3; exact h4

/-- `D[j]` is the select channel or an input of the mux whose output is `x`. -/
def Bay.Trig (b : Bay) (D : List Nat) (x j : Nat) : Prop :=
  ∃ (mi : Nat) (m : Mux) (c : Nat), b.muxes[mi]? = some m ∧ m.out = x ∧ D[j]? = some c ∧
    (m.sel = c ∨ ∃ i : Nat, m.inputs[i]? = some (some c))

/-- Not antisymmetric (an output can have several triggers, select and inputs): to order two
    outputs one has to bound all triggers of each (`Bay.idxOf_lt_of_trig`). -/
def Bay.TrigLe (b : Bay) (D : List Nat) (x y : Nat) : Prop :=
  ∃ jx jy, b.Trig D x jx ∧ b.Trig D y jy ∧ jx ≤ jy

theorem Bay.idxOf_lt_of_trig {b : Bay} {D A : List Nat} (hord : A.Pairwise (b.TrigLe D)) {x y : Nat}
    (hx : x ∈ A) (hy : y ∈ A) (hne : x ≠ y) (h : ∀ jx jy, b.Trig D x jx → b.Trig D y jy → jx < jy) :
    A.idxOf x < A.idxOf y := by
  rcases Nat.lt_trichotomy (A.idxOf x) (A.idxOf y) with hlt | heq | hgt
  · exact hlt
  · exact absurd (idxOf_inj hx hy heq) hne
  · obtain ⟨jy, jx, ty, tx, hle⟩ := pairwise_of_idxOf_lt A hord hy hx hgt
    have := h jx jy tx ty
    omega

/-- The phase appends mux outputs only, each triggered by a channel that was dirty at the start
    (for `b` the bay after the writes of an event: a written source), in the order of their
    triggers. -/
theorem Bay.dirtyPhase_ordered {b bP : Bay} {L fuel : Nat} (wf : b.WF) (hl : b.Layered L)
    (h : b.dirtyPhase fuel 0 = .ok bP) :
    ∃ A, bP.dirty = b.dirty ++ A ∧ (∀ x ∈ A, ∃ j, b.Trig b.dirty x j) ∧ A.Pairwise (b.TrigLe b.dirty) := by
  -- while the `k`-th written channel is processed every output so far has a trigger at or before `k`
  have key := Bay.dirtyPhase_layered wf hl
    (fun b' k _ => ∃ A, b'.dirty = b.dirty ++ A ∧ (∀ x ∈ A, ∃ j, j ≤ k ∧ b.Trig b.dirty x j) ∧
      A.Pairwise (b.TrigLe b.dirty))
    ?_ ?_ ⟨[], by simp, fun x hx => (nomatch hx), List.Pairwise.nil⟩ h
  · obtain ⟨A, hA, htr, hord⟩ := key
    exact ⟨A, hA, fun x hx => (htr x hx).imp fun j hj => hj.2, hord⟩
  · intro b4 b5 k c j cb wf4 r1 hc hcb hrun4 ⟨A4, q2, q3, q4⟩
    obtain ⟨m', _, fr⟩ := Bay.runCb_frame wf4 hrun4
    rcases fr.dirty with e | e
    · exact ⟨A4, by rw [e, q2], q3, q4⟩
    · have htr : b.Trig b.dirty m'.out k :=
        ⟨cb.mux, m', c, r1 ▸ fr.mux, rfl, hc,
          (wf4.cb_source (List.mem_of_getElem? hcb) fr.mux).imp (·.2) fun ⟨i, _, h⟩ => ⟨i, h⟩⟩
      refine ⟨A4 ++ [m'.out], by rw [e, q2, List.append_assoc], fun x hx => ?_, ?_⟩
      · rcases List.mem_append.mp hx with hx | hx
        · exact q3 x hx
        · rw [List.mem_singleton.mp hx]; exact ⟨k, Nat.le_refl k, htr⟩
      · rw [List.pairwise_append]
        refine ⟨q4, List.pairwise_singleton _ _, fun a ha y hy => ?_⟩
        rw [List.mem_singleton.mp hy]
        obtain ⟨ja, hja, hta⟩ := q3 a ha
        exact ⟨ja, k, hta, htr, hja⟩
  · rintro b' k c _ ⟨A, q2, q3, q4⟩
    exact ⟨A, q2, fun x hx => (q3 x hx).imp fun j hj => ⟨Nat.le_succ_of_le hj.1, hj.2⟩, q4⟩

def Bay.Reached (b : Bay) (x : Nat) : Prop := x ∈ b.dirty ∨ ∃ j, b.Trig b.dirty x j

theorem Bay.dirtyPhase_reached {b bP : Bay} {L fuel : Nat} (wf : b.WF) (hl : b.Layered L)
    (h : b.dirtyPhase fuel 0 = .ok bP) : ∀ x ∈ bP.dirty, b.Reached x := by
  obtain ⟨A, hA, htr, _⟩ := Bay.dirtyPhase_ordered wf hl h
  intro x hx
  rw [hA] at hx
  exact (List.mem_append.mp hx).imp id (htr x)

theorem Bay.dirtyPhase_inputOnly {b bP : Bay} {L fuel : Nat} (wf : b.WF) (hl : b.Layered L)
    (hin : ∀ s ∈ b.dirty, ∀ cb ∈ b.cbsOf s, ∃ mi i, cb = Cb.muxInput mi i)
    (h : b.dirtyPhase fuel 0 = .ok bP) :
    ∀ s ∈ b.dirty, ∀ (mi i : Nat) (m : Mux), Cb.muxInput mi i ∈ b.cbsOf s →
      b.muxes[mi]? = some m → m.out ∈ bP.dirty := by
  -- the callback lists stay: only input callbacks run, the outputs appended have no callbacks
  let I : Bay → Prop := fun b2 => b2.cbs = b.cbs ∧ ∀ x ∈ b2.dirty, x ∈ b.dirty ∨ L ≤ x
  have hI : ∀ (b2 : Bay) (c : Nat) (cb : Cb) (b3 : Bay), b2.WF → b.Grown b2 → I b2 → c ∈ b2.dirty →
      cb ∈ b2.cbsOf c → b2.runCb cb = .ok b3 → I b3 := by
    intro b2 c cb b3 wf2 g ⟨q1, q2⟩ hc hcb hrun
    obtain ⟨m', _, fr⟩ := Bay.runCb_frame wf2 hrun
    have hm' : b.muxes[cb.mux]? = some m' := g.muxes ▸ fr.mux
    have hcL : c < L := by
      rcases wf2.cb_source hcb fr.mux with ⟨_, e⟩ | ⟨i, _, e⟩
      · exact e ▸ hl.sel_lt hm'
      · exact hl.input_lt hm' e
    obtain ⟨mi, i, rfl⟩ := hin c ((q2 c hc).resolve_right (by omega)) cb (Bay.cbsOf_congr q1 c ▸ hcb)
    refine ⟨(fr.input i rfl).2.1.trans q1, fun x hx => ?_⟩
    rcases fr.dirty with e | e <;> rw [e] at hx
    · exact q2 x hx
    · rcases List.mem_append.mp hx with hx | hx
      · exact q2 x hx
      · rw [List.mem_singleton.mp hx]; exact Or.inr (hl.le_out hm')
  have h0 : I b := ⟨rfl, fun _ hx => Or.inl hx⟩
  intro s hs mi i m hmem hm
  -- each of them runs, and puts its output on the dirty list
  refine (Bay.dirtyPhase_until s (.muxInput mi i) I (fun b' => m.out ∈ b'.dirty) ?_ ?_ ?_ wf h0 hs hmem h).2.2
  · intro b2 c cb b3 wf2 g q hc hcb _ hrun
    have q' := hI b2 c cb b3 wf2 g q hc hcb hrun
    exact ⟨q', Bay.cbsOf_congr q'.1 s ▸ hmem⟩
  · intro b2 b3 wf2 g _ _ hrun
    obtain ⟨m', _, fr⟩ := Bay.runCb_frame wf2 hrun
    cases (g.muxes ▸ hm : b2.muxes[mi]? = some m).symm.trans fr.mux
    exact fr.out_dirty wf2 (wf2.runCb hrun)
  · intro b2 c cb b3 wf2 _ hx _ _ hrun
    obtain ⟨ext, he⟩ := (Bay.runCb_grown wf2 hrun).dirty
    exact he ▸ List.mem_append_left _ hx

end Ovni.Emu
