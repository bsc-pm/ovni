import OvniModel.Lemmas.Bay

/-
  C06, `bay_propagate` as a whole, whatever the muxes are: on a well-formed bay
  its third loop is `chan_flush` of every channel (`flushList_eq`), so the
  result is that of the first loop, flushed (`propagate_iff`); what the first
  loop keeps; the frame of a sequence of writes (`Bay.Writes`).
-/
namespace Ovni.Emu

/-- The bay after `chan_flush` of every channel, the dirty list emptied. -/
def Bay.flushed (b : Bay) : Bay := { b with chans := b.chans.map Chan.flush, dirty := [] }

theorem Bay.flushed_chan (b : Bay) (c : Nat) : b.flushed.chan c = (b.chan c).flush := by
  simp only [Bay.flushed, Bay.chan, List.getD_eq_getElem?_getD, List.getElem?_map]
  cases b.chans[c]? <;> rfl

theorem Bay.flushed_cur (b : Bay) (c : Nat) : (b.flushed.chan c).cur = (b.chan c).cur := by
  rw [Bay.flushed_chan, Chan.flush_cur]

theorem Bay.flushed_clean (b : Bay) : b.flushed.Clean :=
  ⟨rfl, fun c => by rw [Bay.flushed_chan, Chan.flush_dirty]⟩

theorem Bay.WF.flushed {b : Bay} (wf : b.WF) : b.flushed.WF := by
  refine .of_muxOk (wf.cbsLen.trans (List.length_map _).symm) wf.selLen ?_ wf.selCbOnly wf.inCbOnly
    wf.cbsNodup List.nodup_nil (fun c => by rw [b.flushed_clean.2 c]; simp [Bay.flushed])
  intro mi m hm
  unfold Bay.MuxOk
  rw [Bay.flushed_chan, Chan.flush_eq]
  simp only [Bay.flushed, List.length_map]
  exact wf.muxOk hm

/-- The third loop of `bay_propagate` is `chan_flush` of every channel: the dirty list (`cs`) holds
    exactly the dirty ones, and `chan_flush` leaves a clean channel as it is.  The loop refuses a
    channel that is not dirty, so it takes the list to hold each of them once. -/
theorem Bay.flushList_eq : ∀ (cs : List Nat) (b : Bay), cs.Nodup → (∀ c, c ∈ cs ↔ (b.chan c).dirty = true) →
    Bay.flushList cs b = .ok { b with chans := b.chans.map Chan.flush } := by
  intro cs
  induction cs with
  | nil =>
    intro b _ h
    have : ∀ ch ∈ b.chans, ch.flush = ch := fun ch hch => by
      obtain ⟨i, hi⟩ := List.mem_iff_getElem?.mp hch
      refine Chan.flush_of_clean ?_
      rw [← Bay.chan_of_getElem? hi]
      cases hx : (b.chan i).dirty
      · rfl
      · exact nomatch (h i).mpr hx
    rw [Bay.flushList, List.map_congr_left this, List.map_id']
  | cons c0 cs ih =>
    intro b hnd h
    have hd : (b.chan c0).dirty = true := (h c0).mp (by simp)
    have hlt := Bay.lt_of_dirty hd
    rw [Bay.flushList, Bay.getElem?_chan hlt]
    simp only [hd, if_true]
    rw [ih _ (List.nodup_cons.mp hnd).2]
    · -- flushing `c0` twice is flushing it once
      congr 2
      apply List.ext_getElem?
      intro j
      simp only [List.getElem?_map, List.getElem?_set]
      split
      · rename_i e; subst e
        simp [Bay.chan, List.getD_eq_getElem?_getD, hlt, Chan.flush_of_clean (Chan.flush_dirty _)]
      · rfl
    · intro c
      show c ∈ cs ↔ ((b.chans.set c0 (b.chan c0).flush).getD c {}).dirty = true
      by_cases hc : c = c0
      · subst hc
        rw [getD_set_eq _ _ _ _ hlt, Chan.flush_dirty]
        simp [(List.nodup_cons.mp hnd).1]
      · rw [getD_set_ne _ _ _ _ _ (Ne.symm hc)]
        exact Iff.trans (by simp [hc]) (h c)

theorem Bay.dirtyPhase_grown {b b1 : Bay} (wf : b.WF) {fuel : Nat} (h : b.dirtyPhase fuel 0 = .ok b1) :
    b1.WF ∧ b.Grown b1 :=
  let r := Bay.dirtyPhase_inv (fun _ => True) (fun _ _ _ _ _ _ _ _ _ _ => trivial) wf trivial h
  ⟨r.1, r.2.1⟩

/-- `bay_propagate` is its first loop followed by the flush; the emit callbacks in between see the
    bay before the flush. -/
theorem Bay.propagate_iff {b bF : Bay} {em : List (Nat × Value)} (wf : b.WF) :
    b.propagate = .ok (bF, em) ↔
      ∃ b1, b.dirtyPhase b.chans.length 0 = .ok b1 ∧ bF = b1.flushed ∧ em = b1.emitPhase := by
  unfold Bay.propagate
  cases h1 : b.dirtyPhase b.chans.length 0 with
  | error x => exact ⟨fun h => (nomatch h), fun ⟨_, h, _⟩ => (nomatch h)⟩
  | ok b1 =>
    have wf1 := (Bay.dirtyPhase_grown wf h1).1
    simp only [Bay.flushList_eq _ _ wf1.dirtyNodup wf1.dirtyIff]
    constructor
    · intro h; cases h; exact ⟨b1, rfl, rfl, rfl⟩
    · rintro ⟨_, ⟨⟩, rfl, rfl⟩; rfl

/-- Channel `c` is the output of no mux: `bay_propagate` only flushes it (`propagate_noOut`). -/
def Bay.NoOut (b : Bay) (c : Nat) : Prop :=
  ∀ (mj : Nat) (m' : Mux), b.muxes[mj]? = some m' → m'.out ≠ c

theorem Bay.NoOut.out_ne {b : Bay} {c mi : Nat} {m : Mux} (hc : b.NoOut c) (hm : b.muxes[mi]? = some m) :
    m.out ≠ c :=
  hc mi m hm

theorem Bay.NoOut.congr {b b' : Bay} {c : Nat} (h : b'.muxes = b.muxes) (hc : b.NoOut c) : b'.NoOut c :=
  fun _ _ hm' => hc.out_ne (h ▸ hm')

theorem Bay.Layered.noOut {b : Bay} {L c : Nat} (hl : b.Layered L) (hc : c < L) : b.NoOut c :=
  fun _ _ hm' => by have := hl.le_out hm'; omega

theorem Bay.dirtyPhase_noOut {b b1 : Bay} (wf : b.WF) {fuel : Nat} (h : b.dirtyPhase fuel 0 = .ok b1)
    {c : Nat} (hc : b.NoOut c) : b1.chan c = b.chan c :=
  (Bay.dirtyPhase_inv (fun b2 => b2.chan c = b.chan c)
    (fun b2 _ cb b3 wf2 g hkeep _ _ hrun => by
      obtain ⟨m', _, fr⟩ := Bay.runCb_frame wf2 hrun
      rw [fr.chan c (hc.out_ne (g.muxes ▸ fr.mux)).symm, hkeep])
    wf rfl h).2.2

theorem Bay.dirtyPhase_chan_of_clean {b bP : Bay} (wf : b.WF) {fuel : Nat} (h : b.dirtyPhase fuel 0 = .ok bP) :
    ∀ c, (bP.chan c).dirty = false → bP.chan c = b.chan c :=
  (Bay.dirtyPhase_inv (fun b' => ∀ c, (b'.chan c).dirty = false → b'.chan c = b.chan c)
    (fun b2 _ _ b3 wf2 _ hp _ _ hrun c hd => by
      rcases Bay.runCb_chan_or_dirty wf2 hrun c with e | e
      · rw [e] at hd ⊢; exact hp c hd
      · rw [e] at hd; cases hd)
    wf (fun _ _ => rfl) h).2.2

theorem Bay.propagate_wf {b bF : Bay} {em : List (Nat × Value)} (wf : b.WF)
    (h : b.propagate = .ok (bF, em)) : bF.WF ∧ bF.Clean ∧ bF.muxes = b.muxes := by
  obtain ⟨b1, h1, rfl, _⟩ := (Bay.propagate_iff wf).mp h
  obtain ⟨wf1, g⟩ := Bay.dirtyPhase_grown wf h1
  exact ⟨wf1.flushed, b1.flushed_clean, g.muxes⟩

theorem Bay.propagate_length {b bF : Bay} {em : List (Nat × Value)} (wf : b.WF)
    (h : b.propagate = .ok (bF, em)) : bF.chans.length = b.chans.length := by
  obtain ⟨b1, h1, rfl, _⟩ := (Bay.propagate_iff wf).mp h
  exact (List.length_map _).trans (Bay.dirtyPhase_grown wf h1).2.length

theorem Bay.propagate_noOut {b bF : Bay} {em : List (Nat × Value)} (wf : b.WF)
    (h : b.propagate = .ok (bF, em)) {c : Nat} (hc : b.NoOut c) : bF.chan c = (b.chan c).flush := by
  obtain ⟨b1, h1, rfl, _⟩ := (Bay.propagate_iff wf).mp h
  rw [Bay.flushed_chan, Bay.dirtyPhase_noOut wf h1 hc]

/-- Only `cb_input` callbacks are enabled / disabled. -/
theorem Bay.propagate_cbs_noninput {b bF : Bay} {em : List (Nat × Value)} (wf : b.WF)
    (h : b.propagate = .ok (bF, em)) (s : Nat)
    (hs : ∀ (mi : Nat) (m : Mux) (i : Nat), b.muxes[mi]? = some m → m.inputs[i]? ≠ some (some s)) :
    bF.cbsOf s = b.cbsOf s := by
  obtain ⟨b1, h1, rfl, _⟩ := (Bay.propagate_iff wf).mp h
  exact (Bay.dirtyPhase_inv (fun b' => b'.cbsOf s = b.cbsOf s)
    (fun b2 _ cb b3 wf2 g q _ _ hrun => by
      obtain ⟨m', _, fr⟩ := Bay.runCb_frame wf2 hrun
      exact (fr.cbsOf s (fun i => hs _ m' i (g.muxes ▸ fr.mux))).trans q)
    wf rfl h1).2.2

theorem Bay.Writes.mono {ok ok' : Nat → Prop} {b b1 : Bay} (himp : ∀ c, ok c → ok' c)
    (h : Bay.Writes ok b b1) : Bay.Writes ok' b b1 := by
  induction h with
  | nil => exact .nil _
  | snoc _ hok hf hw ih => exact .snoc ih (himp _ hok) hf hw

/-- What a sequence of writes keeps of the bay it started from. -/
structure Bay.Writes.Kept (ok : Nat → Prop) (b b1 : Bay) : Prop where
  wf : b1.WF
  cbs : b1.cbs = b.cbs
  selected : b1.selected = b.selected
  muxes : b1.muxes = b.muxes
  chan_of_not_ok : ∀ c, ¬ ok c → b1.chan c = b.chan c
  chan_of_clean : ∀ c, (b1.chan c).dirty = false → b1.chan c = b.chan c

theorem Bay.Writes.kept {ok : Nat → Prop} {b b1 : Bay} (wf : b.WF) (h : Bay.Writes ok b b1) :
    Bay.Writes.Kept ok b b1 := by
  induction h with
  | nil => exact ⟨wf, rfl, rfl, rfl, fun _ _ => rfl, fun _ _ => rfl⟩
  | @snoc b1 b2 c f _ hok hf hw ih =>
    refine ⟨ih.wf.write hf hw, (Bay.write_cbs hw).trans ih.cbs, (Bay.write_selected hw).trans ih.selected,
      (Bay.write_muxes hw).trans ih.muxes, ?_, ?_⟩
    · intro c' hc'
      have : c' ≠ c := by rintro rfl; exact hc' hok
      rw [Bay.write_chan_ne hw this]; exact ih.chan_of_not_ok c' hc'
    · intro c' hd
      by_cases hcc : c' = c
      · subst hcc
        have hop := hf _ _ (Bay.write_chan_eq hw).1
        rcases hop.1 with he | ht
        · rw [he] at hd ⊢; exact ih.chan_of_clean c' hd
        · rw [ht] at hd; cases hd
      · rw [Bay.write_chan_ne hw hcc] at hd ⊢; exact ih.chan_of_clean c' hd

theorem Bay.Writes.trans {ok : Nat → Prop} {b b1 b2 : Bay} (h1 : Bay.Writes ok b b1)
    (h2 : Bay.Writes ok b1 b2) : Bay.Writes ok b b2 := by
  induction h2 with
  | nil => exact h1
  | snoc _ hok hf hw ih => exact .snoc ih hok hf hw

theorem Bay.Writes.length {ok : Nat → Prop} {b b1 : Bay} (h : Bay.Writes ok b b1) :
    b1.chans.length = b.chans.length := by
  induction h with
  | nil => rfl
  | snoc _ _ _ hw ih => rw [Bay.write_length hw]; exact ih

theorem Bay.Writes.dirty_ext {ok : Nat → Prop} {b b1 : Bay} (h : Bay.Writes ok b b1) :
    ∃ ext, b1.dirty = b.dirty ++ ext ∧ ∀ c ∈ ext, ok c := by
  induction h with
  | nil => exact ⟨[], by simp, fun c hc => by cases hc⟩
  | @snoc b1 b2 c0 f _ hok _ hw ih =>
    obtain ⟨ext, he, hall⟩ := ih
    rcases Bay.write_dirty_cases hw with e | e
    · exact ⟨ext, by rw [e, he], hall⟩
    · refine ⟨ext ++ [c0], by rw [e, he, List.append_assoc], ?_⟩
      intro c hc
      rcases List.mem_append.mp hc with h | h
      · exact hall c h
      · simp only [List.mem_singleton] at h; subst h; exact hok

theorem Bay.Writes.cur_of_not_dirty {ok : Nat → Prop} {b b1 bP : Bay} (wf : b.WF) (hw : Bay.Writes ok b b1)
    {fuel : Nat} (h1 : b1.dirtyPhase fuel 0 = .ok bP) {c : Nat} (hc : c ∉ bP.dirty) :
    (bP.chan c).cur = (b.chan c).cur := by
  have k := hw.kept wf
  have hdf : (bP.chan c).dirty = false := by
    cases hx : (bP.chan c).dirty
    · rfl
    · exact absurd (((Bay.dirtyPhase_grown k.wf h1).1.dirtyIff _).mpr hx) hc
  have e1 := Bay.dirtyPhase_chan_of_clean k.wf h1 _ hdf
  rw [e1] at hdf
  rw [e1, k.chan_of_clean _ hdf]

end Ovni.Emu
