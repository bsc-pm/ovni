import OvniModel.Lemmas.BayBuild
import OvniModel.Lemmas.BayMux

/-
  C06: the thread / CPU connection steps (`track_connect_thread`, `connect_cpu`,
  one channel each) both amount to `Bay.addTrack`: one fresh output channel with
  the finished mux on it.  `addTrack` keeps a bay well formed, two-level, quiet.
-/
namespace Ovni.Emu
open Ovni.Generated

/-- A bay while `emu_connect` builds it: well formed, two-level over the sources below `L`, no input
    callback enabled yet, every channel still null. -/
structure Bay.Topo (b : Bay) (L : Nat) : Prop where
  wf : b.WF
  layered : b.Layered L
  noIn : b.NoInputCbs
  allNull : b.AllNull
  len : L ≤ b.chans.length

/-- What `track_connect_thread` (modes RUN / ACT) and `connect_cpu` add to a bay: a fresh
    DIRTY_WRITE + ALLOW_DUP output channel (the last one) and the connected mux on it, its select
    callback enabled and `mux->selected` 0. -/
def Bay.addTrack (b : Bay) (m : Mux) : Bay :=
  ({ b with chans := b.chans ++ [{ dirtyWrite := true, allowDup := true }], cbs := b.cbs ++ [[]],
            emits := b.emits ++ [false], muxes := b.muxes ++ [m],
            selected := b.selected ++ [some 0] } : Bay).enableCb m.sel (.muxSelect b.muxes.length)

@[simp] theorem Bay.addTrack_chans (b : Bay) (m : Mux) :
    (b.addTrack m).chans = b.chans ++ [{ dirtyWrite := true, allowDup := true }] := by
  simp [Bay.addTrack]

@[simp] theorem Bay.addTrack_muxes (b : Bay) (m : Mux) : (b.addTrack m).muxes = b.muxes ++ [m] := by
  simp [Bay.addTrack]

@[simp] theorem Bay.addTrack_selected (b : Bay) (m : Mux) :
    (b.addTrack m).selected = b.selected ++ [some 0] := by
  simp [Bay.addTrack]

@[simp] theorem Bay.addTrack_dirty (b : Bay) (m : Mux) : (b.addTrack m).dirty = b.dirty := by
  simp [Bay.addTrack]

/-- The new output is above every source and every older output. -/
theorem Bay.Layered.addTrack {b : Bay} {L : Nat} {m : Mux} (hl : b.Layered L) (wf : b.WF)
    (hsel : m.sel < L) (hin : ∀ (i c : Nat), m.inputs[i]? = some (some c) → c < L)
    (hout : m.out = b.chans.length) (hL : L ≤ b.chans.length) : (b.addTrack m).Layered L := by
  unfold Bay.Layered
  rw [Bay.addTrack_muxes]
  intro mi m0 hm
  rcases getElem?_append_some hm with h | ⟨rfl, rfl⟩
  · obtain ⟨h1, h2, h3, h4⟩ := hl mi m0 h
    refine ⟨h1, h2, h3, fun mj m' hm' hne => ?_⟩
    rcases getElem?_append_some hm' with h' | ⟨_, rfl⟩
    · exact h4 mj m' h' hne
    · have := wf.outLt mi m0 h; omega
  · refine ⟨hsel, hin, by omega, fun mj m' hm' hne => ?_⟩
    rcases getElem?_append_some hm' with h' | ⟨e, _⟩
    · have := wf.outLt mj m' h'; omega
    · exact absurd e hne

theorem Bay.addTrack_last (b : Bay) (m : Mux) : (b.addTrack m).muxes[b.muxes.length]? = some m := by
  simp

theorem Bay.enableCb_setMuxes (b : Bay) (c : Nat) (cb : Cb) (ms : List Mux) :
    ({ b.enableCb c cb with muxes := ms } : Bay) = ({ b with muxes := ms } : Bay).enableCb c cb := by
  unfold Bay.enableCb
  show _ = if cb ∈ b.cbsOf c then _ else _
  split <;> rfl

theorem Bay.muxInit_register {b : Bay} {sel n : Nat} {kind : SelKind} (hs : sel < b.chans.length) :
    (b.register {}).1.muxInit sel b.chans.length kind n = .ok
      (b.addTrack { sel := sel, out := b.chans.length, kind := kind, inputs := List.replicate n none },
       b.muxes.length) := by
  rw [Bay.muxInit_iff.mpr ⟨{}, by simp [Bay.register], by simp [Bay.register]; omega, rfl,
    Nat.ne_of_lt hs, rfl⟩]
  simp only [Bay.register, Bay.addTrack, set_append_at]

theorem Bay.addTrack_setMux (b : Bay) (m m' : Mux) (hsel : m'.sel = m.sel) :
    (b.addTrack m).setMux b.muxes.length m' = b.addTrack m' := by
  unfold Bay.addTrack Bay.setMux
  rw [Bay.enableCb_setMuxes, Bay.enableCb_muxes, hsel]
  simp only [set_append_at]

theorem trackKind_of_mode {mode : Nat} (hmode : mode = trackRun ∨ mode = trackAct) :
    mode ≠ trackAny ∧
    (if mode = trackRun then some SelKind.thRunning
      else if mode = trackAct then some SelKind.thActive else none) =
      some (if mode = trackRun then SelKind.thRunning else SelKind.thActive) := by
  rcases hmode with rfl | rfl
  · exact ⟨by decide, by simp⟩
  · exact ⟨by decide, by simp [trackRun, trackAct]⟩

theorem Bay.trackThread_eq {b : Bay} {mode sel inp : Nat} (hmode : mode = trackRun ∨ mode = trackAct)
    (hs : sel < b.chans.length) (hi : inp < b.chans.length) :
    b.trackThread mode sel inp = .ok
      (b.addTrack { sel := sel, out := b.chans.length,
                    kind := if mode = trackRun then .thRunning else .thActive, inputs := [some inp] },
       b.chans.length) := by
  obtain ⟨hna, hk⟩ := trackKind_of_mode hmode
  unfold Bay.trackThread
  simp only [hna, if_false, hk]
  show (match (b.register {}).1.muxInit sel b.chans.length _ 1 with | .error e => _ | .ok (b1, mi) => _) = _
  rw [Bay.muxInit_register hs]
  simp only
  rw [Bay.muxSetInput_iff.mpr ⟨_, Bay.addTrack_last _ _, Nat.ne_of_lt hi, rfl, by simp; omega, rfl⟩]
  rw [Bay.addTrack_setMux _ _ _ (by rfl)]
  rfl

theorem Bay.trackCpu_eq {b : Bay} {sel : Nat} {raws : List Nat} {dflt : Value}
    (hs : sel < b.chans.length) (hr : ∀ c ∈ raws, c < b.chans.length) :
    b.trackCpu sel raws dflt = .ok
      (b.addTrack { sel := sel, out := b.chans.length, kind := .byIndex, inputs := raws.map some,
                    dflt := dflt }, b.chans.length) := by
  unfold Bay.trackCpu
  show (match (b.register {}).1.muxInit sel b.chans.length _ raws.length with | .error e => _ | .ok (b1, mi) => _) = _
  rw [Bay.muxInit_register hs]
  simp only
  rw [Bay.setInputs_eq raws _ _ 0 _ [] (Bay.addTrack_last _ _) rfl (by simp)
    (fun c hc => ⟨Nat.ne_of_lt (hr c hc), by simp; have := hr c hc; omega⟩),
    Bay.addTrack_setMux _ _ _ (by rfl)]
  simp only [Bay.muxSetDefault]
  rw [Bay.addTrack_last]
  exact congrArg (fun x => Except.ok (x, _)) (Bay.addTrack_setMux _ _ _ rfl)

/-- `track_connect_thread` (modes RUN / ACT) succeeds exactly when the state channel and the input
    are channels of the bay. -/
theorem Bay.trackThread_iff {b : Bay} {mode sel inp : Nat} {r : Bay × Nat}
    (hmode : mode = trackRun ∨ mode = trackAct) :
    b.trackThread mode sel inp = .ok r ↔ sel < b.chans.length ∧ inp < b.chans.length ∧
      r = (b.addTrack { sel := sel, out := b.chans.length,
                        kind := if mode = trackRun then .thRunning else .thActive, inputs := [some inp] },
           b.chans.length) := by
  refine ⟨fun h => ?_, fun ⟨hs, hi, hr⟩ => hr ▸ Bay.trackThread_eq hmode hs hi⟩
  have hb : sel < b.chans.length ∧ inp < b.chans.length := by
    obtain ⟨hna, hk⟩ := trackKind_of_mode hmode
    unfold Bay.trackThread at h
    simp only [hna, if_false, hk] at h
    change (match (b.register {}).1.muxInit sel b.chans.length _ 1 with
      | .error e => _ | .ok (b1, mi) => _) = _ at h
    split at h
    · cases h
    · rename_i b1 mi h1
      -- `mux_init` wants the select among the old channels, `mux_set_input` the input
      obtain ⟨_, _, hs, _, hne, _⟩ := Bay.muxInit_iff.mp h1
      have hs : sel < b.chans.length := by simp [Bay.register] at hs; omega
      rw [Bay.muxInit_register hs] at h1
      cases h1
      split at h
      · cases h
      · rename_i b2 h2
        obtain ⟨m, hm, hne, _, hlt, _⟩ := Bay.muxSetInput_iff.mp h2
        rw [Bay.addTrack_last] at hm
        cases hm
        have hne : inp ≠ b.chans.length := hne
        simp only [Bay.addTrack_chans, List.length_append, List.length_singleton] at hlt
        exact ⟨hs, by omega⟩
  rw [Bay.trackThread_eq hmode hb.1 hb.2] at h
  exact ⟨hb.1, hb.2, (Except.ok.inj h).symm⟩

theorem Bay.Topo.register {b : Bay} {L : Nat} (t : b.Topo L) :
    (b.register {}).1.Topo L := by
  refine ⟨t.wf.register _ rfl, t.layered, ?_, ?_, ?_⟩
  · intro c mj i; rw [Bay.register_cbsOf]; exact t.noIn c mj i
  · intro c; rw [Bay.register_chan]; split
    · rfl
    · exact t.allNull c
  · have : (b.register {}).1.chans.length = b.chans.length + 1 := by simp [Bay.register]
    rw [this]; exact Nat.le_succ_of_le t.len

theorem Bay.addTrack_chan (b : Bay) (m : Mux) (c : Nat) :
    (b.addTrack m).chan c =
      if c = b.chans.length then { dirtyWrite := true, allowDup := true } else b.chan c := by
  rw [Bay.addTrack, Bay.enableCb_chan]; exact Bay.register_chan b _ c

theorem Bay.addTrack_cbsOf {b : Bay} (wf : b.WF) {m : Mux} (hs : m.sel < b.chans.length) (s : Nat) :
    (b.addTrack m).cbsOf s =
      if s = m.sel then b.cbsOf s ++ [Cb.muxSelect b.muxes.length] else b.cbsOf s := by
  have hnot : Cb.muxSelect b.muxes.length ∉ b.cbsOf m.sel := fun hc => by
    obtain ⟨m', hm', _⟩ := wf.selCbOnly _ _ hc
    exact Nat.lt_irrefl _ (List.getElem?_eq_some_iff.mp hm').1
  unfold Bay.addTrack
  split
  · rename_i e
    rw [e, Bay.enableCb_cbsOf_eq _ _ (by simp [wf.cbsLen]; omega)]
    show (if _ ∈ (b.register {}).1.cbsOf m.sel then _ else (b.register {}).1.cbsOf m.sel ++ _) = _
    rw [Bay.register_cbsOf, if_neg hnot]
  · rename_i e
    rw [Bay.enableCb_cbsOf_ne _ _ e]; exact Bay.register_cbsOf b {} s

theorem Bay.WF.addTrack {b : Bay} (wf : b.WF) {m : Mux} (hs : m.sel < b.chans.length)
    (hout : m.out = b.chans.length)
    (hin : ∀ (i c : Nat), m.inputs[i]? = some (some c) → c < b.chans.length ∧ c ≠ m.sel) :
    (b.addTrack m).WF := by
  have h0 := ((wf.register {} rfl).muxInit (Bay.muxInit_register (kind := m.kind) (n := 0) hs)).1
  have h1 := h0.setMux (Bay.addTrack_last _ _) m rfl hout (fun i c hi => by simp at hi)
    (fun i c hi => Or.inr ⟨by simp; have := (hin i c hi).1; omega, (hin i c hi).2⟩)
  rwa [Bay.addTrack_setMux _ _ _ (by rfl)] at h1

theorem Bay.Topo.addTrack {b : Bay} {L : Nat} (t : b.Topo L) {m : Mux} (hs : m.sel < L)
    (hout : m.out = b.chans.length)
    (hin : ∀ (i c : Nat), m.inputs[i]? = some (some c) → c < L ∧ c ≠ m.sel) :
    (b.addTrack m).Topo L := by
  have hs' : m.sel < b.chans.length := Nat.lt_of_lt_of_le hs t.len
  refine ⟨t.wf.addTrack hs' hout fun i c hi => ⟨Nat.lt_of_lt_of_le (hin i c hi).1 t.len, (hin i c hi).2⟩,
    t.layered.addTrack t.wf hs (fun i c hi => (hin i c hi).1) hout t.len, ?_, ?_, ?_⟩
  · intro c mj i hc
    rw [Bay.addTrack_cbsOf t.wf hs'] at hc
    split at hc
    · rcases List.mem_append.mp hc with h | h
      · exact t.noIn c mj i h
      · simp at h
    · exact t.noIn c mj i hc
  · intro c; rw [Bay.addTrack_chan]; split
    · rfl
    · exact t.allNull c
  · rw [Bay.addTrack_chans, List.length_append]; exact Nat.le_succ_of_le t.len

theorem Bay.Topo.virgin {b : Bay} {L : Nat} (t : b.Topo L) (mi : Nat) (m : Mux) : b.Virgin mi m :=
  ⟨t.allNull _, t.allNull _, fun c i => t.noIn c mi i⟩

end Ovni.Emu
