import OvniModel.Lemmas.BayPropagate

/-
  C06: `bay_propagate` terminates successfully (no callback fails, the fuel
  of the model loops is never exhausted) in every safe configuration.
-/
namespace Ovni.Emu

theorem Mux.selectInput_lt {m : Mux} {v : Value} {i : Nat} (h : m.selectInput v = .ok (some i)) :
    i < m.inputs.length := by
  unfold Mux.selectInput at h
  split at h
  · cases h
  · rename_i s
    split at h
    · split at h
      · cases h
      · rename_i hn; cases h; omega
    · split at h
      · cases h
      · rename_i hl
        split at h
        · cases h; omega
        · cases h
    · split at h
      · cases h
      · rename_i hl
        split at h
        · cases h; omega
        · cases h

theorem Bay.write_out_ok (b : Bay) (c : Nat) (v : Value) (hlt : c < b.chans.length)
    (hs : (b.chan c).isStack = false) (hdw : (b.chan c).dirtyWrite = true)
    (had : (b.chan c).allowDup = true) : ∃ b', b.write c (·.set v) = .ok b' := by
  have hch := Bay.getElem?_chan hlt
  unfold Bay.write
  rw [hch]
  simp only [Chan.set, hs, hdw, had]
  simp

/-- `Safe` looks at the output flags, which a `chan_set` keeps, at the select values, which are
    no outputs, and at `selected`: that of the callback's own mux stays, or becomes the select
    function's answer. -/
theorem Bay.Safe.step {b b' : Bay} {cb : Cb} {m : Mux} {s : Option Nat} (sf : b.Safe)
    (fr : b.CbFrame b' cb m s) : b'.Safe := by
  have hop := chanOp_set _ _ _ fr.out
  constructor
  · intro mi m' i h1; rw [fr.muxes] at h1; exact sf.inSet mi m' i h1
  · intro mi m' j h1 h2; rw [fr.muxes] at h1
    by_cases e : mi = cb.mux
    · subst e; cases fr.mux.symm.trans h1
      cases cb with
      | muxInput mj i =>
        rw [Bay.selOf_congr (fr.input i rfl).2.2] at h2; exact sf.selRange _ m j fr.mux h2
      | muxSelect mj =>
        obtain ⟨hsel, hso, _⟩ := fr.select rfl
        rw [hso] at h2; subst h2; exact Mux.selectInput_lt hsel
    · rw [fr.selOf mi e] at h2; exact sf.selRange mi m' j h1 h2
  · intro mi m' h1; rw [fr.muxes] at h1
    by_cases e : m'.out = m.out
    · rw [e, hop.2.2.1, hop.2.2.2.1, ← e]; exact sf.outOk mi m' h1
    · rw [fr.chan _ e]; exact sf.outOk mi m' h1
  · intro mi m' h1; rw [fr.muxes] at h1
    rw [fr.chan _ (Ne.symm (sf.selRaw mi m' cb.mux m h1 fr.mux))]; exact sf.selOk mi m' h1
  · intro mi m' mj m'' h1 h2; rw [fr.muxes] at h1 h2; exact sf.selRaw mi m' mj m'' h1 h2

theorem Bay.runCb_total {b : Bay} {c : Nat} {cb : Cb} (wf : b.WF) (sf : b.Safe) (hmem : cb ∈ b.cbsOf c) :
    ∃ b', b.runCb cb = .ok b' ∧ b'.Safe := by
  suffices ∃ b', b.runCb cb = .ok b' from
    this.imp fun b' hrun => ⟨hrun, have ⟨_, _, fr⟩ := Bay.runCb_frame wf hrun; sf.step fr⟩
  cases cb with
  | muxInput mi i =>
    obtain ⟨m, hm, hi⟩ := wf.inCbOnly c mi i hmem
    obtain ⟨hs, hdw⟩ := sf.outOk mi m hm
    simp only [Bay.runCb, Bay.cbInput, hm, hi]
    exact Bay.write_out_ok b m.out (b.chan c).cur (wf.outLt mi m hm) hs hdw (wf.outDup mi m hm)
  | muxSelect mi =>
    obtain ⟨m, hm, _⟩ := wf.selCbOnly c mi hmem
    obtain ⟨s, hsel⟩ := sf.selOk mi m hm
    obtain ⟨hs, hdw⟩ := sf.outOk mi m hm
    simp only [Bay.runCb]
    rw [Bay.cbSelect_eq hm hsel (fun j h => sf.inSet mi m j hm (sf.selRange mi m j hm h))
      (fun i e => sf.inSet mi m i hm (Mux.selectInput_lt (e ▸ hsel)))]
    exact Bay.write_out_ok (b.reselect mi m s) m.out (b.specVal m s)
      (by rw [(Bay.reroute_fields b mi _ _ s).1]; exact wf.outLt mi m hm)
      (by rw [Bay.reroute_chan]; exact hs) (by rw [Bay.reroute_chan]; exact hdw)
      (by rw [Bay.reroute_chan]; exact wf.outDup mi m hm)

theorem Bay.propChan_total (c : Nat) : ∀ (fuel : Nat) (b : Bay) (j : Nat), b.WF → b.Safe →
    (b.cbsOf c).length ≤ fuel + j →
    ∃ b', b.propChan fuel c j = .ok b' ∧ b'.WF ∧ b'.Safe ∧ b'.chans.length = b.chans.length := by
  intro fuel
  induction fuel with
  | zero =>
    intro b j wf sf h
    exact ⟨b, Bay.propChan_none _ (List.getElem?_eq_none_iff.mpr (by omega)), wf, sf, rfl⟩
  | succ fuel ih =>
    intro b j wf sf h
    cases hcb : (b.cbsOf c)[j]? with
    | none => exact ⟨b, Bay.propChan_none _ hcb, wf, sf, rfl⟩
    | some cb =>
      have hjl : j < (b.cbsOf c).length := (List.getElem?_eq_some_iff.mp hcb).1
      obtain ⟨b1, hrun, sf1⟩ := Bay.runCb_total wf sf (List.mem_of_getElem? hcb)
      obtain ⟨hfix, e⟩ := Bay.propChan_succ fuel wf hcb hrun
      obtain ⟨b', h', wf', sf', _⟩ := ih b1 (j + 1) (wf.runCb hrun) sf1 (by rw [hfix]; omega)
      exact ⟨b', e ▸ h', wf', sf', (Bay.propChan_grown wf (Nat.le_of_lt hjl) (e ▸ h')).2.length⟩

theorem Bay.dirtyPhase_total : ∀ (fuel : Nat) (b : Bay) (k : Nat), b.WF → b.Safe →
    b.chans.length ≤ fuel + k → ∃ b', b.dirtyPhase fuel k = .ok b' ∧ b'.WF ∧ b'.Safe := by
  intro fuel
  induction fuel with
  | zero =>
    intro b k wf sf h
    have hl := wf.dirty_length
    have : b.dirty[k]? = none := List.getElem?_eq_none_iff.mpr (by omega)
    exact ⟨b, Bay.dirtyPhase_none _ this, wf, sf⟩
  | succ fuel ih =>
    intro b k wf sf h
    cases hc : b.dirty[k]? with
    | none => exact ⟨b, Bay.dirtyPhase_none _ hc, wf, sf⟩
    | some c =>
      obtain ⟨b1, hrun, wf1, sf1, hl1⟩ := Bay.propChan_total c (b.chanFuel c) b 0 wf sf 
        (by unfold Bay.chanFuel; omega)
      obtain ⟨b', h', wf', sf'⟩ := ih b1 (k + 1) wf1 sf1 (by rw [hl1]; omega)
      refine ⟨b', ?_, wf', sf'⟩
      rw [Bay.dirtyPhase]
      simp only [hc, hrun]
      exact h'

theorem Bay.propagate_safe {b : Bay} (wf : b.WF) (sf : b.Safe) :
    ∃ bF em, b.propagate = .ok (bF, em) ∧ bF.Safe := by
  obtain ⟨b1, h1, wf1, sf1⟩ := Bay.dirtyPhase_total b.chans.length b 0 wf sf (by omega)
  refine ⟨b1.flushed, b1.emitPhase, (Bay.propagate_iff wf).mpr ⟨b1, h1, rfl, rfl⟩, ?_⟩
  constructor
  · exact sf1.inSet
  · exact sf1.selRange
  · intro mi m hm; rw [Bay.flushed_chan, Chan.flush_eq]; exact sf1.outOk mi m hm
  · intro mi m hm; rw [Bay.flushed_cur]; exact sf1.selOk mi m hm
  · exact sf1.selRaw

theorem Bay.propagate_total {b : Bay} (wf : b.WF) (sf : b.Safe) : ∃ r, b.propagate = .ok r :=
  let ⟨bF, em, h, _⟩ := Bay.propagate_safe wf sf
  ⟨(bF, em), h⟩

theorem Bay.Writes.safe {ok : Nat → Prop} {b b1 : Bay} (wf : b.WF) (sf : b.Safe)
    (h : Bay.Writes ok b b1)
    (hok : ∀ c, ok c → b.NoOut c)
    (hsel : ∀ (mi : Nat) (m : Mux), b.muxes[mi]? = some m →
      ∃ s, m.selectInput (b1.chan m.sel).cur = .ok s) : b1.Safe := by
  have k := h.kept wf
  constructor
  · intro mi m i hm; exact sf.inSet mi m i (k.muxes ▸ hm)
  · intro mi m j hm hj; rw [Bay.selOf_congr k.selected] at hj; exact sf.selRange mi m j (k.muxes ▸ hm) hj
  · intro mi m hm
    have hm0 : b.muxes[mi]? = some m := k.muxes ▸ hm
    rw [k.chan_of_not_ok m.out (fun ho => (hok _ ho).out_ne hm0 rfl)]; exact sf.outOk mi m hm0
  · intro mi m hm; exact hsel mi m (k.muxes ▸ hm)
  · intro mi m mj m' hm hm'; exact sf.selRaw mi m mj m' (k.muxes ▸ hm) (k.muxes ▸ hm')

end Ovni.Emu
