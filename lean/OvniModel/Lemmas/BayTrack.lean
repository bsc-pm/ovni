import OvniModel.Emu.View
import OvniModel.Lemmas.Bay

/-
  C06: the select functions of the thread tracks (thread.c) and of the CPU tracks (`default_select`,
  mux.c) against the view specification of Emu/View.lean.
-/
namespace Ovni.Emu
open Ovni.Generated

/-- The thread state channel shows the state code once the state was set
    (`thread_set_state`), and is null while the thread is still unknown. -/
def StateChan (v : Value) (st : ThState) : Prop :=
  v = .int st.code ∨ (v = .null ∧ st = .unknown)

/-- The second case: a duplicate that `chan_set` ignores. -/
theorem Thread.setState_stateChan {t t' : Thread} {st : ThState}
    (h : t.setState st = .ok t') (hs : t.chState.isStack = false) :
    t'.chState.cur = .int st.code ∨ t'.chState = t.chState := by
  unfold Thread.setState at h
  simp only [bind, Except.bind, pure, Except.pure] at h
  split at h
  · cases h
  · split at h
    · cases h
    · rename_i cs hcs
      split at h
      · cases h
      · cases h
        exact (Chan.set_ok hcs).symm.imp (·.2) (·.2.2)

theorem selectInput_null (m : Mux) : m.selectInput .null = .ok none := rfl

theorem selectInput_running (m : Mux) (hk : m.kind = .thRunning) (hl : m.inputs.length = 1) (st : ThState) :
    m.selectInput (.int st.code) = .ok (if st.isRunning then some 0 else none) := by
  cases st <;> simp [Mux.selectInput, hk, hl, ThState.code, ThState.isRunning] <;> decide

theorem selectInput_active (m : Mux) (hk : m.kind = .thActive) (hl : m.inputs.length = 1) (st : ThState) :
    m.selectInput (.int st.code) = .ok (if st.isActive then some 0 else none) := by
  cases st <;> simp [Mux.selectInput, hk, hl, ThState.code, ThState.isActive] <;> decide

/-- The select function of a thread track (`thread_select_running` /
    `thread_select_active`) computes `trackHolds`. -/
theorem selectInput_track (m : Mux) (mode : Nat) (hmode : mode = trackRun ∨ mode = trackAct)
    (hk : m.kind = if mode = trackRun then .thRunning else .thActive) (hl : m.inputs.length = 1)
    (v : Value) (st : ThState) (hv : StateChan v st) :
    m.selectInput v = .ok (if trackHolds mode st then some 0 else none) := by
  have hth : trackHolds mode st = if mode = trackRun then st.isRunning else st.isActive := by
    rcases hmode with rfl | rfl <;> simp [trackHolds, trackRun, trackAny, trackAct]
  rcases hv with rfl | ⟨rfl, rfl⟩
  · rcases hmode with rfl | rfl
    · rw [selectInput_running m (by simpa using hk) hl, hth]; simp
    · rw [selectInput_active m (by simpa [trackAct, trackRun] using hk) hl, hth]; simp [trackAct, trackRun]
  · rw [selectInput_null, hth]
    rcases hmode with rfl | rfl <;> simp [ThState.isRunning, ThState.isActive]

/-- `default_select`: the value of `th_running` is the thread's global index. -/
theorem selectInput_index (m : Mux) (hk : m.kind = .byIndex) (g : Int) (s : Option Nat)
    (h : m.selectInput (.int g) = .ok s) : 0 ≤ g ∧ g.toNat < m.inputs.length ∧ s = some g.toNat := by
  simp only [Mux.selectInput, hk] at h
  split at h
  · cases h
  · rename_i hn
    cases h
    refine ⟨by omega, by omega, rfl⟩

end Ovni.Emu
