import OvniModel.Lemmas.ListLemmas

/-! A finite set of natural numbers as the bits of one number.  The kernel computes `|||`, `<<<` and
    `testBit` on binary numerals, so a membership test costs one step whatever the size of the set;
    table checks that compare two lists as sets, or ask for distinct entries, become one pass. -/
namespace Ovni.BitSet

def bits (l : List Nat) : Nat := l.foldr (fun n m => 1 <<< n ||| m) 0

theorem testBit_bits (l : List Nat) (n : Nat) : (bits l).testBit n = true ↔ n ∈ l := by
  induction l with
  | nil => simp [bits]
  | cons a r ih =>
    have : (bits (a :: r)).testBit n = (decide (a = n) || (bits r).testBit n) := by
      simp only [bits, List.foldr_cons, Nat.testBit_or, Nat.one_shiftLeft, Nat.testBit_two_pow]
    rw [this, Bool.or_eq_true, ih, decide_eq_true_eq, List.mem_cons, eq_comm]

theorem mem_iff_of_bits_eq {l₁ l₂ : List Nat} (h : bits l₁ = bits l₂) (n : Nat) : n ∈ l₁ ↔ n ∈ l₂ := by
  rw [← testBit_bits, ← testBit_bits, h]

/-- no element of `l` is in the set `seen`, and none occurs twice -/
def fresh : List Nat → Nat → Bool
  | [], _ => true
  | n :: r, seen => !seen.testBit n && fresh r (1 <<< n ||| seen)

theorem fresh_spec (l : List Nat) :
    ∀ seen, fresh l seen = true → l.Nodup ∧ ∀ n ∈ l, seen.testBit n = false := by
  induction l with
  | nil => simp
  | cons a r ih =>
    intro seen h
    simp only [fresh, Bool.and_eq_true, Bool.not_eq_true'] at h
    obtain ⟨hr, hs⟩ := ih _ h.2
    simp only [Nat.testBit_or, Nat.one_shiftLeft, Nat.testBit_two_pow, Bool.or_eq_false_iff,
      decide_eq_false_iff_not] at hs
    refine ⟨List.nodup_cons.mpr ⟨fun ha => (hs a ha).1 rfl, hr⟩, fun n hn => ?_⟩
    rcases List.mem_cons.mp hn with rfl | hn
    · exact h.1
    · exact (hs n hn).2

theorem nodup_of_fresh {α : Type} (f : α → Nat) {l : List α} (h : fresh (l.map f) 0 = true) : l.Nodup :=
  nodup_of_nodup_map (fresh_spec _ _ h).1

end Ovni.BitSet
