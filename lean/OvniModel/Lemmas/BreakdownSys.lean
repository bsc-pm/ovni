import OvniModel.Emu.Breakdown
import OvniModel.Lemmas.SortState

/-! The whole breakdown (`n` CPUs feeding the sort module): the sort module's `values`
    are the `tri` each CPU last delivered (`SysInv`). -/
namespace Ovni.Emu.Breakdown
open Ovni.Emu.Sort (Value)
open Ovni.Emu

/-- A history of `bay_propagate`s of the whole breakdown, from creation. -/
def runSys (k : Consts) (qs : List Int → List Int) (n : Nat)
    (hist : List (List (Nat × Src × Value))) : Sys :=
  hist.foldl (fun s sets => (stepSys k qs s sets).1) (Sys.init n)

structure SysInv (s : Sys) : Prop where
  sort : Sort.Inv s.sort
  len : s.sort.n = s.cpus.length
  vals : s.sort.values = s.cpus.map (fun c => c.seen.toInt)

theorem fire_seen_ne (k : Consts) (c : Cpu) (ch : Ch) (h : ch ≠ .tri) :
    (fire k c ch).1.seen = c.seen := by
  cases ch
  · rfl
  · simp only [fire]; split <;> rfl
  · rfl
  · simp only [fire]; split <;> rfl
  · exact absurd rfl h

/-- `seen` of a CPU changes only when its `tri` item is processed, and that is exactly when
    `sort_cb_input` is called with the new value (`fire_seen_ne` for the other items). -/
theorem propagateSys_inv (k : Consts) (qs : List Int → List Int) (hq : Sort.IsSort qs) :
    ∀ (fuel : Nat) (todo dirty : List (Nat × Ch)) (s : Sys) (w : List (Nat × Int)),
      SysInv s → SysInv (propagateSys k qs fuel todo dirty s w).1 := by
  intro fuel
  induction fuel with
  | zero => intro todo dirty s w h; exact h
  | succ f ih =>
    intro todo dirty s w h
    cases todo with
    | nil => exact h
    | cons it rest =>
      obtain ⟨i, ch⟩ := it
      simp only [propagateSys]
      cases hc : s.cpus[i]? with
      | none => exact ih _ _ _ _ h
      | some c =>
        simp only []
        apply ih
        by_cases ht : ch = .tri
        · subst ht
          simp only [if_true]
          obtain ⟨h1, h2, h3⟩ := Sort.step_spec qs hq s.sort h.sort i (fire k c .tri).1.mux1.out
          refine ⟨h1, by simp [h2, h.len], ?_⟩
          show (Sort.cbInput qs s.sort i (fire k c .tri).1.mux1.out).1.values = _
          rw [h3, List.map_set, h.vals]
          rfl
        · simp only [ht, if_false]
          constructor
          · exact h.sort
          · simp [h.len]
          · show s.sort.values = _
            rw [List.map_set, fire_seen_ne k c ch ht, h.vals]
            symm
            apply List.set_eq_self
            simp [hc]

theorem foldl_set_seen (sets : List (Nat × Src × Value)) : ∀ cs : List Cpu,
    ((sets.foldl setOne cs).map (fun c => c.seen.toInt) = cs.map (fun c => c.seen.toInt)) ∧
    (sets.foldl setOne cs).length = cs.length := by
  induction sets with
  | nil => intro cs; exact ⟨rfl, rfl⟩
  | cons e es ih =>
    intro cs
    simp only [List.foldl_cons]
    have := ih (setOne cs e)
    refine ⟨this.1.trans ?_, this.2.trans ?_⟩
    · unfold setOne
      cases hc : cs[e.1]? with
      | none => rfl
      | some c =>
        simp only []
        rw [List.map_set]
        apply List.set_eq_self
        obtain ⟨i, x, v⟩ := e
        cases x <;> simp [Cpu.set, hc]
    · unfold setOne
      cases hc : cs[e.1]? with
      | none => rfl
      | some c => simp

theorem stepSys_inv (k : Consts) (qs : List Int → List Int) (hq : Sort.IsSort qs) (s : Sys)
    (sets : List (Nat × Src × Value)) (h : SysInv s) : SysInv (stepSys k qs s sets).1 := by
  unfold stepSys
  apply propagateSys_inv k qs hq
  have := foldl_set_seen sets s.cpus
  exact ⟨h.sort, by dsimp only; rw [this.2]; exact h.len, by dsimp only; rw [this.1]; exact h.vals⟩

theorem sysInv_init (n : Nat) : SysInv (Sys.init n) := by
  constructor
  · exact Sort.inv_init n
  · simp [Sys.init, Sort.init]
  · simp [Sys.init, Sort.init, Cpu.init, Value.toInt]

theorem runSys_inv (k : Consts) (qs : List Int → List Int) (hq : Sort.IsSort qs) (n : Nat)
    (hist : List (List (Nat × Src × Value))) : SysInv (runSys k qs n hist) :=
  List.foldl_invariant _ (motive := fun _ s => SysInv s) (fun p _ s h => stepSys_inv k qs hq s p h)
    hist _ (sysInv_init n)

end Ovni.Emu.Breakdown
