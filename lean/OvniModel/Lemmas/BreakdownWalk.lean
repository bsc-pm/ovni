import OvniModel.Emu.Breakdown
import OvniModel.Lemmas.ListLemmas

/-! The dirty-list walk of one CPU's breakdown graph (`propagate`), for any numbering of the
    channels along which the callbacks write upwards: the list stays sorted by level, so a
    channel is processed after everything that can still write it, and a callback's edge, once
    delivered, stays delivered (`propagate_walk`). -/
namespace Ovni.Emu.Breakdown
open Ovni.Emu.Sort (Value)

theorem fire_tt_sel (k : Consts) (c : Cpu) (h : c.mux0.selected = some 1) :
    fire k c .tt = ({ c with mux0 := { c.mux0 with out := c.tt } }, [.tr]) := by
  simp [fire, h, Mux.cbInput]

theorem fire_tt_nsel (k : Consts) (c : Cpu) (h : c.mux0.selected ≠ some 1) :
    fire k c .tt = (c, []) := by
  simp [fire, h]

theorem fire_tr_sel (k : Consts) (c : Cpu) (h : c.mux1.selected = some 0) :
    fire k c .tr = ({ c with mux1 := { c.mux1 with out := c.mux0.out } }, [.tri]) := by
  simp [fire, h, Mux.cbInput]

theorem fire_tr_nsel (k : Consts) (c : Cpu) (h : c.mux1.selected ≠ some 0) :
    fire k c .tr = (c, []) := by
  simp [fire, h]

theorem fire_tri (k : Consts) (c : Cpu) : fire k c .tri = ({ c with seen := c.mux1.out }, []) := rfl

/-- The channel the callbacks of `x` write, if any. -/
def outCh : Ch → Option Ch
  | .ss => some .tr
  | .tt => some .tr
  | .idle => some .tri
  | .tr => some .tri
  | .tri => none

/-- The callbacks of a channel write at most its one output. -/
theorem fire_out (k : Consts) (c : Cpu) (x : Ch) : (fire k c x).2.Sublist (outCh x).toList := by
  cases x
  · exact .refl _
  · by_cases hs : c.mux0.selected = some 1
    · rw [fire_tt_sel k c hs]; exact .refl _
    · rw [fire_tt_nsel k c hs]; exact List.nil_sublist _
  · exact .refl _
  · by_cases hs : c.mux1.selected = some 0
    · rw [fire_tr_sel k c hs]; exact .refl _
    · rw [fire_tr_nsel k c hs]; exact List.nil_sublist _
  · exact .refl _

theorem mem_fire {k : Consts} {c : Cpu} {x w : Ch} (h : w ∈ (fire k c x).2) : outCh x = some w :=
  Option.mem_toList.mp ((fire_out k c x).subset h)

/-- A numbering of the channels along which the callbacks write in step — a channel of a higher
    level writes at or above what a lower one writes, and the sources lie below everything that is
    written — and strictly upwards into the channels `T` whose edges are followed. -/
structure Levels (rank : Ch → Nat) (T : Ch → Prop) : Prop where
  mono : ∀ {a b y w}, rank a ≤ rank b → outCh a = some y → outCh b = some w → rank y ≤ rank w
  src : ∀ (s : Src) {x w}, outCh x = some w → rank s.ch ≤ rank w
  lt : ∀ {x w}, outCh x = some w → T w → rank x < rank w

/-- The state of the walk: the dirty list is `done ++ todo`, the channels processed so far and
    those still to come.  `Del x c`: the edge out of channel `x` is delivered in `c`.
    * `orig`: an entry is a source or was written by a processed one (so, the levels being in
      step, what the next callback writes lands at or above the whole list: it stays sorted);
    * `pend`: the edge of a followed channel is delivered, or the channel is still to come. -/
structure Walk (rank : Ch → Nat) (T : Ch → Prop) (Del : Ch → Cpu → Prop) (done todo : List Ch) (c : Cpu) :
    Prop where
  sorted : (done ++ todo).Pairwise fun x y => rank x ≤ rank y
  nodup : (done ++ todo).Nodup
  orig : ∀ y ∈ done ++ todo, (∃ s : Src, s.ch = y) ∨ ∃ p ∈ done, outCh p = some y
  pend : ∀ x, T x → x ∈ todo ∨ Del x c

variable {rank : Ch → Nat} {T : Ch → Prop} {Del : Ch → Cpu → Prop}

/-- One iteration of `propagate`.  `hfire`: the callbacks of `x` deliver its edge; `hkeep`: they
    leave the edge of every channel they do not write as it is. -/
theorem Walk.step (k : Consts) (lv : Levels rank T) (hfire : ∀ c x, T x → Del x (fire k c x).1)
    (hkeep : ∀ c x y, T y → y ≠ x → y ∉ (fire k c x).2 → Del y c → Del y (fire k c x).1)
    {x : Ch} {done rest : List Ch} {c : Cpu} (h : Walk rank T Del done (x :: rest) c) :
    Walk rank T Del (done ++ [x])
      (rest ++ (fire k c x).2.filter (fun y => !(done ++ x :: rest).contains y)) (fire k c x).1 := by
  have e : ∀ new, (done ++ [x]) ++ (rest ++ new) = (done ++ x :: rest) ++ new := fun _ => by simp
  have hlow : ∀ a ∈ done ++ [x], rank a ≤ rank x := fun a ha =>
    (List.mem_append.mp ha).elim
      (fun ha => (List.pairwise_append.mp h.sorted).2.2 a ha x (List.mem_cons_self ..))
      (fun ha => List.mem_singleton.mp ha ▸ Nat.le_refl _)
  -- what `x` writes lands at or above the whole list
  have hup : ∀ a ∈ done ++ x :: rest, ∀ w ∈ (fire k c x).2, rank a ≤ rank w := by
    intro a ha w hw
    rcases h.orig a ha with ⟨s, rfl⟩ | ⟨p, hp, hpa⟩
    · exact lv.src s (mem_fire hw)
    · exact lv.mono (hlow p (List.mem_append_left _ hp)) hpa (mem_fire hw)
  refine ⟨?_, ?_, ?_, ?_⟩
  · rw [e]
    refine List.pairwise_append.mpr ⟨h.sorted, List.Pairwise.filter _ ?_, fun a ha w hw =>
      hup a ha w (List.mem_filter.mp hw).1⟩
    exact List.pairwise_of_forall_mem_list fun a ha b hb =>
      Option.some.inj ((mem_fire ha).symm.trans (mem_fire hb)) ▸ Nat.le_refl _
  · rw [e]
    exact nodup_append_unseen h.nodup ((fire_out k c x).nodup (by cases x <;> decide))
  · rw [e]
    intro y hy
    rcases List.mem_append.mp hy with hy | hy
    · exact (h.orig y hy).imp_right fun ⟨p, hp, hpy⟩ => ⟨p, List.mem_append_left _ hp, hpy⟩
    · exact Or.inr ⟨x, List.mem_append_right _ (List.mem_singleton_self x), mem_fire (List.mem_filter.mp hy).1⟩
  · intro y hT
    by_cases e' : y = x
    · rw [e']; exact Or.inr (hfire c x (e' ▸ hT))
    · by_cases hy : y ∈ (fire k c x).2
      · -- a followed channel that `x` writes lies above `x`: it has not been processed
        have hm : y ∈ (done ++ [x]) ++ (rest ++ _) := e _ ▸ mem_append_unseen.mpr (Or.inr hy)
        refine Or.inl ((List.mem_append.mp hm).resolve_left fun hd => ?_)
        have := hlow y hd
        have := lv.lt (mem_fire hy) hT
        omega
      · rcases h.pend y hT with hm | hd
        · exact Or.inl (List.mem_append_left _ ((List.mem_cons.mp hm).resolve_left e'))
        · exact Or.inr (hkeep c x y hT e' hy hd)

theorem nodup_length_le (l : List Ch) (h : l.Nodup) : l.length ≤ 5 :=
  h.length_le_of_subset (l₂ := [.ss, .tt, .idle, .tr, .tri]) (fun x _ => by cases x <;> simp)

theorem propagate_nil (k : Consts) (fuel : Nat) (d : List Ch) (c : Cpu) :
    propagate k fuel [] d c = c := by
  cases fuel <;> rfl

/-- Every channel is processed at most once, so the fuel lasts when it covers the channels not
    yet processed; at the end no edge is pending. -/
theorem propagate_walk (k : Consts) (lv : Levels rank T) (hfire : ∀ c x, T x → Del x (fire k c x).1)
    (hkeep : ∀ c x y, T y → y ≠ x → y ∉ (fire k c x).2 → Del y c → Del y (fire k c x).1) :
    ∀ (fuel : Nat) (done todo : List Ch) (c : Cpu), Walk rank T Del done todo c →
      5 ≤ fuel + done.length → ∀ x, T x → Del x (propagate k fuel todo (done ++ todo) c)
  | _, _, [], c, h, _, x, hT => by
    rw [propagate_nil]; exact (h.pend x hT).resolve_left List.not_mem_nil
  | 0, done, _ :: _, _, h, hf, _, _ => by
    have := nodup_length_le _ h.nodup
    simp only [List.length_append, List.length_cons] at this
    omega
  | fuel + 1, done, y :: rest, c, h, hf, x, hT => by
    have := propagate_walk k lv hfire hkeep fuel _ _ _ (h.step k lv hfire hkeep)
      (by simp only [List.length_append, List.length_singleton]; omega) x hT
    rw [propagate]
    simpa only [List.append_assoc, List.cons_append, List.nil_append] using this

/-- The start of `step`: the written sources, none of them processed. -/
theorem Walk.init {srcs : List Src} (hnd : srcs.Nodup)
    (hso : (srcs.map Src.ch).Pairwise fun x y => rank x ≤ rank y) {c : Cpu}
    (hp : ∀ x, T x → x ∈ srcs.map Src.ch ∨ Del x c) : Walk rank T Del [] (srcs.map Src.ch) c :=
  ⟨hso, hnd.map _ (fun a b hab => by cases a <;> cases b <;> simp [Src.ch] at hab ⊢),
    fun _ hy => by obtain ⟨s, _, e⟩ := List.mem_map.mp hy; exact Or.inl ⟨s, e⟩, hp⟩

/-- What the callbacks of the channels `ok` keep is kept by the walk of a list of such channels;
    `ok` is closed under what they write. -/
theorem propagate_keeps (k : Consts) (ok : Ch → Prop) (P : Cpu → Prop)
    (hok : ∀ {x w}, ok x → outCh x = some w → ok w) (hP : ∀ c x, ok x → P c → P (fire k c x).1) :
    ∀ (fuel : Nat) (todo dirty : List Ch) (c : Cpu), (∀ x ∈ todo, ok x) → P c →
      P (propagate k fuel todo dirty c)
  | 0, _, _, _, _, h => h
  | _ + 1, [], _, _, _, h => h
  | fuel + 1, x :: rest, dirty, c, ht, h => by
    have hx := ht x (List.mem_cons_self ..)
    rw [propagate]
    refine propagate_keeps k ok P hok hP fuel _ _ _ (fun y hy => ?_) (hP c x hx h)
    rcases List.mem_append.mp hy with hy | hy
    · exact ht y (List.mem_cons_of_mem _ hy)
    · exact hok hx (mem_fire (List.mem_filter.mp hy).1)

end Ovni.Emu.Breakdown
