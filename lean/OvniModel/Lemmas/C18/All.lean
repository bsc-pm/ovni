import OvniModel.Lemmas.C18.Ovni
import OvniModel.Lemmas.C18.Nanos6
import OvniModel.Lemmas.C18.Nosv
import OvniModel.Lemmas.C18.Nodes
import OvniModel.Lemmas.C18.Tampi
import OvniModel.Lemmas.C18.Mpi
import OvniModel.Lemmas.C18.Kernel
import OvniModel.Lemmas.C18.Openmp

/-! C18: the per-model table obligations together (`modelOk_all`), and what `modelOk` unfolds to. -/
namespace Ovni.Emu.Dispatch
open Ovni.Emu.EvSpec

theorem modelOk_all (M : ModelId) : modelOk M = true := by
  cases M
  · exact modelOk_ovni
  · exact modelOk_nanos6
  · exact modelOk_nosv
  · exact modelOk_nodes
  · exact modelOk_tampi
  · exact modelOk_mpi
  · exact modelOk_kernel
  · exact modelOk_openmp

theorem modelOk_unfold (M : ModelId) :
    initResult M = .ok (decls M) ∧ catalogueOk M (declaredMcv M) = true ∧ declsOk (decls M) = true := by
  have h := modelOk_all M
  unfold modelOk at h
  unfold declaredMcv decls
  cases hr : initResult M with
  | error e => rw [hr] at h; cases h
  | ok ds => rw [hr] at h; exact ⟨rfl, Bool.and_eq_true_iff.mp h⟩

/-- the declared codes read off the signatures, without compiling them -/
theorem declaredMcv_eq (M : ModelId) : declaredMcv M = M.evlist.map (sigMcv ·.1) :=
  compileAll_mcv (evspecInit_ok_iff.mp (modelOk_unfold M).1).2.1

end Ovni.Emu.Dispatch
