import OvniModel.Lemmas.Dispatch
import OvniModel.Lemmas.EvSpec

/-! The decidable per-model obligation of C18: everything that depends on the
    generated `evlist` / `table` of one model, as one Boolean so the kernel
    walks the strings once.  `Lemmas/C18/<Model>.lean` establish it (one module
    each, so lake checks the eight models in parallel) by evaluating `fastOk`
    (`Lemmas/C18/Fast.lean`), which implies it. -/
namespace Ovni.Emu.Dispatch
open Ovni.Emu.EvSpec

/-- `ovnidump`'s output buffer (`char buf[1024]` in `emit`) -/
def OUTLEN : Nat := 1024

/-- The two key lists coincide: the finite keys of the dispatcher are the
    declared codes plus the legacy ones, the declared codes are accepted, and
    the wildcard categories are the enumerated ones. -/
def catalogueOk (M : ModelId) (mcvs : List (Nat × Nat × Nat)) : Bool :=
  let fk := (disp M).finiteKeys (tableKeys M.table)
  (disp M).wild == wildCats M &&
  fk.all (fun k => mcvs.contains (M.char, k.1, k.2) || (legacy M).contains k) &&
  mcvs.all (fun t => t.1 == M.char && ((wildCats M).contains t.2.1 || fk.contains (t.2.1, t.2.2))) &&
  (legacy M).all (fun k => fk.contains k)

def declsOk (ds : List Decl) : Bool :=
  ds.all (fun d => layoutOk d.1 && printable d.1 d.2 OUTLEN)

def modelOk (M : ModelId) : Bool :=
  match initResult M with
  | .error _ => false
  | .ok ds => catalogueOk M (ds.map (·.1.mcv)) && declsOk ds

end Ovni.Emu.Dispatch
