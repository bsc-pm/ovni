import OvniModel.Lemmas.C18.Check
import OvniModel.Lemmas.BitSet

/-! `modelOk M` compares the dispatcher's keys with the declared codes by searching one list for every
    element of the other, and `model_evspec_init` looks every new MCV up among the earlier ones.  `fastOk M`
    asks the same of the same lists with the sets held as bit masks (`Lemmas/BitSet`), and leaves out the
    layout of the fields, which holds of whatever `compile` returns (`compileAll_layoutOk`).  It is what
    `Lemmas/C18/<Model>.lean` evaluate; `fastOk_sound` is the argument that it implies `modelOk M`. -/
namespace Ovni.Emu.Dispatch
open Ovni.Emu.EvSpec Ovni.BitSet

/-- a code `(category, value)` as one number: injective as long as the values are bytes (`small`) -/
def code (k : Nat × Nat) : Nat := k.1 * 256 + k.2

def small (l : List (Nat × Nat)) : Bool := l.all (fun k => k.2 < 256)

/-- membership in a `small` list whose codes are the bits of `m` -/
def memBits (m : Nat) (k : Nat × Nat) : Bool := k.2 < 256 && m.testBit (code k)

theorem memBits_eq {l : List (Nat × Nat)} (hl : small l = true) (k : Nat × Nat) :
    memBits (bits (l.map code)) k = true ↔ k ∈ l := by
  simp only [small, List.all_eq_true, decide_eq_true_eq] at hl
  simp only [memBits, Bool.and_eq_true, decide_eq_true_eq, testBit_bits, List.mem_map]
  constructor
  · rintro ⟨hk, k', hk', he⟩
    have := hl k' hk'
    obtain ⟨c, v⟩ := k
    obtain ⟨c', v'⟩ := k'
    simp only [code] at he hk this
    have : c' = c ∧ v' = v := by omega
    rw [← this.1, ← this.2]
    exact hk'
  · exact fun h => ⟨hl k h, k, h, rfl⟩

theorem mem_iff_of_codes {l₁ l₂ : List (Nat × Nat)} (h₁ : small l₁ = true) (h₂ : small l₂ = true)
    (h : bits (l₁.map code) = bits (l₂.map code)) (k : Nat × Nat) : k ∈ l₁ ↔ k ∈ l₂ := by
  rw [← memBits_eq h₁, ← memBits_eq h₂, h]

/-- `accepts` looks at the table keys only to ask whether the code is one of them -/
theorem accepts_congr (d : Disp) {keys keys' : List (Nat × Nat)} {c v : Nat}
    (h : keys.contains (c, v) = keys'.contains (c, v)) : d.accepts keys c v = d.accepts keys' c v := by
  unfold Disp.accepts
  rw [h]

/-- `finiteKeys` with the table keys looked up in their bit mask -/
def fastKeys (d : Disp) (keys : List (Nat × Nat)) : List (Nat × Nat) :=
  let m := bits (keys.map code)
  (d.candidates keys).filter fun k =>
    d.accepts (if memBits m k then [k] else []) k.1 k.2 && !(d.cats.lookup k.1 == some Rule.any)

theorem fastKeys_eq (d : Disp) {keys : List (Nat × Nat)} (h : small keys = true) :
    fastKeys d keys = d.finiteKeys keys := by
  unfold fastKeys Disp.finiteKeys
  refine List.filter_congr fun k _ => ?_
  congr 1
  refine accepts_congr d ?_
  have := memBits_eq h k
  by_cases hk : k ∈ keys <;> simp [hk, this.mpr, mt this.mp]

/-- The dispatcher's finite keys are, as a set, the declared codes outside the wildcard categories together
    with the legacy ones; every declaration carries the model's character. -/
def fastCatalogue (M : ModelId) (mcvs : List (Nat × Nat × Nat)) : Bool :=
  let keys := tableKeys M.table
  let fk := fastKeys (disp M) keys
  let dk := (mcvs.filter fun t => !(wildCats M).contains t.2.1).map (·.2) ++ legacy M
  (disp M).wild == wildCats M && mcvs.all (·.1 == M.char) &&
  small keys && small fk && small dk && bits (fk.map code) == bits (dk.map code)

theorem fastCatalogue_sound (M : ModelId) (mcvs : List (Nat × Nat × Nat))
    (h : fastCatalogue M mcvs = true) : catalogueOk M mcvs = true ∧ ∀ t ∈ mcvs, t.1 = M.char := by
  simp only [fastCatalogue, Bool.and_eq_true, beq_iff_eq, List.all_eq_true] at h
  obtain ⟨⟨⟨⟨⟨hw, hch⟩, hk⟩, hfk⟩, hdk⟩, hb⟩ := h
  rw [fastKeys_eq _ hk] at hfk hb
  have hmem := mem_iff_of_codes hfk hdk hb
  simp only [List.mem_append, List.mem_map, List.mem_filter, Bool.not_eq_true', List.contains_eq_mem,
    decide_eq_false_iff_not] at hmem
  simp only [catalogueOk, Bool.and_eq_true, beq_iff_eq, List.all_eq_true, Bool.or_eq_true,
    List.contains_eq_mem, decide_eq_true_eq]
  refine ⟨⟨⟨⟨hw, fun k hk => ?_⟩, fun t ht => ⟨hch t ht, ?_⟩⟩, fun k hk => (hmem k).mpr (Or.inr hk)⟩, hch⟩
  · rcases (hmem k).mp hk with ⟨t, ⟨ht, _⟩, rfl⟩ | hl
    · rw [← hch t ht]
      exact Or.inl ht
    · exact Or.inr hl
  · by_cases hwc : t.2.1 ∈ wildCats M
    · exact Or.inl hwc
    · exact Or.inr ((hmem t.2).mpr (Or.inl ⟨t, ⟨ht, hwc⟩, rfl⟩))

def fastOk (M : ModelId) : Bool :=
  match compileAll M.evlist with
  | none => false
  | some ds =>
    let mcvs := ds.map (·.1.mcv)
    !M.evlist.isEmpty && fresh (mcvs.map fun t => code t.2) 0 && fastCatalogue M mcvs &&
    ds.all fun d => printable d.1 d.2 OUTLEN

theorem fastOk_sound (M : ModelId) (h : fastOk M = true) : modelOk M = true := by
  unfold fastOk at h
  split at h
  · cases h
  · rename_i ds hds
    simp only [Bool.and_eq_true, Bool.not_eq_true'] at h
    obtain ⟨⟨⟨hne, hf⟩, hcat⟩, hdecls⟩ := h
    obtain ⟨hcat, hch⟩ := fastCatalogue_sound M _ hcat
    have : initResult M = .ok ds := evspecInit_ok_iff.mpr
      ⟨hne, hds, fun d hd => hch _ (List.mem_map_of_mem hd), nodup_of_fresh _ hf⟩
    unfold modelOk
    rw [this]
    refine Bool.and_eq_true_iff.mpr ⟨hcat, List.all_eq_true.mpr fun d hd => Bool.and_eq_true_iff.mpr ⟨?_, ?_⟩⟩
    · exact compileAll_layoutOk hds d hd
    · exact List.all_eq_true.mp hdecls d hd

end Ovni.Emu.Dispatch
