import OvniModel.Lemmas.C18.Fast

namespace Ovni.Emu.Dispatch

theorem modelOk_mpi : modelOk .mpi = true := fastOk_sound _ (by decide +kernel)

end Ovni.Emu.Dispatch
