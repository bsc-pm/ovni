import OvniModel.Lemmas.C18.Fast

namespace Ovni.Emu.Dispatch

theorem modelOk_nanos6 : modelOk .nanos6 = true := fastOk_sound _ (by decide +kernel)

end Ovni.Emu.Dispatch
