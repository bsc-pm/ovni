import OvniModel.Lemmas.C18.Fast

namespace Ovni.Emu.Dispatch

theorem modelOk_nodes : modelOk .nodes = true := fastOk_sound _ (by decide +kernel)

end Ovni.Emu.Dispatch
