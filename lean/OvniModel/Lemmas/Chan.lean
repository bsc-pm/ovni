import OvniModel.Emu.Chan
import OvniModel.Lemmas.ExceptLemmas

/-! `chan_set`, `chan_push`, `chan_pop` (Emu/Chan.lean): exactly when each succeeds, and with which
    channel; the one-directional readings below follow from these three equivalences. -/
namespace Ovni.Emu

/-- what `chan_set` stores for a value -/
def Value.single : Value → List Value
  | .null => []
  | v => [v]

/-- the channel after a write that takes effect -/
def Chan.wr (c : Chan) (vs : List Value) : Chan := { c with vals := vs, dirty := true }

/-- a write of the value of the last flush to a channel without `CHAN_ALLOW_DUP` -/
def Chan.IsDup (c : Chan) (v : Value) : Prop := c.allowDup = false ∧ c.last = v

/-- a dirty channel takes another write only with `CHAN_DIRTY_WRITE` -/
def Chan.Open (c : Chan) : Prop := c.dirty = true → c.dirtyWrite = true

theorem Chan.open_of_clean {c : Chan} (h : c.dirty = false) : c.Open :=
  fun hd => absurd (h.symm.trans hd) nofun

/- Each `if` of the operation becomes the disjunction of its two branches (`ite_eq_iff`); what is
   left is propositional. -/

theorem Chan.set_ok_iff {c c' : Chan} {v : Value} :
    c.set v = .ok c' ↔ c.isStack = false ∧ c.Open ∧
      (c.IsDup v ∧ c.ignoreDup = true ∧ c' = c ∨ ¬ c.IsDup v ∧ c' = c.wr v.single) := by
  cases v <;>
    simp [Chan.set, ite_eq_iff, Chan.Open, Chan.IsDup, Chan.wr, Value.single, @eq_comm _ c']

theorem Chan.push_ok_iff {n : Nat} {c c' : Chan} {v : Value} :
    c.push n v = .ok c' ↔ c.isStack = true ∧ c.Open ∧
      (c.IsDup v ∧ c.ignoreDup = true ∧ c' = c ∨
       ¬ c.IsDup v ∧ c.vals.length < n ∧ c' = c.wr (c.vals ++ [v])) := by
  simp [Chan.push, ite_eq_iff, Chan.Open, Chan.IsDup, Chan.wr, @eq_comm _ c']

theorem Chan.pop_ok_iff {c c' : Chan} {v : Value} :
    c.pop v = .ok c' ↔ c.isStack = true ∧ c.Open ∧ c.vals.getLast? = some v ∧ c' = c.wr c.vals.dropLast := by
  unfold Chan.pop
  cases c.vals.getLast? <;> simp [ite_eq_iff, Chan.Open, Chan.wr, @eq_comm _ c']

@[simp] theorem Chan.wr_dirty (c : Chan) (vs : List Value) : (c.wr vs).dirty = true := rfl

theorem Chan.flush_wr (c : Chan) (vs : List Value) :
    (c.wr vs).flush = { c with vals := vs, last := (c.wr vs).cur, dirty := false } := rfl

theorem Value.cur_single (v : Value) (c : Chan) : (c.wr v.single).cur = v := by
  cases v <;> rfl

theorem Chan.set_ok {ch ch' : Chan} {v : Value} (h : ch.set v = .ok ch') :
    (ch.allowDup = false ∧ ch.ignoreDup = true ∧ ch' = ch) ∨
    (ch' = { ch with vals := ch'.vals, dirty := true } ∧ ch'.cur = v) := by
  obtain ⟨_, _, ⟨hd, hi, rfl⟩ | ⟨_, rfl⟩⟩ := Chan.set_ok_iff.mp h
  · exact .inl ⟨hd.1, hi, rfl⟩
  · exact .inr ⟨rfl, Value.cur_single v ch⟩

theorem Chan.push_ok {n : Nat} {ch ch' : Chan} {v : Value} (h : ch.push n v = .ok ch') :
    ch' = ch ∨ ch' = { ch with vals := ch.vals ++ [v], dirty := true } := by
  obtain ⟨_, _, ⟨_, _, rfl⟩ | ⟨_, _, rfl⟩⟩ := Chan.push_ok_iff.mp h
  · exact .inl rfl
  · exact .inr rfl

theorem Chan.pop_ok {ch ch' : Chan} {v : Value} (h : ch.pop v = .ok ch') :
    ch' = { ch with vals := ch.vals.dropLast, dirty := true } :=
  (Chan.pop_ok_iff.mp h).2.2.2

theorem Chan.set_cur {ch ch' : Chan} {v : Value} (h : ch.set v = .ok ch') (hd : ch.allowDup = true) :
    ch'.cur = v := by
  rcases Chan.set_ok h with ⟨hf, _⟩ | ⟨_, hv⟩
  · rw [hd] at hf; cases hf
  · exact hv

theorem Chan.set_cur_noign {c c' : Chan} {v : Value} (hi : c.ignoreDup = false) (h : c.set v = .ok c') :
    c'.cur = v := by
  rcases Chan.set_ok h with ⟨_, hf, _⟩ | ⟨_, hv⟩
  · rw [hi] at hf; cases hf
  · exact hv

theorem Chan.set_dirty_of_dup {c c' : Chan} {v : Value} (hd : c.allowDup = true) (h : c.set v = .ok c') :
    c'.dirty = true := by
  obtain ⟨_, _, ⟨hdup, _⟩ | ⟨_, rfl⟩⟩ := Chan.set_ok_iff.mp h
  · exact absurd (hd.symm.trans hdup.1) nofun
  · rfl

theorem Chan.flush_eq (c : Chan) : c.flush = { c with last := c.flush.last, dirty := false } := by
  unfold Chan.flush; split
  · rfl
  · rename_i h; cases c; simp_all

theorem Chan.flush_vals (c : Chan) : c.flush.vals = c.vals := by
  rw [c.flush_eq]

theorem Chan.flush_dirty (c : Chan) : c.flush.dirty = false := by
  rw [c.flush_eq]

theorem Chan.flush_cur (c : Chan) : c.flush.cur = c.cur := by
  rw [c.flush_eq]; rfl

theorem getD_map_flush_cur (cs : List Chan) (i : Nat) :
    ((cs.map Chan.flush).getD i {}).cur = (cs.getD i {}).cur := by
  simp only [List.getD_eq_getElem?_getD, List.getElem?_map]
  cases cs[i]? with
  | none => rfl
  | some c => exact Chan.flush_cur c

theorem Chan.flush_of_clean {c : Chan} (h : c.dirty = false) : c.flush = c := by
  unfold Chan.flush; simp [h]

end Ovni.Emu
