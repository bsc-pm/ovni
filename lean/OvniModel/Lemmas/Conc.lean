import OvniModel.Lemmas.ConcSafe

/-! The compare-exchange race (C11). Every thread is in one of five phases (`Ph`); a tick of a
    thread in a phase is one of three moves (`Move`, `phase_tick`), and each move keeps both
    invariants: who has won (`RaceInv`) and what the winner has done to `rproc` (`EffInv`). -/
-- `[JData D]` is in scope for every statement, also for those that never look at jumbo data
set_option linter.unusedSectionVars false
namespace Ovni.Rt.Conc
open Ovni.Rt
variable {D : Type} [JData D]

/-- A later step of the winner. -/
def Quiet (frm : PSt) : Step D → Prop
  | .procWrite _ _ => True
  | .st (.store v) => v ≠ frm
  | _ => False

/-- has not started its call -/
def Fresh (k : Call D) (x : Thr D) : Prop := x.dead = false ∧ x.wins = 0 ∧ x.pend = [] ∧ x.calls = [k]
/-- about to execute the compare-exchange -/
def Loaded (frm to : PSt) (r : List (Step D)) (x : Thr D) : Prop :=
  x.dead = false ∧ x.wins = 0 ∧ x.pend = .st (.cas frm to) :: r ∧ x.calls = []
/-- passed the compare-exchange -/
def Won (frm : PSt) (x : Thr D) : Prop :=
  x.dead = false ∧ x.wins = 1 ∧ x.calls = [] ∧ ∀ s ∈ x.pend, Quiet frm s
/-- failed the compare-exchange: die() -/
def Lost (x : Thr D) : Prop := x.dead = true ∧ x.wins = 0
/-- alive, never raced, nothing left to run -/
def Idle (x : Thr D) : Prop := x.dead = false ∧ x.wins = 0 ∧ x.pend = [] ∧ x.calls = []
/-- A thread that does not race: it runs a thread-level program (any state of
    progress, possibly dead) with its own tid. -/
def Bystander (τ : Nat) (x : Thr D) : Prop := ThrSafe τ x ∧ x.wins = 0

theorem bystander_of_idle {x : Thr D} (h : Idle x) : Bystander x.t.tid x :=
  ⟨⟨rfl, by simp [h.2.2.1], by simp [h.2.2.2]⟩, h.2.1⟩

def Gl (frm : PSt) (N : Nat) (st : PSt) (th : Nat → Thr D) : Prop :=
  (st = frm → ∀ i, i < N → ¬ Won frm (th i) ∧ ¬ Lost (th i)) ∧
  (st ≠ frm → ∃ w, w < N ∧ Won frm (th w)) ∧
  (∀ i k, i < N → k < N → Won frm (th i) → Won frm (th k) → i = k)

def Phase (frm to : PSt) (N : Nat) (k : Call D) (r : List (Step D)) (τ i : Nat) (x : Thr D) : Prop :=
  (i < N ∧ (Fresh k x ∨ Loaded frm to r x ∨ Won frm x ∨ Lost x)) ∨ (N ≤ i ∧ Bystander τ x)

def Ph (frm to : PSt) (N : Nat) (kall : Nat → Call D) (rest : Nat → List (Step D)) (tidOf : Nat → Nat)
    (th : Nat → Thr D) : Prop :=
  ∀ i, (i < N ∧ (Fresh (kall i) (th i) ∨ Loaded frm to (rest i) (th i) ∨ Won frm (th i) ∨ Lost (th i)))
     ∨ (N ≤ i ∧ Bystander (tidOf i) (th i))

theorem ph_iff {frm to : PSt} {N : Nat} {kall : Nat → Call D} {rest : Nat → List (Step D)} {tidOf : Nat → Nat}
    {th : Nat → Thr D} :
    Ph frm to N kall rest tidOf th ↔ ∀ i, Phase frm to N (kall i) (rest i) (tidOf i) i (th i) := Iff.rfl

/-- The invariant of a race of `N` threads for `compare_exchange(frm → to)`
    while any number of other threads run thread-level programs. -/
structure RaceInv (frm to : PSt) (N : Nat) (kall : Nat → Call D) (rest : Nat → List (Step D))
    (tidOf : Nat → Nat) (c : Cfg D) : Prop where
  ph : Ph frm to N kall rest tidOf c.th
  gl : Gl frm N c.g.st c.th

theorem not_won_of_wins0 {frm : PSt} {x : Thr D} (h : x.wins = 0) : ¬ Won frm x := by
  intro w; have := w.2.1; omega

theorem Phase.done {frm to : PSt} {N : Nat} {k : Call D} {r : List (Step D)} {τ i : Nat} {x : Thr D}
    (h : Phase frm to N k r τ i x) (hi : i < N) (hd : x.done) : (Won frm x ∧ x.pend = []) ∨ Lost x := by
  have idle : x.dead = false → x.pend = [] ∧ x.calls = [] :=
    fun d => hd.resolve_left fun e => Bool.noConfusion (d.symm.trans e)
  rcases h with ⟨_, hf | hl | hw | hd⟩ | ⟨hge, _⟩
  · exact absurd (hf.2.2.2.symm.trans (idle hf.1).2) (List.cons_ne_nil _ _)
  · exact absurd (hl.2.2.1.symm.trans (idle hl.1).1) (List.cons_ne_nil _ _)
  · exact .inl ⟨hw, (idle hw.1).1⟩
  · exact .inr hd
  · exact absurd hi (Nat.not_lt.mpr hge)

/-- `Gl` survives a tick of thread `j` that neither moves `st` onto or off `frm` nor changes whether
    `j` has won, and lets `j` die only when `st ≠ frm` (`Move.same`, and `Move.quiet` for the winner). -/
theorem gl_same {frm st st' : PSt} {N : Nat} {th : Nat → Thr D} {j : Nat} {x' : Thr D}
    (h : Gl frm N st th) (hst : st' = frm ↔ st = frm)
    (hx : j < N → (Won frm x' ↔ Won frm (th j)) ∧ (Lost x' → Lost (th j) ∨ st ≠ frm)) :
    Gl frm N st' (upd th j x') := by
  obtain ⟨h1, h2, h3⟩ := h
  have W : ∀ i, i < N → (Won frm (upd th j x' i) ↔ Won frm (th i)) := by
    intro i hi
    rcases upd_cases th j x' i with ⟨rfl, e⟩ | ⟨_, e⟩ <;> rw [e]
    exact (hx hi).1
  refine ⟨fun e i hi => ⟨fun a => (h1 (hst.mp e) i hi).1 ((W i hi).mp a), fun l => ?_⟩, fun e => ?_,
    fun i k hi hk a b => h3 i k hi hk ((W i hi).mp a) ((W k hk).mp b)⟩
  · rcases upd_cases th j x' i with ⟨rfl, e'⟩ | ⟨_, e'⟩ <;> rw [e'] at l
    · exact ((hx hi).2 l).elim (h1 (hst.mp e) i hi).2 (· (hst.mp e))
    · exact (h1 (hst.mp e) i hi).2 l
  · obtain ⟨w, hw, a⟩ := h2 (fun e' => e (hst.mpr e'))
    exact ⟨w, hw, (W w hw).mpr a⟩

theorem gl_win {frm to st : PSt} (hne : frm ≠ to) {N : Nat} {th : Nat → Thr D} {j : Nat} {x' : Thr D}
    (h : Gl frm N st th) (hst : st = frm) (hj : j < N) (hw : Won frm x') : Gl frm N to (upd th j x') := by
  have only : ∀ i, i < N → Won frm (upd th j x' i) → i = j := by
    intro i hi a
    rcases upd_cases th j x' i with ⟨e, _⟩ | ⟨_, e⟩
    · exact e
    · exact absurd (e ▸ a) (h.1 hst i hi).1
  exact ⟨fun e => absurd e.symm hne, fun _ => ⟨j, hj, by rw [upd_same]; exact hw⟩,
    fun i k hi hk a b => (only i hi a).trans (only k hk b).symm⟩

/-- Effect on the shared state of a list of the winner's steps. -/
def applyQ : List (Step D) → Glob → Glob
  | [], g => g
  | .procWrite m src :: r, g => applyQ r { g with proc := g.proc.set m src }
  | .st (.store v) :: r, g => applyQ r { g with st := v }
  | _ :: r, g => applyQ r g

theorem applyQ_append (a b : List (Step D)) (g : Glob) : applyQ (a ++ b) g = applyQ b (applyQ a g) := by
  induction a generalizing g with
  | nil => rfl
  | cons s r ih =>
    cases s with
    | st op => cases op <;> exact ih _
    | _ => exact ih _

theorem stepEff_quiet (cap : Nat) (g : Glob) (x : Thr D) {frm : PSt} {s : Step D} (h : Quiet frm s) :
    stepEff cap g x s = ⟨applyQ [s] g, x, none⟩ ∧ (g.st ≠ frm → (applyQ [s] g).st ≠ frm) := by
  cases s with
  | procWrite m src => exact ⟨rfl, id⟩
  | st op =>
    cases op with
    | store v => exact ⟨rfl, fun _ => h⟩
    | _ => exact h.elim
  | _ => exact h.elim

/-- What a tick of thread `j` (in state `x`, the shared state being `g`) can do during a
    race: the new shared state and the new state of the thread. -/
inductive Move (frm to : PSt) (N : Nat) (rest : Nat → List (Step D)) (g : Glob) (x : Thr D) (j : Nat) :
    Glob → Thr D → Prop
  /-- nothing shared changes; a racer neither becomes nor stops being the winner, a winner
      does not advance, and a racer dies only when `st ≠ frm` -/
  | same {x' : Thr D} (h : j < N → (Won frm x' ↔ Won frm x) ∧ (Won frm x' → x'.pend = x.pend) ∧
      (Lost x' → Lost x ∨ g.st ≠ frm)) : Move frm to N rest g x j g x'
  /-- racer `j` passes the compare-exchange -/
  | win {x' : Thr D} (hj : j < N) (hst : g.st = frm) (hw : Won frm x') (hp : x'.pend = rest j) :
    Move frm to N rest g x j { g with st := to } x'
  /-- the winner executes its next step -/
  | quiet {s : Step D} {r : List (Step D)} (hj : j < N) (hw : Won frm x) (hp : x.pend = s :: r)
      (hw' : Won frm { x with pend := r }) (hs : g.st ≠ frm → (applyQ [s] g).st ≠ frm) :
    Move frm to N rest g x j (applyQ [s] g) { x with pend := r }

theorem phase_tick {fp : Foot} (hfp : fp.threadOK = true) (cap : Nat) {frm to : PSt} {N : Nat} {k : Call D}
    {rest : Nat → List (Step D)} {τ j : Nat} (hexp : ∀ t, expand fp t k = .st (.cas frm to) :: rest j)
    (hq : ∀ s ∈ rest j, Quiet frm s) (g : Glob) {x : Thr D} (hx : Phase frm to N k (rest j) τ j x) :
    Move frm to N rest g x j (tickEff fp cap g x).g (tickEff fp cap g x).x ∧
    Phase frm to N k (rest j) τ j (tickEff fp cap g x).x := by
  -- threads that have not won, before and after
  have idle : ∀ {x' : Thr D}, x.wins = 0 → x'.wins = 0 → (x'.dead = true → g.st ≠ frm) →
      Move frm to N rest g x j g x' := fun w w' hd => .same fun _ =>
    ⟨⟨fun a => absurd a (not_won_of_wins0 w'), fun a => absurd a (not_won_of_wins0 w)⟩,
      fun a => absurd a (not_won_of_wins0 w'), fun l => .inr (hd l.1)⟩
  have stay : Move frm to N rest g x j g x := .same fun _ => ⟨Iff.rfl, fun _ => rfl, .inl⟩
  rcases hx with ⟨hj, hf | hl | hw | hd⟩ | ⟨hj, hb⟩
  · obtain ⟨d, w, p, c⟩ := hf
    rw [tickEff_call fp cap g x d p k [] c, hexp]
    exact ⟨idle w w fun e => Bool.noConfusion (d.symm.trans e), .inl ⟨hj, .inr (.inl ⟨d, w, rfl, rfl⟩)⟩⟩
  · obtain ⟨d, w, p, c⟩ := hl
    rw [tickEff_step fp cap g x d _ _ p]
    by_cases hst : g.st = frm
    · have won : Won frm ({ x with pend := rest j, wins := x.wins + 1 } : Thr D) := ⟨d, by rw [w], c, hq⟩
      rw [stepEff, if_pos hst]
      exact ⟨.win hj hst won rfl, .inl ⟨hj, .inr (.inr (.inl won))⟩⟩
    · rw [stepEff, if_neg hst]
      exact ⟨idle w w fun _ => hst, .inl ⟨hj, .inr (.inr (.inr ⟨rfl, w⟩))⟩⟩
  · obtain ⟨d, w, c, q⟩ := hw
    cases p : x.pend with
    | nil =>
      rw [tickEff_stopped fp cap g x p c]
      exact ⟨stay, .inl ⟨hj, .inr (.inr (.inl ⟨d, w, c, q⟩))⟩⟩
    | cons s r =>
      have qs := stepEff_quiet cap g { x with pend := r } (q s (p ▸ List.mem_cons_self))
      have won : Won frm ({ x with pend := r } : Thr D) :=
        ⟨d, w, c, fun s' h' => q s' (p ▸ List.mem_cons_of_mem _ h')⟩
      rw [tickEff_step fp cap g x d s r p, qs.1]
      exact ⟨.quiet hj ⟨d, w, c, q⟩ p won qs.2, .inl ⟨hj, .inr (.inr (.inl won))⟩⟩
  · rw [tickEff_dead fp cap g x hd.1]
    exact ⟨stay, .inl ⟨hj, .inr (.inr (.inr hd))⟩⟩
  · have sf := tickEff_safe hfp cap g hb.1
    rw [show (tickEff fp cap g x).g = g from sf.1]
    exact ⟨.same fun h => absurd h (Nat.not_lt.mpr hj), .inr ⟨hj, sf.2.1, sf.2.2.1.trans hb.2⟩⟩

theorem raceInv_tick {fp : Foot} (hfp : fp.threadOK = true) (cap : Nat) {frm to : PSt} (hne : frm ≠ to) {N : Nat}
    {kall : Nat → Call D} {rest : Nat → List (Step D)} {tidOf : Nat → Nat}
    (hexp : ∀ i t, expand fp t (kall i) = .st (.cas frm to) :: rest i)
    (hq : ∀ i, ∀ s ∈ rest i, Quiet frm s)
    (c : Cfg D) (h : RaceInv frm to N kall rest tidOf c) (j : Nat) :
    RaceInv frm to N kall rest tidOf (tick fp cap c j) := by
  obtain ⟨mv, ph'⟩ := phase_tick hfp cap (hexp j) (hq j) c.g (ph_iff.mp h.ph j)
  refine ⟨fun i => ?_, ?_⟩
  · rw [tick_th]
    rcases upd_cases c.th j (tickEff fp cap c.g (c.th j)).x i with ⟨rfl, e⟩ | ⟨_, e⟩ <;> rw [e]
    · exact ph'
    · exact h.ph i
  rw [tick_th, tick_g]
  generalize (tickEff fp cap c.g (c.th j)).g = g', (tickEff fp cap c.g (c.th j)).x = x' at mv
  cases mv with
  | same hs => exact gl_same h.gl Iff.rfl fun hj => ⟨(hs hj).1, (hs hj).2.2⟩
  | win hj hst hw hp => exact gl_win hne h.gl hst hj hw
  | quiet hj hw hp hw' hs =>
    have hst : c.g.st ≠ frm := fun e => (h.gl.1 e j hj).1 hw
    exact gl_same h.gl ⟨fun a => absurd a (hs hst), fun a => absurd a hst⟩
      fun _ => ⟨⟨fun _ => hw, fun _ => hw'⟩, .inl⟩

theorem raceInv_run {fp : Foot} (hfp : fp.threadOK = true) (cap : Nat) {frm to : PSt} (hne : frm ≠ to) {N : Nat}
    {kall : Nat → Call D} {rest : Nat → List (Step D)} {tidOf : Nat → Nat}
    (hexp : ∀ i t, expand fp t (kall i) = .st (.cas frm to) :: rest i)
    (hq : ∀ i, ∀ s ∈ rest i, Quiet frm s) (σ : List Nat) :
    ∀ c : Cfg D, RaceInv frm to N kall rest tidOf c → RaceInv frm to N kall rest tidOf (runSched fp cap c σ) :=
  runSched_inv (fun c j h => raceInv_tick hfp cap hne hexp hq c h j) σ

/-- Until somebody wins, `rproc`'s members are untouched; afterwards the shared
    state is exactly what the steps the winner has executed so far made of
    `(to, p0)`. -/
def EffInv (frm to : PSt) (N : Nat) (rest : Nat → List (Step D)) (p0 : Proc) (c : Cfg D) : Prop :=
  (c.g.st = frm → c.g.proc = p0) ∧
  (∀ w, w < N → Won frm (c.th w) →
    ∃ done, rest w = done ++ (c.th w).pend ∧ c.g = applyQ done ⟨to, p0⟩)

theorem effInv_tick {fp : Foot} (hfp : fp.threadOK = true) (cap : Nat) {frm to : PSt} (hne : frm ≠ to) {N : Nat}
    {kall : Nat → Call D} {rest : Nat → List (Step D)} {tidOf : Nat → Nat}
    (hexp : ∀ i t, expand fp t (kall i) = .st (.cas frm to) :: rest i)
    (hq : ∀ i, ∀ s ∈ rest i, Quiet frm s) (p0 : Proc)
    (c : Cfg D) (h : RaceInv frm to N kall rest tidOf c) (he : EffInv frm to N rest p0 c) (j : Nat) :
    EffInv frm to N rest p0 (tick fp cap c j) := by
  obtain ⟨mv, _⟩ := phase_tick hfp cap (hexp j) (hq j) c.g (ph_iff.mp h.ph j)
  obtain ⟨e1, e2⟩ := he
  unfold EffInv
  rw [tick_th, tick_g]
  generalize (tickEff fp cap c.g (c.th j)).g = g', (tickEff fp cap c.g (c.th j)).x = x' at mv
  cases mv with
  | same hs =>
    refine ⟨e1, fun w hw a => ?_⟩
    rcases upd_cases c.th j x' w with ⟨rfl, e⟩ | ⟨_, e⟩ <;> rw [e] at a ⊢
    · rw [(hs hw).2.1 a]
      exact e2 w hw ((hs hw).1.mp a)
    · exact e2 w hw a
  | win hj hst hw hp =>
    refine ⟨fun a => absurd a.symm hne, fun w hw' a => ?_⟩
    rcases upd_cases c.th j x' w with ⟨rfl, e⟩ | ⟨_, e⟩ <;> rw [e] at a ⊢
    · exact ⟨[], hp ▸ rfl, by rw [← e1 hst]; rfl⟩
    · exact absurd a (h.gl.1 hst w hw').1
  | @quiet s r hj hw hp _ hs =>
    obtain ⟨done, hd1, hd2⟩ := e2 j hj hw
    refine ⟨fun a => absurd a (hs fun e => (h.gl.1 e j hj).1 hw), fun w hw' a => ?_⟩
    rcases upd_cases c.th j { (c.th j) with pend := r } w with ⟨rfl, e⟩ | ⟨ew, e⟩ <;> rw [e] at a ⊢
    · exact ⟨done ++ [s], by rw [hd1, hp, List.append_assoc]; rfl, by rw [applyQ_append, ← hd2]⟩
    · exact absurd (h.gl.2.2 w j hw' hj a hw) ew

theorem quiet_of_raw (frm : PSt) (src : Proc) (r : Nat × Nat × Nat × String) (h : quietRaw frm r = true) :
    Quiet frm (toStep (D := D) src r) := by
  obtain ⟨k, a, b, m⟩ := r
  unfold quietRaw at h
  unfold toStep
  by_cases hk : k = F.kMemberWrite
  · simp [hk, Quiet]
  · simp only [hk, if_false] at h ⊢
    split at h
    · next v hv =>
      simp only [hv, Quiet]
      simpa using h
    · simp at h

theorem shape_of_raw {frm to : PSt} {fp : Foot} {f : String} (h : raceShapeRaw frm to (fp.events f) = true)
    (src : Proc) :
    (fp.ordered f src : List (Step D)) = .st (.cas frm to) :: (fp.ordered f src).tail ∧
      ∀ s ∈ (fp.ordered f src : List (Step D)).tail, Quiet frm s := by
  unfold Foot.ordered
  generalize fp.events f = rows at h
  cases rows with
  | nil => simp [raceShapeRaw] at h
  | cons r rest =>
    obtain ⟨k, a, b, m⟩ := r
    simp only [raceShapeRaw, Bool.and_eq_true, bne_iff_ne, ne_eq, beq_iff_eq, List.all_eq_true] at h
    obtain ⟨⟨hk, hc⟩, hr⟩ := h
    refine ⟨?_, ?_⟩
    · simp [toStep, hk, hc]
    · intro s hs
      simp only [List.map_cons, List.tail_cons] at hs
      obtain ⟨r', hr', rfl⟩ := List.mem_map.mp hs
      exact quiet_of_raw frm src r' (hr r' hr')

theorem applyQ_st_raw (src : Proc) (rows : List (Nat × Nat × Nat × String)) (g : Glob) :
    (applyQ (rows.map (toStep (D := D) src)) g).st = stRaw rows g.st := by
  induction rows generalizing g with
  | nil => rfl
  | cons r rest ih =>
    obtain ⟨k, a, b, m⟩ := r
    simp only [List.map_cons, toStep, stRaw]
    by_cases hk : k = F.kMemberWrite
    · simp only [hk, if_true, applyQ]; exact ih _
    · simp only [hk, if_false]
      cases StOp.ofRaw (k, a, b) with
      | _ => simp only [applyQ]; exact ih _

theorem done_of_onlyLast (to fin : PSt) (src : Proc) (p0 : Proc) (rows : List (Nat × Nat × Nat × String))
    (h : onlyLastRaw to fin rows = true) (done pend : List (Step D))
    (hs : rows.map (toStep src) = done ++ pend) (hf : (applyQ done ⟨to, p0⟩).st = fin) : pend = [] := by
  obtain ⟨l1, l2, hl, h1, h2⟩ := List.map_eq_append_iff.mp hs
  cases l2 with
  | nil => simpa using h2.symm
  | cons x xs =>
    exfalso
    have hk : l1.length < rows.length := by rw [hl]; simp
    have ht : rows.take l1.length = l1 := by rw [hl]; simp
    unfold onlyLastRaw at h
    have := List.all_eq_true.mp h l1.length (List.mem_range.mpr hk)
    rw [ht] at this
    rw [← h1, applyQ_st_raw] at hf
    simp [hf] at this

/-- A race: the process state is `frm`; threads `0 … N-1` are each about to
    make the call `kall i`; every other thread `i` (OS tid `tidOf i`) runs an
    arbitrary thread-level program, at any stage. -/
structure Race (frm : PSt) (N : Nat) (kall : Nat → Call D) (tidOf : Nat → Nat) (c : Cfg D) : Prop where
  st : c.g.st = frm
  racers : ∀ i, i < N → Fresh (kall i) (c.th i)
  others : ∀ i, N ≤ i → Bystander (tidOf i) (c.th i)

/-- The call of the thread returned (ran to its end without die()). -/
def Returned (x : Thr D) : Prop := x.dead = false ∧ x.pend = [] ∧ x.calls = []

theorem race_invariants {fp : Foot} (hfp : fp.threadOK = true) (cap : Nat) {frm to : PSt} (hne : frm ≠ to) {N : Nat}
    {kall : Nat → Call D} {rest : Nat → List (Step D)} {tidOf : Nat → Nat}
    (hexp : ∀ i t, expand fp t (kall i) = .st (.cas frm to) :: rest i)
    (hq : ∀ i, ∀ s ∈ rest i, Quiet frm s)
    (c0 : Cfg D) (h0 : Race frm N kall tidOf c0) (σ : List Nat) :
    RaceInv frm to N kall rest tidOf (runSched fp cap c0 σ) ∧
    EffInv frm to N rest c0.g.proc (runSched fp cap c0 σ) := by
  have nw : ∀ i, i < N → ¬ Won frm (c0.th i) ∧ ¬ Lost (c0.th i) := fun i h =>
    ⟨not_won_of_wins0 (h0.racers i h).2.1, fun l => Bool.noConfusion ((h0.racers i h).1.symm.trans l.1)⟩
  refine runSched_inv (P := fun c => RaceInv frm to N kall rest tidOf c ∧ EffInv frm to N rest c0.g.proc c)
    (fun c j h => ⟨raceInv_tick hfp cap hne hexp hq c h.1 j, effInv_tick hfp cap hne hexp hq _ c h.1 h.2 j⟩)
    σ c0 ⟨⟨fun i => ?_, fun _ => nw, fun h => absurd h0.st h, fun i k hi _ a _ => absurd a (nw i hi).1⟩,
      fun _ => rfl, fun w hw a => absurd a (nw w hw).1⟩
  by_cases h : i < N
  · exact .inl ⟨h, .inl (h0.racers i h)⟩
  · exact .inr ⟨Nat.le_of_not_lt h, h0.others i (Nat.le_of_not_lt h)⟩

end Ovni.Rt.Conc
