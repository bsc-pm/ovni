import OvniModel.Rt.Conc
import OvniModel.Lemmas.Rt

/-! Thread-level ticks of the interleaving semantics (C11): a safe step touches nothing shared
    and only the thread's own files (`stepEff_safe`), hence the unwinding lemma `agree_run`:
    a thread sees the same whether the others run or not. -/
-- `[JData D]` is in scope for every statement, also for those that never look at jumbo data
set_option linter.unusedSectionVars false
namespace Ovni.Rt.Conc
open Ovni.Rt
variable {D : Type} [JData D]

@[simp] theorem upd_same {α : Type} (f : Nat → α) (i : Nat) (v : α) : upd f i v i = v := by
  simp [upd]

@[simp] theorem upd_other {α : Type} (f : Nat → α) {i j : Nat} (v : α) (h : j ≠ i) : upd f i v j = f j := by
  simp [upd, h]

theorem upd_cases {α : Type} (f : Nat → α) (i : Nat) (v : α) (j : Nat) :
    (j = i ∧ upd f i v j = v) ∨ (j ≠ i ∧ upd f i v j = f j) := by
  by_cases h : j = i
  · exact .inl ⟨h, by rw [h, upd_same]⟩
  · exact .inr ⟨h, upd_other f v h⟩

theorem upd_apply {α : Type} (f : Nat → α) (i j : Nat) (v : α) : upd f i v j = if j = i then v else f j := rfl

theorem runSched_nil (fp : Foot) (cap : Nat) (c : Cfg D) : runSched fp cap c [] = c := rfl

theorem runSched_cons (fp : Foot) (cap : Nat) (c : Cfg D) (i : Nat) (σ : List Nat) :
    runSched fp cap c (i :: σ) = runSched fp cap (tick fp cap c i) σ := rfl

theorem runSched_append (fp : Foot) (cap : Nat) (c : Cfg D) (σ τ : List Nat) :
    runSched fp cap c (σ ++ τ) = runSched fp cap (runSched fp cap c σ) τ := by
  simp [runSched, List.foldl_append]

theorem runSched_inv {fp : Foot} {cap : Nat} {P : Cfg D → Prop} (h : ∀ c j, P c → P (tick fp cap c j))
    (σ : List Nat) : ∀ c, P c → P (runSched fp cap c σ) := by
  induction σ with
  | nil => exact fun _ h0 => h0
  | cons j σ ih => exact fun c h0 => ih _ (h c j h0)

@[simp] theorem tick_g (fp : Foot) (cap : Nat) (c : Cfg D) (i : Nat) :
    (tick fp cap c i).g = (tickEff fp cap c.g (c.th i)).g := rfl

@[simp] theorem tick_th (fp : Foot) (cap : Nat) (c : Cfg D) (i : Nat) :
    (tick fp cap c i).th = upd c.th i (tickEff fp cap c.g (c.th i)).x := rfl

@[simp] theorem tick_fs (fp : Foot) (cap : Nat) (c : Cfg D) (i : Nat) :
    (tick fp cap c i).fs = c.fs.write (tickEff fp cap c.g (c.th i)).w := rfl

theorem tickEff_dead (fp : Foot) (cap : Nat) (g : Glob) (x : Thr D) (hd : x.dead = true) :
    tickEff fp cap g x = ⟨g, x, none⟩ := by
  simp [tickEff, hd]

theorem tickEff_stopped (fp : Foot) (cap : Nat) (g : Glob) (x : Thr D) (hp : x.pend = []) (hc : x.calls = []) :
    tickEff fp cap g x = ⟨g, x, none⟩ := by
  unfold tickEff
  split
  · rfl
  · simp [hp, hc]

theorem tickEff_step (fp : Foot) (cap : Nat) (g : Glob) (x : Thr D) (hd : x.dead = false)
    (s : Step D) (r : List (Step D)) (hp : x.pend = s :: r) :
    tickEff fp cap g x = stepEff cap g { x with pend := r } s := by
  simp [tickEff, hd, hp]

theorem tickEff_call (fp : Foot) (cap : Nat) (g : Glob) (x : Thr D) (hd : x.dead = false)
    (hp : x.pend = []) (k : Call D) (ks : List (Call D)) (hc : x.calls = k :: ks) :
    tickEff fp cap g x = ⟨g, { x with pend := expand fp x.t k, calls := ks }, none⟩ := by
  simp [tickEff, hd, hp, hc]

theorem tickEff_cases (fp : Foot) (cap : Nat) (g : Glob) (x : Thr D) :
    tickEff fp cap g x = ⟨g, x, none⟩ ∨
    (∃ k ks, x.calls = k :: ks ∧
      tickEff fp cap g x = ⟨g, { x with pend := expand fp x.t k, calls := ks }, none⟩) ∨
    (∃ s r, x.pend = s :: r ∧ tickEff fp cap g x = stepEff cap g { x with pend := r } s) := by
  rcases Bool.eq_false_or_eq_true x.dead with hd | hd
  · exact .inl (tickEff_dead fp cap g x hd)
  · cases hp : x.pend with
    | cons s r => exact .inr (.inr ⟨s, r, rfl, tickEff_step fp cap g x hd s r hp⟩)
    | nil =>
      cases hc : x.calls with
      | nil => exact .inl (tickEff_stopped fp cap g x hp hc)
      | cons k ks => exact .inr (.inl ⟨k, ks, rfl, tickEff_call fp cap g x hd hp k ks hc⟩)

theorem guard_eq_some {α : Type} {c : Prop} [Decidable c] {o : Option α} {b : α}
    (h : (if c then none else o) = some b) : o = some b :=
  (Option.ite_none_left_eq_some.mp h).2

theorem locRun_inv {cap : Nat} {p : Proc} {t t' : TLoc D} {f : LocOp D} (h : f.run cap p t = some t') :
    (∃ op, step cap t.s op = some t'.s ∧ t'.tid = t.tid) ∨
    (t'.s = t.s ∧ (t'.tid = t.tid ∨ f = .initTid t'.tid)) := by
  cases f with
  | buf op =>
    obtain ⟨s', hs, rfl⟩ := Option.map_eq_some_iff.mp h
    exact .inl ⟨op, hs, rfl⟩
  | initTid tid => cases guard_eq_some h; exact .inr ⟨rfl, .inr rfl⟩
  | populate => cases h; exact .inr ⟨rfl, .inl rfl⟩
  | cpu _ _ | rank _ _ => cases guard_eq_some h; exact .inr ⟨rfl, .inl rfl⟩
  | metaSet _ _ | guard | finiMeta => cases guard_eq_some (guard_eq_some h); exact .inr ⟨rfl, .inl rfl⟩

/-- A step that writes nothing shared, and initialises only with the thread's own tid. -/
def StepSafe (τ : Nat) : Step D → Prop
  | .st (.load _) => True
  | .st _ => False
  | .procWrite _ _ => False
  | .loc (.initTid t) => t = τ
  | _ => True

/-- A thread-level call (not `ovni_proc_init`/`ovni_proc_fini`) that uses the thread's own tid. -/
def CallSafe (τ : Nat) : Call D → Prop
  | .procInit _ => False
  | .procFini => False
  | .threadInit t => t = τ
  | _ => True

def ThrSafe (τ : Nat) (x : Thr D) : Prop :=
  x.t.tid = τ ∧ (∀ s ∈ x.pend, StepSafe τ s) ∧ (∀ k ∈ x.calls, CallSafe τ k)

theorem opName_mem (op : Op D) : opName op ∈ threadFns := by
  cases op with
  | mark k _ _ =>
    simp only [opName]
    split
    · simp only [threadFns, List.mem_cons, true_or, or_true]
    · split <;> simp only [threadFns, List.mem_cons, true_or, or_true]
  | _ => simp only [opName, threadFns, List.mem_cons, true_or, or_true]

theorem shared_safe {fp : Foot} {f : String} (h : fp.fnOK f = true) (τ : Nat) (src : Proc) :
    ∀ s ∈ (fp.shared f src : List (Step D)), StepSafe τ s := by
  unfold Foot.fnOK at h
  simp only [Bool.and_eq_true, List.all_eq_true, List.isEmpty_iff] at h
  obtain ⟨hops, hw⟩ := h
  intro s hs
  unfold Foot.shared at hs
  rw [hw] at hs
  simp only [List.map_nil, List.append_nil, List.mem_map] at hs
  obtain ⟨r, hr, rfl⟩ := hs
  have := hops r hr
  unfold isLoadRaw at this
  split at this
  · next e he => rw [he]; trivial
  · simp at this

/-- The shared part of a thread-level call is safe by the footprint (`threadOK`), the rest by
    inspection of `expand`. -/
theorem expand_safe {fp : Foot} (h : fp.threadOK = true) (τ : Nat) (t : TLoc D) (k : Call D)
    (hk : CallSafe τ k) : ∀ s ∈ expand fp t k, StepSafe τ s := by
  have ok : ∀ f ∈ threadFns, ∀ l : List (Step D), (∀ s ∈ l, StepSafe τ s) →
      ∀ s ∈ fp.shared f (havoc t) ++ l, StepSafe τ s :=
    fun f hf l hl => List.forall_mem_append.mpr ⟨shared_safe (List.all_eq_true.mp h f hf) τ _, hl⟩
  cases k with
  | procInit a => exact hk.elim
  | procFini => exact hk.elim
  | threadInit tid =>
    simp only [expand]
    split
    · exact fun _ hs => nomatch hs
    · refine ok _ (by simp only [threadFns, List.mem_cons, true_or]) _ fun s hs => ?_
      simp only [List.mem_cons, List.not_mem_nil, or_false] at hs
      rcases hs with rfl | rfl | rfl | rfl | rfl | rfl
      · exact hk
      all_goals exact True.intro
  | threadFree =>
    refine ok _ (by simp only [threadFns, List.mem_cons, true_or, or_true]) _ fun s hs => ?_
    simp only [List.mem_cons, List.not_mem_nil, or_false] at hs
    rcases hs with rfl | rfl | rfl <;> exact True.intro
  | stream op =>
    exact ok _ (opName_mem op) _ (List.forall_mem_cons.mpr ⟨True.intro, List.forall_mem_singleton.mpr True.intro⟩)
  | attrFlush =>
    exact ok _ (by simp only [threadFns, List.mem_cons, true_or, or_true]) _
      (List.forall_mem_cons.mpr ⟨True.intro, List.forall_mem_singleton.mpr True.intro⟩)
  | addCpu _ _ | setRank _ _ | require _ _ | attrSet _ _ =>
    exact ok _ (by simp only [threadFns, List.mem_cons, true_or, or_true]) _
      (List.forall_mem_singleton.mpr True.intro)

theorem stepEff_safe (cap : Nat) (g : Glob) {τ : Nat} {x : Thr D} (hx : ThrSafe τ x) {s : Step D}
    (hs : StepSafe τ s) :
    (stepEff cap g x s).g = g ∧ ThrSafe τ (stepEff cap g x s).x ∧ (stepEff cap g x s).x.wins = x.wins ∧
      ∀ w, (stepEff cap g x s).w = some w → w.1 = τ := by
  cases s with
  | st op =>
    cases op with
    | load e =>
      cases e with
      | none => exact ⟨rfl, hx, rfl, fun _ e => nomatch e⟩
      | some v => simp only [stepEff]; split <;> exact ⟨rfl, hx, rfl, fun _ e => nomatch e⟩
    | _ => exact hs.elim
  | procWrite m src => exact hs.elim
  | loc f =>
    simp only [stepEff]
    cases hrun : f.run cap g.proc x.t with
    | none => exact ⟨rfl, hx, rfl, fun _ e => nomatch e⟩
    | some t' =>
      refine ⟨rfl, ⟨?_, hx.2⟩, rfl, fun _ e => nomatch e⟩
      rcases locRun_inv hrun with ⟨_, _, h⟩ | ⟨_, h | h⟩
      · exact h.trans hx.1
      · exact h.trans hx.1
      · rw [h] at hs; exact hs
  | fsObs => exact ⟨rfl, hx, rfl, fun w e => by cases e; exact hx.1⟩
  | fsJson => exact ⟨rfl, hx, rfl, fun w e => by cases e; exact hx.1⟩

theorem tickEff_safe {fp : Foot} (hfp : fp.threadOK = true) (cap : Nat) (g : Glob) {τ : Nat} {x : Thr D}
    (hx : ThrSafe τ x) :
    (tickEff fp cap g x).g = g ∧ ThrSafe τ (tickEff fp cap g x).x ∧ (tickEff fp cap g x).x.wins = x.wins ∧
      ∀ w, (tickEff fp cap g x).w = some w → w.1 = τ := by
  rcases tickEff_cases fp cap g x with e | ⟨k, ks, hc, e⟩ | ⟨s, r, hp, e⟩ <;> rw [e]
  · exact ⟨rfl, hx, rfl, fun _ e => nomatch e⟩
  · have hk := hx.2.2
    rw [hc] at hk
    exact ⟨rfl, ⟨hx.1, expand_safe hfp τ x.t k (hk k List.mem_cons_self),
      fun k' h' => hk k' (List.mem_cons_of_mem _ h')⟩, rfl, fun _ e => nomatch e⟩
  · have hs := hx.2.1
    rw [hp] at hs
    exact stepEff_safe cap g (x := { x with pend := r })
      ⟨hx.1, fun s' h' => hs s' (List.mem_cons_of_mem _ h'), hx.2.2⟩ (hs s List.mem_cons_self)

def SafeCfg (tidOf : Nat → Nat) (c : Cfg D) : Prop := ∀ i, ThrSafe (tidOf i) (c.th i)

/-- What thread `i` can observe: the shared state, its own state, its own files. -/
def Agree (tidOf : Nat → Nat) (i : Nat) (c1 c2 : Cfg D) : Prop :=
  c1.g = c2.g ∧ c1.th i = c2.th i ∧ ∀ k, c1.fs (tidOf i) k = c2.fs (tidOf i) k

def OthersStopped (i : Nat) (c : Cfg D) : Prop := ∀ j, j ≠ i → (c.th j).pend = [] ∧ (c.th j).calls = []

theorem safeCfg_tick {fp : Foot} (hfp : fp.threadOK = true) (cap : Nat) {tidOf : Nat → Nat} {c : Cfg D}
    (h : SafeCfg tidOf c) (j : Nat) : SafeCfg tidOf (tick fp cap c j) ∧ (tick fp cap c j).g = c.g := by
  have hs := tickEff_safe hfp cap c.g (h j)
  refine ⟨fun i => ?_, hs.1⟩
  rw [tick_th, upd_apply]
  split
  · next e => exact e ▸ hs.2.1
  · exact h i

theorem safeCfg_run {fp : Foot} (hfp : fp.threadOK = true) (cap : Nat) {tidOf : Nat → Nat} {c : Cfg D}
    (h : SafeCfg tidOf c) (σ : List Nat) :
    SafeCfg tidOf (runSched fp cap c σ) ∧ (runSched fp cap c σ).g = c.g :=
  runSched_inv (P := fun c' => SafeCfg tidOf c' ∧ c'.g = c.g)
    (fun _ j h' => ⟨(safeCfg_tick hfp cap h'.1 j).1, (safeCfg_tick hfp cap h'.1 j).2.trans h'.2⟩) σ c ⟨h, rfl⟩

theorem fs_write_other (fs : FS D) (w : Option (Nat × FKind × File D)) (τ : Nat) (k : FKind)
    (h : ∀ w', w = some w' → w'.1 ≠ τ) : fs.write w τ k = fs τ k := by
  cases w with
  | none => rfl
  | some w' =>
    obtain ⟨t, k', f⟩ := w'
    have : ¬ (τ = t ∧ k = k') := fun a => h _ rfl a.1.symm
    simp [FS.write, this]

theorem fs_write_congr (fs1 fs2 : FS D) (w : Option (Nat × FKind × File D)) (τ : Nat) (k : FKind)
    (h : fs1 τ k = fs2 τ k) : fs1.write w τ k = fs2.write w τ k := by
  cases w with
  | none => exact h
  | some w' =>
    obtain ⟨t, k', f⟩ := w'
    simp only [FS.write]
    split
    · rfl
    · exact h

theorem tick_stopped (fp : Foot) (cap : Nat) (c : Cfg D) (j : Nat)
    (hp : (c.th j).pend = []) (hc : (c.th j).calls = []) : tick fp cap c j = c := by
  unfold tick
  rw [tickEff_stopped fp cap c.g (c.th j) hp hc]
  cases c with
  | mk g fs th =>
    simp only [FS.write]
    congr
    funext k
    by_cases e : k = j
    · subst e; simp
    · simp [e]

theorem othersStopped_tick (fp : Foot) (cap : Nat) {i : Nat} {c : Cfg D} (st : OthersStopped i c) (j : Nat) :
    OthersStopped i (tick fp cap c j) := by
  by_cases e : j = i
  · subst e
    intro k hk
    rw [tick_th, upd_other _ _ hk]
    exact st k hk
  · rw [tick_stopped fp cap c j (st j e).1 (st j e).2]
    exact st

/-- Unwinding: whatever the other threads do in `c1` (and nothing in `c2`),
    thread `i` sees the same in both. -/
theorem agree_tick {fp : Foot} (hfp : fp.threadOK = true) (cap : Nat) {tidOf : Nat → Nat}
    (hinj : ∀ a b, tidOf a = tidOf b → a = b) {i : Nat} {c1 c2 : Cfg D} (s1 : SafeCfg tidOf c1)
    (st : OthersStopped i c2) (a : Agree tidOf i c1 c2) (j : Nat) :
    Agree tidOf i (tick fp cap c1 j) (tick fp cap c2 j) := by
  obtain ⟨ag, at_, af⟩ := a
  by_cases e : j = i
  · subst e
    refine ⟨?_, ?_, fun k => ?_⟩
    · rw [tick_g, tick_g, ag, at_]
    · rw [tick_th, tick_th, upd_same, upd_same, ag, at_]
    · rw [tick_fs, tick_fs, ag, at_]
      exact fs_write_congr _ _ _ _ _ (af k)
  · have hs := tickEff_safe hfp cap c1.g (s1 j)
    have hi : i ≠ j := fun h => e h.symm
    rw [tick_stopped fp cap c2 j (st j e).1 (st j e).2]
    refine ⟨hs.1.trans ag, ?_, fun k => ?_⟩
    · rw [tick_th, upd_other _ _ hi]
      exact at_
    · rw [tick_fs, fs_write_other _ _ _ _ fun w' hw' h' => e (hinj _ _ ((hs.2.2.2 w' hw').symm.trans h'))]
      exact af k

theorem agree_run {fp : Foot} (hfp : fp.threadOK = true) (cap : Nat) {tidOf : Nat → Nat}
    (hinj : ∀ a b, tidOf a = tidOf b → a = b) (i : Nat) (σ : List Nat) :
    ∀ c1 c2 : Cfg D, SafeCfg tidOf c1 → OthersStopped i c2 → Agree tidOf i c1 c2 →
      Agree tidOf i (runSched fp cap c1 σ) (runSched fp cap c2 σ) := by
  induction σ with
  | nil => exact fun _ _ _ _ a => a
  | cons j σ ih =>
    exact fun c1 c2 s1 st a =>
      ih _ _ (safeCfg_tick hfp cap s1 j).1 (othersStopped_tick fp cap st j) (agree_tick hfp cap hinj s1 st a j)

theorem othersStopped_solo (c : Cfg D) (i : Nat) : OthersStopped i (solo c i) := by
  intro j hj; simp [solo, hj]

theorem agree_solo (tidOf : Nat → Nat) (c : Cfg D) (i : Nat) : Agree tidOf i c (solo c i) := by
  refine ⟨rfl, ?_, fun _ => rfl⟩
  simp [solo]

theorem run_alone (fp : Foot) (cap : Nat) (i : Nat) (σ : List Nat) :
    ∀ c : Cfg D, OthersStopped i c →
      runSched fp cap c σ = runSched fp cap c (List.replicate (σ.count i) i) := by
  induction σ with
  | nil => exact fun _ _ => rfl
  | cons j σ ih =>
    intro c st
    by_cases e : j = i
    · subst e
      rw [List.count_cons_self, List.replicate_succ, runSched_cons, runSched_cons]
      exact ih _ (othersStopped_tick fp cap st j)
    · rw [List.count_cons_of_ne e, runSched_cons, tick_stopped fp cap c j (st j e).1 (st j e).2]
      exact ih c st

theorem stepEff_stream (cap : Nat) (g : Glob) (x : Thr D) (s : Step D) :
    ∃ ops : List (Op D), run cap x.t.s ops = some (stepEff cap g x s).x.t.s := by
  cases s with
  | st op =>
    cases op with
    | load e =>
      cases e with
      | none => exact ⟨[], rfl⟩
      | some v => simp only [stepEff]; split <;> exact ⟨[], rfl⟩
    | cas a b => simp only [stepEff]; split <;> exact ⟨[], rfl⟩
    | _ => exact ⟨[], rfl⟩
  | loc f =>
    simp only [stepEff]
    cases hrun : f.run cap g.proc x.t with
    | none => exact ⟨[], rfl⟩
    | some t' =>
      rcases locRun_inv hrun with ⟨op, h, _⟩ | ⟨h, _⟩
      · exact ⟨[op], by simp only [run, h]⟩
      · exact ⟨[], by rw [h]; rfl⟩
  | _ => exact ⟨[], rfl⟩

theorem tickEff_stream (fp : Foot) (cap : Nat) (g : Glob) (x : Thr D) :
    ∃ ops : List (Op D), run cap x.t.s ops = some (tickEff fp cap g x).x.t.s := by
  rcases tickEff_cases fp cap g x with e | ⟨k, ks, _, e⟩ | ⟨s, r, _, e⟩ <;> rw [e]
  · exact ⟨[], rfl⟩
  · exact ⟨[], rfl⟩
  · exact stepEff_stream cap g { x with pend := r } s

end Ovni.Rt.Conc
