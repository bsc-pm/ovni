import OvniModel.Lemmas.Conc

/-! Concrete configurations for the examples of C11: a race of `N` single calls, a process
    whose threads run given programs, and a footprint without the compare-exchange. -/
-- `[JData D]` is in scope for every statement, also for those that never look at jumbo data
set_option linter.unusedSectionVars false
namespace Ovni.Rt.Conc
variable {D : Type} [JData D]

def raceCfg (N : Nat) (k : Nat → Call D) (st : PSt) : Cfg D :=
  { g := { st := st }, th := fun i => if i < N then { calls := [k i] } else {} }

theorem raceCfg_race (N : Nat) (k : Nat → Call D) (st : PSt) : Race st N k (fun _ => 0) (raceCfg N k st) := by
  refine ⟨rfl, fun i h => ?_, fun i h => ?_⟩
  · simp only [raceCfg, if_pos h]
    exact ⟨rfl, rfl, rfl, rfl⟩
  · simp only [raceCfg, if_neg (Nat.not_lt.mpr h)]
    exact bystander_of_idle ⟨rfl, rfl, rfl, rfl⟩

def roundRobin (n rounds : Nat) : List Nat := (List.replicate rounds (List.range n)).flatten

def threadsCfg (p : Proc) (tidOf : Nat → Nat) (prog : Nat → List (Call D)) : Cfg D :=
  { g := { st := .ready, proc := p },
    th := fun i => { t := { tid := tidOf i, s := { now := 1000 } }, calls := prog i } }

theorem threadsCfg_safe (p : Proc) (tidOf : Nat → Nat) (prog : Nat → List (Call D))
    (h : ∀ i, ∀ k ∈ prog i, CallSafe (tidOf i) k) : SafeCfg tidOf (threadsCfg p tidOf prog) := by
  intro i
  exact ⟨rfl, by simp [threadsCfg], h i⟩

/-- The footprint of a libovni in which `ovni_proc_init` tests and sets the
    state with a load followed by a store instead of a compare-exchange. -/
def loadStoreFoot : Foot :=
  { table := [],
    order := [("ovni_proc_init", [(F.kLoad, F.stUninit, 0, "st"), (F.kStore, F.stInit, 0, "st"),
                                 (F.kMemberWrite, 0, 0, "pid"), (F.kStore, F.stReady, 0, "st")])] }

def File.size : Option (File D) → Nat
  | some (.obs _ recs) => recs.length
  | some (.json kv) => kv.length
  | none => 0

end Ovni.Rt.Conc
