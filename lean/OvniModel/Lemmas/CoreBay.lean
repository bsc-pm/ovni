import OvniModel.Lemmas.CoreBayHandlers
import OvniModel.Lemmas.BayTotal

/-
  C06: the invariant that ties the reference emulator to the bay connected
  from its hierarchy, and its preservation by one event (handlers = writes,
  then `bay_propagate` = `flushAll`): `Event`, with the dirty phase of
  `bay_propagate` exposed for C20.

  In `Inv` every mux is in sync or still *virgin* (select channel never written,
  nothing ever selected, output still null).  A CPU track with a non-null
  default — the idle channel of nOS-V / Nanos6 — is virgin until the CPU's
  `th_running` is first written: the C code never emits the default at time 0,
  while `cpuView` shows it.  In sync means `MuxSync false`: of `mux->selected`
  the invariant needs what `Weak` and `Safe.selRange` say (the enabled input is
  the recorded one, which is a valid index), never that it is the select
  function's answer.
-/
namespace Ovni.Emu
open Ovni.Generated

structure Inv (b0 : Bay) (e : Emu) (b : Bay) : Prop where
  wf : b.WF
  muxes : b.muxes = b0.muxes
  len : b.chans.length = b0.chans.length
  clean : b.Clean
  safe : b.Safe
  mirrors : Mirrors e b
  sync : ∀ (mi : Nat) (m : Mux), b.muxes[mi]? = some m → b.MuxSync false mi m ∨ b.Virgin mi m
  /-- channels that are no mux's input keep the callback list `mux_init` gave them -/
  selCbs : ∀ (s : Nat), (∀ (mi : Nat) (m : Mux) (i : Nat), b0.muxes[mi]? = some m →
    m.inputs[i]? ≠ some (some s)) → b.cbsOf s = b0.cbsOf s

theorem Inv.layered {e : Emu} {b0 b : Bay} (hi : Inv b0 e b) (hb : e.shape.Built e.shape.jobs.length b0) :
    b.Layered e.shape.L :=
  hb.topo.layered.congr hi.muxes

theorem Mirrors.selOk {e : Emu} {b : Bay} (hm : Mirrors e b) {m : Mux} (ht : e.shape.IsTrack m)
    (hs : Shaped e) : ∃ s, m.selectInput (b.chan m.sel).cur = .ok s := by
  cases ht with
  | th g k i ms out hg hk hi hna =>
    generalize (b.chan _).cur = v
    cases v with
    | null => exact ⟨none, rfl⟩
    | int s =>
      by_cases hr : ms.thTrack.getD i 0 = trackRun
      · simp only [Mux.selectInput, hr, if_true]; simp
      · simp only [Mux.selectInput, hr, if_false]; simp
  | cpu c k i ms out hc hk hi =>
    -- `default_select` wants an index below the number of inputs, one per thread: `Shaped.run`
    have hlt : c < e.cpus.length := hc
    have hx : e.cpus[c]? = some e.cpus[c] := List.getElem?_eq_getElem hlt
    have hr := hs.run c _ hx
    simp only [hm.chan_run hx]
    cases hv : e.cpus[c].chThrun.cur with
    | null => exact ⟨none, rfl⟩
    | int s =>
      rw [hv] at hr
      simp only [RunOk] at hr
      have hlen : ((e.shape.rawsOf k i).map some).length = e.threads.length := by
        rw [List.length_map, Shape.rawsOf_length]; rfl
      simp only [Mux.selectInput, hlen]
      have : ¬ (s < 0 ∨ s ≥ (e.threads.length : Int)) := by omega
      simp only [this, if_false]
      exact ⟨_, rfl⟩

/-- `bay_propagate` flushes the sources and otherwise leaves them alone: none is a mux output. -/
theorem Mirrors.propagate {e : Emu} {b1 bF : Bay} {em : List (Nat × Value)} (hm : Mirrors e b1)
    (hs : Shaped e) (wf : b1.WF) (hp : b1.propagate = .ok (bF, em))
    (hno : ∀ c, c < e.shape.L → b1.NoOut c) : Mirrors e.flushAll bF := by
  intro s ch hsrc
  rw [Emu.src_flushAll] at hsrc
  cases h0 : e.src s with
  | none => rw [h0] at hsrc; cases hsrc
  | some ch0 =>
    rw [h0] at hsrc
    simp only [Option.map_some, Option.some.injEq] at hsrc
    have hb1 := hm s ch0 h0
    have hfl := Bay.propagate_noOut wf hp (hno _ (e.shape.idx_lt (hs.src_mem h0)))
    rw [Bay.chan_of_getElem? hb1, hsrc] at hfl
    have hl2 : e.shape.idx s < bF.chans.length := by
      rw [Bay.propagate_length wf hp]; exact (List.getElem?_eq_some_iff.mp hb1).1
    rw [Emu.shape_flushAll, Bay.getElem?_chan hl2, hfl]

/-- One event, bay side: `b → b1` are the handlers' writes (all to source channels, below `L`),
    `bay_propagate` does the rest. -/
theorem Inv.step_core {e e' : Emu} {b0 b b1 : Bay} (hbuilt : e.shape.Built e.shape.jobs.length b0)
    (hi : Inv b0 e b) (hs' : Shaped e') (hshape : e'.shape = e.shape)
    (hw1 : Bay.Writes (· < e.shape.L) b b1) (hm1 : Mirrors e' b1) :
    ∃ b2 em, b1.propagate = .ok (b2, em) ∧ Inv b0 e'.flushAll b2 := by
  have hlay := hi.layered hbuilt
  have k := hw1.kept hi.wf
  -- safe after the writes
  have sf1 : b1.Safe := by
    refine hw1.safe hi.wf hi.safe (fun _ => hlay.noOut) ?_
    intro mi m hm
    have ht : e.shape.IsTrack m := hbuilt.isTrack (hi.muxes ▸ hm)
    exact hm1.selOk (hshape ▸ ht) hs'
  obtain ⟨b2, em, hp, sf2⟩ := Bay.propagate_safe k.wf sf1
  obtain ⟨wf2, hcl2, hmx2⟩ := Bay.propagate_wf k.wf hp
  have hlen1 : b1.chans.length = b.chans.length := hw1.length
  have hlen2 := Bay.propagate_length k.wf hp
  refine ⟨b2, em, hp, wf2, (hmx2.trans k.muxes).trans hi.muxes, (hlen2.trans hlen1).trans hi.len, hcl2, sf2, ?_, ?_, ?_⟩
  rotate_right
  · intro s hs0
    rw [Bay.propagate_cbs_noninput k.wf hp s (by rw [k.muxes, hi.muxes]; exact hs0), Bay.cbsOf_congr k.cbs]
    exact hi.selCbs s hs0
  · exact hm1.propagate hs' k.wf hp fun _ hc => (hlay.noOut (hshape ▸ hc)).congr k.muxes
  · -- every mux
    intro mi m hm
    have hm0 : b.muxes[mi]? = some m := by rw [← k.muxes, ← hmx2]; exact hm
    exact Bay.syncOrVirgin_step hi.wf hlay hm0 hw1 hp (hi.sync mi m hm0)

/-- One event on the bay `emu_connect` built, between two states with `Inv`: `b → b1` are the
    handlers' writes (to sources of class `P`), `b1 → bP` is the dirty phase of `bay_propagate`,
    `b1 → bF` all of it.  `b1.dirty` holds the written channels, in the order in which they became
    dirty. -/
structure Event (P : Src → Prop) (b0 : Bay) (e e' : Emu) (b b1 bP bF : Bay) (em : List (Nat × Value)) :
    Prop where
  built : e.shape.Built e.shape.jobs.length b0
  pre : Inv b0 e b
  shaped : Shaped e'
  shape : e'.shape = e.shape
  writes : Bay.Writes (e.shape.okP P) b b1
  mirrors : Mirrors e' b1
  phase : b1.dirtyPhase b1.chans.length 0 = .ok bP
  prop : b1.propagate = .ok (bF, em)
  inv : Inv b0 e'.flushAll bF

theorem Inv.event_of_writes {P : Src → Prop} {e e' : Emu} {b0 b b1 : Bay} (hc : e.shape.connect = .ok b0)
    (hi : Inv b0 e b) (hs' : Shaped e') (hsh : e'.shape = e.shape)
    (hw : Bay.Writes (e.shape.okP P) b b1) (hm1 : Mirrors e' b1) :
    ∃ bP bF em, Event P b0 e e' b b1 bP bF em := by
  have hb := Shape.connect_built hc
  have hwL := hw.mono fun _ h => Shape.okP_lt h
  obtain ⟨bF, em, hp, hinv⟩ := hi.step_core hb hs' hsh hwL hm1
  obtain ⟨bP, hph, _, _⟩ := (Bay.propagate_iff (hwL.kept hi.wf).wf).mp hp
  exact ⟨bP, bF, em, hb, hi, hs', hsh, hw, hm1, hph, hp, hinv⟩

/-- Every simulated step (`SimP`: the handlers of an event, a hook, the connect-time writes) is
    such an event. -/
theorem Inv.event {P : Src → Prop} {e e' : Emu} {b0 b : Bay} (hc : e.shape.connect = .ok b0) (hs : Shaped e)
    (hi : Inv b0 e b) (hsim : SimP P e e') : ∃ b1 bP bF em, Event P b0 e e' b b1 bP bF em := by
  obtain ⟨hs', hsh, b1, hwP, hm1⟩ := hsim.run hs hi.mirrors
  exact ⟨b1, hi.event_of_writes hc hs' hsh hwP hm1⟩

section
variable {P : Src → Prop} {b0 b b1 bP bF : Bay} {e e' : Emu} {em : List (Nat × Value)}
  (E : Event P b0 e e' b b1 bP bF em)
include E

theorem Event.shapedF : Shaped e'.flushAll := E.shaped.flushAll

theorem Event.shapeF : e'.flushAll.shape = e.shape := (Emu.shape_flushAll e').trans E.shape

theorem Event.writesL : Bay.Writes (· < e.shape.L) b b1 := E.writes.mono fun _ => Shape.okP_lt

theorem Event.mono {Q : Src → Prop} (hPQ : ∀ s, P s → Q s) : Event Q b0 e e' b b1 bP bF em :=
  { E with writes := E.writes.mono fun _ => Shape.okP_mono hPQ }

theorem Event.kept : Bay.Writes.Kept (e.shape.okP P) b b1 := E.writes.kept E.pre.wf

theorem Event.wf : b1.WF := E.kept.wf

theorem Event.cbs : b1.cbs = b.cbs := E.kept.cbs

theorem Event.muxes : b1.muxes = b0.muxes := E.kept.muxes.trans E.pre.muxes

theorem Event.layered : b1.Layered e.shape.L := (E.pre.layered E.built).congr E.kept.muxes

theorem Event.wfP : bP.WF := (Bay.dirtyPhase_grown E.wf E.phase).1

/-- `b` is clean, so the dirty list of `b1` is the written channels. -/
theorem Event.dirty : ∀ s ∈ b1.dirty, e.shape.okP P s := by
  obtain ⟨ext, he, hok⟩ := E.writes.dirty_ext
  rw [E.pre.clean.1, List.nil_append] at he
  exact he ▸ hok

end

end Ovni.Emu
