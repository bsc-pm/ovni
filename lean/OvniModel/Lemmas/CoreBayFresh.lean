import OvniModel.Lemmas.CoreBay

/-
  C06: which muxes are still *virgin*.  A CPU track with a non-null default (the
  idle channel of nOS-V / Nanos6) is virgin exactly until the CPU's `th_running`
  is first written; every other mux is in sync at every instant.  `fresh c` is the
  ghost "`th_running` of CPU `c` has not been written since `emu_connect`".
-/
namespace Ovni.Emu
open Ovni.Generated

def Shape.isFresh (σ : Shape) (fresh : Nat → Bool) (m : Mux) : Prop :=
  m.dflt ≠ .null ∧ ∃ c, c < σ.nC ∧ m.sel = σ.idx (.run c) ∧ fresh c = true

def FreshInv (σ : Shape) (b : Bay) (fresh : Nat → Bool) : Prop :=
  ∀ (mi : Nat) (m : Mux), b.muxes[mi]? = some m →
    (σ.isFresh fresh m → b.Virgin mi m) ∧ (¬ σ.isFresh fresh m → b.MuxSync false mi m)

/-- `fresh` after an event: a CPU stays fresh while its `th_running` is not written. -/
def Shape.freshStep (σ : Shape) (fresh : Nat → Bool) (b1 : Bay) : Nat → Bool :=
  fun c => fresh c && !(b1.chan (σ.idx (.run c))).dirty

theorem FreshInv.connected {e : Emu} {b0 b : Bay} (hc : e.shape.connect = .ok b0) (hb0 : b = b0) :
    FreshInv e.shape b (fun _ => true) := by
  subst hb0
  have hb := Shape.connect_built hc
  intro mi m hm
  have hv := hb.topo.virgin mi m
  refine ⟨fun _ => hv, fun hn => ?_⟩
  apply hv.sync
  cases hb.isTrack hm with
  | th g k i ms out _ _ _ _ => rfl
  | cpu c k i ms out hcl _ _ =>
    apply Classical.byContradiction
    intro hd
    exact hn ⟨hd, c, hcl, rfl, rfl⟩

/-- Preserved with `freshStep`: a virgin mux leaves that state exactly when its select channel
    is written. -/
theorem FreshInv.step {P : Src → Prop} {e e' : Emu} {b0 b b1 bP bF : Bay} {em : List (Nat × Value)}
    {fresh : Nat → Bool} (hf : FreshInv e.shape b fresh) (E : Event P b0 e e' b b1 bP bF em) :
    FreshInv e.shape bF (e.shape.freshStep fresh b1) := by
  have hi := E.pre
  have hw1 := E.writesL
  have hp := E.prop
  have hlay := hi.layered E.built
  intro mi m hm
  have hm0 : b.muxes[mi]? = some m := by rw [hi.muxes, ← E.inv.muxes]; exact hm
  have hvirStep := fun hv => Bay.Virgin.step hv hi.wf hlay hm0 hw1 hp
  constructor
  · -- still fresh: was fresh and `th_running` not written
    rintro ⟨hd, c, hcl, hsel, hfc⟩
    unfold Shape.freshStep at hfc
    simp only [Bool.and_eq_true, Bool.not_eq_eq_eq_not, Bool.not_true] at hfc
    have hvir := (hf mi m hm0).1 ⟨hd, c, hcl, hsel, hfc.1⟩
    exact (hvirStep hvir).2 (by rw [hsel]; exact hfc.2)
  · intro hn
    by_cases hold : e.shape.isFresh fresh m
    · obtain ⟨hd, c, hcl, hsel, hfc⟩ := hold
      have hvir := (hf mi m hm0).1 ⟨hd, c, hcl, hsel, hfc⟩
      cases hdd : (b1.chan m.sel).dirty with
      | true => exact (hvirStep hvir).1 hdd
      | false =>
        exfalso
        apply hn
        refine ⟨hd, c, hcl, hsel, ?_⟩
        unfold Shape.freshStep
        rw [hfc, ← hsel, hdd]; rfl
    · exact ((hf mi m hm0).2 hold).step hi.wf hlay hm0 hw1 hp

theorem FreshInv.sel_null {σ : Shape} {b : Bay} {fresh : Nat → Bool} (hf : FreshInv σ b fresh) {mi : Nat} {m : Mux}
    (hm : b.muxes[mi]? = some m) (h : σ.isFresh fresh m) : (b.chan m.sel).cur = .null ∧ (b.chan m.out).cur = .null :=
  ⟨((hf mi m hm).1 h).1, ((hf mi m hm).1 h).2.1⟩

theorem FreshInv.congr {σ : Shape} {b : Bay} {f f' : Nat → Bool} (h : ∀ c, c < σ.nC → f c = f' c)
    (hf : FreshInv σ b f) : FreshInv σ b f' := by
  have key : ∀ m, σ.isFresh f' m ↔ σ.isFresh f m := by
    intro m
    constructor
    · rintro ⟨hd, c, hcl, hsel, hfc⟩; exact ⟨hd, c, hcl, hsel, by rw [h c hcl]; exact hfc⟩
    · rintro ⟨hd, c, hcl, hsel, hfc⟩; exact ⟨hd, c, hcl, hsel, by rw [← h c hcl]; exact hfc⟩
  intro mi m hm
  exact ⟨fun hx => (hf mi m hm).1 ((key m).mp hx), fun hx => (hf mi m hm).2 (fun hy => hx ((key m).mpr hy))⟩

/-- Without mux defaults no CPU track is ever "fresh": the ghost is irrelevant. -/
theorem FreshInv.of_null_defaults {σ : Shape} {b : Bay} {f f' : Nat → Bool}
    (hn : ∀ (mi : Nat) (m : Mux), b.muxes[mi]? = some m → m.dflt = .null) (hf : FreshInv σ b f) :
    FreshInv σ b f' := by
  intro mi m hm
  have h1 : ¬ σ.isFresh f m := fun h => h.1 (hn mi m hm)
  have h2 : ¬ σ.isFresh f' m := fun h => h.1 (hn mi m hm)
  exact ⟨fun h => absurd h h2, fun _ => (hf mi m hm).2 h1⟩

end Ovni.Emu
