import OvniModel.Lemmas.CoreBaySim
import OvniModel.Lemmas.EmuCoreSteps

/-
  C06: what a handler of `Emu/Core.lean` does to the channels (`Ops`), and hence: every handler
  is a `Sim` step.  The two hooks (task layer, mark events) are parameters of `modelEvent`; they
  are covered by the hypothesis `HookSim`, proved for the hooks in use (the hook that refuses
  every event and `markEvent` here, the task layer in `TaskHook`).  The classes of sources a step
  writes: `Src.isSys`, `rawAt` (one channel of one model), `rawOf` (channels by index;
  `SimP.tableEvent`: the one channel `tableChans` of a table event).
-/
namespace Ovni.Emu

/-- the source `withChan e ti m i` operates on: channel `i` of thread `ti` in the group of the model with
    character `m` -/
def rawAt (specs : List ModelSpec) (ti m i : Nat) (s : Src) : Prop :=
  ∃ k ms, specs[k]? = some ms ∧ ms.char = m ∧ s = .raw ti k i

/-- `e'` is `e` after a sequence of the updates all handlers are made of, each touching sources of
    class `P` only: `thread_set_state` stored back, `thread_set_cpu` / `_unset_cpu` / `_migrate_cpu`
    stored back (the affinity channel is no source), `is_out_of_cpu` assigned, `cpu_update` stored
    back, one operation on a raw channel.  What holds of every handler is proved by induction over
    `Ops` (`Ops.upd`, `Ops.maxStack`, `Ops.sysS`). -/
inductive Ops (P : Src → Prop) : Emu → Emu → Prop
  | nil (e : Emu) : Ops P e e
  | state {e e1 : Emu} {ti : Nat} {t t' : Thread} {st : ThState} : Ops P e e1 → e1.threads[ti]? = some t →
      P (.st ti) → t.setState st = .ok t' → Ops P e (e1.setThread t')
  | thCpu {e e1 : Emu} {ti : Nat} {t : Thread} {o : Option Nat} {v : Value} {c : Chan} : Ops P e e1 →
      e1.threads[ti]? = some t → t.chCpu.set v = .ok c → Ops P e (e1.setThread { t with cpu := o, chCpu := c })
  | outOfCpu {e e1 : Emu} {ti : Nat} {t : Thread} (b : Bool) : Ops P e e1 → e1.threads[ti]? = some t →
      Ops P e (e1.setThread { t with outOfCpu := b })
  | cpu {e e1 : Emu} {ci : Nat} {c c' : Cpu} {l : List Nat} : Ops P e e1 → e1.cpus[ci]? = some c →
      P (.run ci) → P (.act ci) → cpuUpdate e1.threads { c with threads := l } = .ok c' → Ops P e (e1.setCpu c')
  | raw {e e1 e2 : Emu} {ti m i : Nat} {f : Chan → Except Err Chan} : Ops P e e1 →
      (∀ s, rawAt e1.specs ti m i s → P s) → ChanOp f →
      withChan e1 ti m i f = .ok e2 → Ops P e e2

theorem Ops.trans {P : Src → Prop} {e e1 e2 : Emu} (h1 : Ops P e e1) (h2 : Ops P e1 e2) : Ops P e e2 := by
  induction h2 with
  | nil => exact h1
  | state _ ht hP hst ih => exact .state ih ht hP hst
  | thCpu _ ht hc ih => exact .thCpu ih ht hc
  | outOfCpu b _ ht ih => exact .outOfCpu b ih ht
  | cpu _ hc hr ha hu ih => exact .cpu ih hc hr ha hu
  | raw _ hP hf h ih => exact .raw ih hP hf h

theorem Ops.mono {P Q : Src → Prop} {e e' : Emu} (hpq : ∀ s, P s → Q s) (h : Ops P e e') : Ops Q e e' := by
  induction h with
  | nil => exact .nil _
  | state _ ht hP hst ih => exact .state ih ht (hpq _ hP) hst
  | thCpu _ ht hc ih => exact .thCpu ih ht hc
  | outOfCpu b _ ht ih => exact .outOfCpu b ih ht
  | cpu _ hc hr ha hu ih => exact .cpu ih hc (hpq _ hr) (hpq _ ha) hu
  | raw _ hP hf h ih => exact .raw ih (fun s hs => hpq s (hP s hs)) hf h

theorem cpuAddThread_ops {e e' : Emu} {ci ti : Nat} (h : cpuAddThread e ci ti = .ok e') : Ops Src.isSys e e' := by
  obtain ⟨c, c', hc, _, hu, rfl⟩ := cpuAddThread_cases h
  exact .cpu (.nil e) hc trivial trivial hu

theorem cpuRemoveThread_ops {e e' : Emu} {ci ti : Nat} (h : cpuRemoveThread e ci ti = .ok e') :
    Ops Src.isSys e e' := by
  obtain ⟨c, c', hc, _, hu, rfl⟩ := cpuRemoveThread_cases h
  exact .cpu (.nil e) hc trivial trivial hu

theorem cpuRefresh_ops {e e' : Emu} {ci : Nat} (h : cpuRefresh e ci = .ok e') : Ops Src.isSys e e' := by
  obtain ⟨c, c', hc, hu, rfl⟩ := cpuRefresh_cases h
  exact .cpu (l := c.threads) (.nil e) hc trivial trivial hu

theorem preThreadExecute_ops {e e' : Emu} {ti : Nat} {p : List Nat} (hs : Shaped e)
    (h : preThreadExecute e ti p = .ok e') : Ops Src.isSys e e' := by
  obtain ⟨t, ci, t1, t2, ht, _, _, _, h1, h2, h⟩ := preThreadExecute_cases h
  obtain ⟨_, c, hc, rfl⟩ := Thread.setCpu_cases h1
  have hg : t2.gindex = t.gindex := by
    obtain ⟨_, _, _, _, _, rfl⟩ := Thread.setState_cases h2; rfl
  -- the thread is stored once, after both operations
  have h12 : (e.setThread { t with cpu := some ci, chCpu := c }).setThread t2 = e.setThread t2 := by
    simp only [Emu.setThread, hg, List.set_set]
  exact (h12 ▸ Ops.state (.thCpu (.nil e) ht hc) (hs.setThread_get ht rfl) trivial h2).trans (cpuAddThread_ops h)

theorem preThreadEnd_ops {e e' : Emu} {ti : Nat} (hs : Shaped e) (h : preThreadEnd e ti = .ok e') :
    Ops Src.isSys e e' := by
  obtain ⟨t, t1, ci, e1, t2, ht, _, h1, _, hrm, h2, rfl⟩ := preThreadEnd_cases h
  obtain ⟨_, c, hc, rfl⟩ := Thread.unsetCpu_cases h2
  have hg : t1.gindex = t.gindex := by
    obtain ⟨_, _, _, _, _, rfl⟩ := Thread.setState_cases h1; rfl
  exact .thCpu ((Ops.state (.nil e) ht trivial h1).trans (cpuRemoveThread_ops hrm))
    (cpuRemoveThread_threads hrm ▸ hs.setThread_get ht hg) hc

theorem preThreadChange_ops {e e' : Emu} {ti : Nat} {ok : ThState → Bool} {st : ThState}
    (h : preThreadChange e ti ok st = .ok e') : Ops Src.isSys e e' := by
  obtain ⟨t, t1, ci, ht, _, h1, _, h⟩ := preThreadChange_cases h
  exact (Ops.state (.nil e) ht trivial h1).trans (cpuRefresh_ops h)

theorem preThread_ops {e e' : Emu} {ti v : Nat} {p : List Nat} (hs : Shaped e) (h : preThread e ti v p = .ok e') :
    Ops Src.isSys e e' := by
  rcases preThread_cases h with rfl | h | h | ⟨_, _, h⟩
  · exact .nil _
  · exact preThreadExecute_ops hs h
  · exact preThreadEnd_ops hs h
  · exact preThreadChange_ops h

theorem migrate_ops {e e' : Emu} {ti fr to : Nat} (h : migrate e ti fr to = .ok e') : Ops Src.isSys e e' := by
  obtain ⟨e1, e2, t, t1, hrm, hadd, ht, h1, rfl⟩ := migrate_cases h
  obtain ⟨_, c, hc, rfl⟩ := Thread.migrateCpu_cases h1
  exact .thCpu ((cpuRemoveThread_ops hrm).trans (cpuAddThread_ops hadd)) ht hc

theorem preAffinitySet_ops {e e' : Emu} {ti : Nat} {p : List Nat} (h : preAffinitySet e ti p = .ok e') :
    Ops Src.isSys e e' := by
  obtain ⟨_, _, _, _, _, _, _, _, ⟨_, rfl⟩ | ⟨_, h⟩⟩ := preAffinitySet_cases h
  · exact .nil _
  · exact migrate_ops h

theorem preAffinityRemote_ops {e e' : Emu} {ti : Nat} {p : List Nat} (h : preAffinityRemote e ti p = .ok e') :
    Ops Src.isSys e e' := by
  obtain ⟨_, _, _, _, _, _, _, _, _, _, _, h⟩ := preAffinityRemote_cases h
  exact migrate_ops h

/-- `withChan` changes exactly one raw channel: channel `i` of the thread's group at the
    position `k` of the model `m` in the spec list. -/
theorem withChan_raw {e e' : Emu} {ti m i : Nat} {f : Chan → Except Err Chan} (hs : Shaped e)
    (h : withChan e ti m i f = .ok e') :
    ∃ k ms c c', e.specs[k]? = some ms ∧ ms.char = m ∧ e.src (.raw ti k i) = some c ∧ f c = .ok c' ∧
      e'.src (.raw ti k i) = some c' ∧ (∀ s, s ≠ .raw ti k i → e'.src s = e.src s) ∧
      Shaped e' ∧ e'.shape = e.shape := by
  obtain ⟨t, cs, c, c', ht, hcs, hc, hfc, rfl⟩ := withChan_cases h
  have hnd := hs.keys ht
  obtain ⟨k, hk⟩ := (Thread.getChans_eq_some hnd).mp hcs
  obtain ⟨ms0, hms0, hch0, _⟩ := hs.mch_at ht hk
  have hg : (t.setChans m (cs.set i c')).gindex = ti := hs.thIdx ti t ht
  have hlt : ti < e.threads.length := (List.getElem?_eq_some_iff.mp ht).1
  have hil : i < cs.length := (List.getElem?_eq_some_iff.mp hc).1
  have hthr : (e.setThread (t.setChans m (cs.set i c'))).threads = e.threads.set ti (t.setChans m (cs.set i c')) := by
    simp only [Emu.setThread, hg]
  have hmch := Thread.setChans_getElem? (cs' := cs.set i c') hnd hk
  -- the channel lists keep their model characters and lengths
  have hshape : (t.setChans m (cs.set i c')).mch.map (fun x => (x.1, x.2.length)) =
      t.mch.map (fun x => (x.1, x.2.length)) := by
    apply List.ext_getElem?
    intro k'
    simp only [List.getElem?_map, hmch]
    by_cases hkk : k' = k
    · subst hkk; simp [hk]
    · simp [hkk]
  refine ⟨k, ms0, c, c', hms0, hch0, by simp only [Emu.src, ht, hk, hc], hfc, ?_, ?_,
    hs.setThread ht hg hshape (hs.st ti t ht)⟩
  · simp only [Emu.src, hthr, List.getElem?_set_self hlt, hmch, if_true, List.getElem?_set_self hil]
  · intro s hne
    refine Emu.src_setThread ht hg s (fun _ => rfl) fun k' i' hs' => ?_
    rw [hmch]
    by_cases hkk : k' = k
    · subst hkk
      have : i ≠ i' := fun h => hne (by rw [hs', h])
      simp only [if_true, hk, Option.bind_some, List.getElem?_set_ne this]
    · rw [if_neg hkk]

/-- `withChan_raw` at the position `k` of any spec with the model's character: the characters are
    distinct (`Shaped.chars`). -/
theorem withChan_src {e e' : Emu} {ti m i k : Nat} {ms : ModelSpec} {f : Chan → Except Err Chan} (hs : Shaped e)
    (hk : e.specs[k]? = some ms) (hc : ms.char = m) (h : withChan e ti m i f = .ok e') :
    ∃ c c', e.src (.raw ti k i) = some c ∧ f c = .ok c' ∧ e'.src (.raw ti k i) = some c' ∧
      (∀ s, s ≠ .raw ti k i → e'.src s = e.src s) ∧ Shaped e' ∧ e'.shape = e.shape := by
  obtain ⟨k0, ms0, c, c', hk0, hc0, a1, a2, a3, a4, a5⟩ := withChan_raw hs h
  cases nodup_map_getElem?_inj hs.chars hk0 hk (hc0.trans hc.symm)
  exact ⟨c, c', a1, a2, a3, a4, a5⟩

/-- The converse of `withChan_src`. -/
theorem withChan_ok_of_src {e : Emu} {ti mc i k : Nat} {ms : ModelSpec} {f : Chan → Except Err Chan} {c c' : Chan}
    (hs : Shaped e) (hk : e.specs[k]? = some ms) (hc : ms.char = mc) (hsrc : e.src (.raw ti k i) = some c)
    (hf : f c = .ok c') : ∃ e', withChan e ti mc i f = .ok e' := by
  simp only [Emu.src] at hsrc
  cases ht : e.threads[ti]? with
  | none => rw [ht] at hsrc; cases hsrc
  | some t =>
    obtain ⟨cs, hget, hx, _⟩ := hs.getChans ht hk
    rw [ht] at hsrc
    simp only [hx] at hsrc
    refine ⟨e.setThread (t.setChans mc (cs.set i c')), ?_⟩
    unfold withChan
    simp only [ht, hc ▸ hget, hsrc, hf, bind, Except.bind, pure, Except.pure]

theorem withChan_maxStack {e e' : Emu} {ti m i : Nat} {f : Chan → Except Err Chan}
    (h : withChan e ti m i f = .ok e') : e'.maxStack = e.maxStack := by
  obtain ⟨_, _, _, _, _, _, _, _, rfl⟩ := withChan_cases h
  rfl

theorem withChan_specs {e e' : Emu} {ti m i : Nat} {f : Chan → Except Err Chan}
    (h : withChan e ti m i f = .ok e') : e'.specs = e.specs := by
  obtain ⟨_, _, _, _, _, _, _, _, rfl⟩ := withChan_cases h
  rfl

/-- `withChan_src` for one write of a list, with what the writes after it need: the other channels of
    the model, the spec at `k` and `maxStack` are as before. -/
theorem withChan_wr {e e1 : Emu} {ti mc k : Nat} {ms : ModelSpec} {w : TaskWr} (hs : Shaped e)
    (hk : e.specs[k]? = some ms) (hc : ms.char = mc) (h : withChan e ti mc w.chan (wrOp e.maxStack w) = .ok e1) :
    (∃ c c', e.src (.raw ti k w.chan) = some c ∧ wrOp e.maxStack w c = .ok c' ∧ e1.src (.raw ti k w.chan) = some c') ∧
    (∀ i, i ≠ w.chan → e1.src (.raw ti k i) = e.src (.raw ti k i)) ∧
    Shaped e1 ∧ e1.specs[k]? = some ms ∧ e1.maxStack = e.maxStack := by
  obtain ⟨c, c', a1, a2, a3, a4, hs1, _⟩ := withChan_src hs hk hc h
  exact ⟨⟨c, c', a1, a2, a3⟩, fun i hi => a4 _ fun hq => hi (by injection hq), hs1, withChan_specs h ▸ hk,
    withChan_maxStack h⟩

theorem Upd.withChan {P : Src → Prop} {e e' : Emu} {ti m i : Nat} {f : Chan → Except Err Chan} (hs : Shaped e)
    (hP : ∀ s, rawAt e.specs ti m i s → P s) (hf : ChanOp f)
    (h : withChan e ti m i f = .ok e') : Upd P e e' := by
  obtain ⟨k, ms, c, c', hk, hm, a1, a2, a3, a4, hs'⟩ := withChan_raw hs h
  exact .of_write hs' (.raw ti k i) (hP _ ⟨k, ms, hk, hm, rfl⟩) hf a1 a2 a3 a4

theorem chanOp_wrOp (n : Nat) (w : TaskWr) : ChanOp (wrOp n w) := by
  cases w with
  | set c v => exact chanOp_set v
  | push c v => exact chanOp_push n v
  | pop c v => exact chanOp_pop v

theorem rawAt_ne {specs : List ModelSpec} {ti m i g k i' : Nat} {ms : ModelSpec} (hk : specs[k]? = some ms)
    (hne : ms.char ≠ m) : ¬ rawAt specs ti m i (.raw g k i') := by
  rintro ⟨k', ms', hk', hm', hq⟩
  injection hq with _ hq _
  subst hq
  rw [hk] at hk'; cases hk'
  exact hne hm'

theorem rawAt_eq {e : Emu} {ti mc k i : Nat} {ms : ModelSpec} {s : Src} (hs : Shaped e) (hk : e.specs[k]? = some ms)
    (hc : ms.char = mc) (h : rawAt e.specs ti mc i s) : s = .raw ti k i := by
  obtain ⟨k0, ms0, hk0, hc0, rfl⟩ := h
  cases nodup_map_getElem?_inj hs.chars hk0 hk (hc0.trans hc.symm)
  rfl

theorem withChan_ops {e e' : Emu} {ti m i : Nat} {f : Chan → Except Err Chan} (hf : ChanOp f)
    (h : withChan e ti m i f = .ok e') : Ops (rawAt e.specs ti m i) e e' :=
  .raw (.nil e) (fun _ h => h) hf h

theorem preFlush_ops {e e' : Emu} {ti v : Nat} (h : preFlush e ti v = .ok e') : Ops (rawAt e.specs ti 79 0) e e' := by
  obtain ⟨x, h⟩ := preFlush_cases h
  exact withChan_ops (chanOp_set _) h

/-- Every ovni event other than a mark event (handed to the hook `mh`) writes system channels or
    the flush channel of its thread. -/
theorem ovniEvent_ops {e e' : Emu} {ti c v : Nat} {p : List Nat}
    {mh : Emu → Nat → Nat → List Nat → Except Err Emu} (hs : Shaped e) (h : ovniEvent e ti c v p mh = .ok e') :
    mh e ti v p = .ok e' ∨ Ops (fun s => s.isSys ∨ rawAt e.specs ti 79 0 s) e e' := by
  obtain ⟨_, rfl | h | h | h | h | h⟩ := ovniEvent_cases h
  · exact .inr (.nil _)
  · exact .inr ((preThread_ops hs h).mono fun _ => .inl)
  · exact .inr ((preAffinitySet_ops h).mono fun _ => .inl)
  · exact .inr ((preAffinityRemote_ops h).mono fun _ => .inl)
  · exact .inr ((preFlush_ops h).mono fun _ => .inr)
  · exact .inl h

/-- the channel the table row of event `(c, v)` writes (`[]`: no row, or action IGN) -/
def tableChans (m : ModelSpec) (c v : Nat) : List Nat :=
  match m.table.find? (fun r => r.1 == c && r.2.1 == v) with
  | some (_, _, ch, act, _) => if act = 1 ∨ act = 2 ∨ act = 3 then [ch] else []
  | none => []

/-- A table event writes at most one channel (`simple`: one `chan_push` /
    `chan_pop` / `chan_set` on `entry[0]`). -/
theorem tableChans_single {m : ModelSpec} {c v i j : Nat} :
    i ∈ tableChans m c v → j ∈ tableChans m c v → i = j := by
  unfold tableChans
  split
  · split
    · exact fun hi hj => (List.mem_singleton.mp hi).trans (List.mem_singleton.mp hj).symm
    · exact fun hi => nomatch hi
  · exact fun hi => nomatch hi

theorem tableEvent_ops {e e' : Emu} {ti c v : Nat} {m : ModelSpec} (h : tableEvent e ti m c v = .ok e') :
    Ops (fun s => ∃ ch ∈ tableChans m c v, rawAt e.specs ti m.char ch s) e e' := by
  obtain ⟨t, rc, rv, ch, act, st, e1, _, _, _, hrow, hop, hooc⟩ := tableEvent_cases h
  have h1 : Ops (fun s => ∃ ch ∈ tableChans m c v, rawAt e.specs ti m.char ch s) e e1 := by
    rcases hop with ⟨_, rfl⟩ | ⟨w, hw, h1⟩
    · exact .nil _
    · have ha : act = 1 ∨ act = 2 ∨ act = 3 := hw.imp (·.1) (·.imp (·.1) (·.1))
      refine (withChan_ops (chanOp_wrOp _ w) h1).mono fun s hs => ⟨ch, ?_, hs⟩
      simp only [tableChans, hrow, ha, if_true, List.mem_singleton]
  rcases hooc with ⟨_, rfl⟩ | ⟨_, _, b, t1, _, ht1, rfl⟩
  · exact h1
  · exact .outOfCpu b h1 ht1

theorem modelEvent_ops {e e' : Emu} {ti m c v : Nat} {p : List Nat}
    {th mh : Emu → Nat → Nat → Nat → List Nat → Except Err Emu} (hs : Shaped e)
    (h : modelEvent e ti m c v p th mh = .ok e') :
    th e ti m c p = .ok e' ∨ mh e ti c v p = .ok e' ∨ Ops (fun _ => True) e e' := by
  obtain ⟨spec, _, _, ⟨_, h⟩ | ⟨_, _, _, h⟩ | ⟨_, _, h⟩⟩ := modelEvent_cases h
  · exact .inr ((ovniEvent_ops hs h).imp id (·.mono fun _ _ => trivial))
  · exact .inl h
  · exact .inr (.inr ((tableEvent_ops h).mono fun _ _ => trivial))

/-- `thread_set_state` stored back: one `chan_set` on the state channel. -/
theorem Upd.setState {P : Src → Prop} {e : Emu} {ti : Nat} {t t' : Thread} {st : ThState} (hs : Shaped e)
    (hP : P (.st ti)) (ht : e.threads[ti]? = some t) (h : t.setState st = .ok t') : Upd P e (e.setThread t') := by
  obtain ⟨_, cs, ct, hcs, _, rfl⟩ := Thread.setState_cases h
  have hg : ({ t with state := st, chTid := ct, chState := cs } : Thread).gindex = ti := hs.thIdx ti t ht
  have hi := (hs.st ti t ht).2
  exact .of_write (hs.setThread ht hg rfl ⟨.inl (Chan.set_cur_noign hi hcs), (chanOp_set _ _ _ hcs).2.2.2.2.trans hi⟩)
    (.st ti) hP (chanOp_set _) (by simp only [Emu.src, ht, Option.map_some]) hcs (Emu.src_setThread_st ht hg)
    fun s hne => Emu.src_setThread ht hg s (absurd · hne) fun _ _ _ => rfl

/-- `cpu_update` stored back: one `chan_set` on `th_running`, which then holds null or the index of
    a bound, existing thread, and one on `th_active`. -/
theorem Upd.cpuUpdate {P : Src → Prop} {e : Emu} {ci : Nat} {c c' : Cpu} {l : List Nat} (hs : Shaped e)
    (hPr : P (.run ci)) (hPa : P (.act ci)) (hc : e.cpus[ci]? = some c)
    (hu : cpuUpdate e.threads { c with threads := l } = .ok c') : Upd P e (e.setCpu c') := by
  obtain ⟨hg, _, _, _, _, ⟨v2, h2⟩, v1, h1, hv1⟩ := cpuUpdate_cases hu
  have hgi : c'.gindex = ci := hg.trans (hs.cpuIdx ci c hc)
  have hrun : RunOk e.threads.length c'.chThrun.cur := by
    rcases (Chan.set_ok h1).imp (·.2.2) (·.2) with he | he
    · rw [he]; exact hs.run ci c hc
    · rw [he]
      rcases hv1 with rfl | ⟨g, t, _, hgt, rfl⟩
      · trivial
      · have := hs.thIdx g t hgt
        have hlt : g < e.threads.length := (List.getElem?_eq_some_iff.mp hgt).1
        simp only [RunOk, this]
        omega
  obtain ⟨hs', hsh⟩ := hs.setCpu hc hgi hrun
  refine ⟨hs', hsh, fun s => ?_⟩
  by_cases hr : s = .run ci
  · exact hr ▸ .inr ⟨hPr, _, _, _, chanOp_set v1, by simp only [Emu.src, hc, Option.map_some], h1,
      (Emu.src_setCpu_self hc hgi).1⟩
  · by_cases ha : s = .act ci
    · exact ha ▸ .inr ⟨hPa, _, _, _, chanOp_set v2, by simp only [Emu.src, hc, Option.map_some], h2,
        (Emu.src_setCpu_self hc hgi).2⟩
    · exact .inl (Emu.src_setCpu hgi s hr ha)

/-- What a sequence of primitive updates does, source by source: the one induction over `Ops` on
    the side of the sources. -/
theorem Ops.upd {P : Src → Prop} {e e' : Emu} (h : Ops P e e') (hs : Shaped e) : Upd P e e' := by
  induction h with
  | nil => exact .refl hs
  | state _ ht hP hst ih => exact ih.trans (.setState ih.shaped hP ht hst)
  | thCpu _ ht _ ih => exact ih.trans (.setThread_same ih.shaped ht rfl rfl rfl rfl)
  | outOfCpu _ _ ht ih => exact ih.trans (.setThread_same ih.shaped ht rfl rfl rfl rfl)
  | cpu _ hc hr ha hu ih => exact ih.trans (.cpuUpdate ih.shaped hr ha hc hu)
  | raw _ hP hf h ih => exact ih.trans (.withChan ih.shaped hP hf h)

theorem Ops.simP {P : Src → Prop} {e e' : Emu} (h : Ops P e e') : SimP P e e' := .of_upd h.upd

theorem Ops.frame {P : Src → Prop} {e e' : Emu} (h : Ops P e e') (hs : Shaped e) {s : Src} (hn : ¬ P s) :
    e'.src s = e.src s :=
  ((h.upd hs).src s).resolve_right fun hq => hn hq.1

theorem Ops.maxStack {P : Src → Prop} {e e' : Emu} (h : Ops P e e') : e'.maxStack = e.maxStack := by
  induction h with
  | nil => rfl
  | raw _ _ _ h ih => exact (withChan_maxStack h).trans ih
  | _ => assumption

/-- the raw channels with index in `cs` of thread `ti`, in every model -/
def rawOf (ti : Nat) (cs : List Nat) (s : Src) : Prop := ∃ k i, s = .raw ti k i ∧ i ∈ cs

theorem rawOf_isRaw {ti : Nat} {cs : List Nat} {s : Src} (h : rawOf ti cs s) : s.isRaw := by
  obtain ⟨k, i, rfl, _⟩ := h; trivial

theorem rawOf_run {ti c : Nat} {cs : List Nat} : ¬ rawOf ti cs (.run c) := by
  rintro ⟨_, _, hx, _⟩; cases hx

theorem rawOf_raw {ti g k i : Nat} {cs : List Nat} (h : rawOf ti cs (.raw g k i)) : i ∈ cs := by
  obtain ⟨_, _, hx, hm⟩ := h
  cases hx; exact hm

theorem rawOf_mono {ti : Nat} {cs cs' : List Nat} (hsub : ∀ i ∈ cs, i ∈ cs') {s : Src}
    (h : rawOf ti cs s) : rawOf ti cs' s := by
  obtain ⟨k, i, hx, hm⟩ := h
  exact ⟨k, i, hx, hsub i hm⟩

theorem SimP.preThread {e e' : Emu} {ti v : Nat} {p : List Nat} (h : preThread e ti v p = .ok e') :
    SimP Src.isSys e e' :=
  fun hs => (preThread_ops hs h).simP hs

theorem SimP.migrate {e e' : Emu} {ti fr to : Nat} (h : migrate e ti fr to = .ok e') :
    SimP Src.isSys e e' :=
  (migrate_ops h).simP

theorem SimP.preAffinitySet {e e' : Emu} {ti : Nat} {p : List Nat} (h : preAffinitySet e ti p = .ok e') :
    SimP Src.isSys e e' :=
  (preAffinitySet_ops h).simP

theorem SimP.preAffinityRemote {e e' : Emu} {ti : Nat} {p : List Nat} (h : preAffinityRemote e ti p = .ok e') :
    SimP Src.isSys e e' :=
  (preAffinityRemote_ops h).simP

theorem SimP.tableEvent {e e' : Emu} {ti c v : Nat} {m : ModelSpec}
    (h : tableEvent e ti m c v = .ok e') : SimP (rawOf ti (tableChans m c v)) e e' :=
  ((tableEvent_ops h).mono fun _ ⟨ch, hch, k, _, _, _, hs⟩ => ⟨k, ch, hs, hch⟩).simP

def HookSim (hook : Emu → Nat → Nat → Nat → List Nat → Except Err Emu) : Prop :=
  ∀ (e : Emu) (ti a b : Nat) (p : List Nat) (e' : Emu), hook e ti a b p = .ok e' → Sim e e'

/-- The handlers of one event perform nothing but channel operations on mirrored source
    channels (and changes the bay does not see). -/
theorem Sim.modelEvent {e e' : Emu} {ti m c v : Nat} {p : List Nat}
    {th mh : Emu → Nat → Nat → Nat → List Nat → Except Err Emu} (hth : HookSim th) (hmh : HookSim mh)
    (h : modelEvent e ti m c v p th mh = .ok e') : Sim e e' := fun hs => by
  rcases modelEvent_ops hs h with h | h | h
  · exact hth _ _ _ _ _ _ h hs
  · exact hmh _ _ _ _ _ _ h hs
  · exact h.simP hs

/-- the task layer is not part of `Emu/Core`: without it the hook refuses every event (`noHook` in
    `Props/C04`) -/
theorem hookSim_none : HookSim (fun _ _ _ _ _ => .error .unknownEvent) := by
  intro e ti a b p e' h; cases h

/-- the mark events (`ovni/mark.c`): one push / pop / set on a raw channel -/
theorem hookSim_mark (tab : List MarkType) : HookSim (fun e ti _ v p => markEvent tab e ti v p) := by
  intro e ti a b p e' h
  obtain ⟨_, _, w, _, h⟩ := markEvent_cases h
  exact (withChan_ops (chanOp_wrOp _ w) h).simP.sim

end Ovni.Emu
