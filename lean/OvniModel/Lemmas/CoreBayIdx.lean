import OvniModel.Emu.Core
import OvniModel.Lemmas.BayTopo

/-
  C06: the bay the emulator connects for a given hierarchy.

  `Shape` = what `emu_connect` goes by: number of threads, number
  of CPUs, the channel specs of the enabled models (plus the run-time mark
  group).  `Src` names a *source* channel (thread state, a CPU's
  `th_running` / `th_active`, raw channel `i` of model number `k` of thread
  `g`); `Shape.addrs` is the order in which they are registered, so the bay id
  of a source is its position in that list (`Shape.idx`); `Shape.okP P` are the
  ids of the sources of a class `P` (`Src.isSys`, `Src.isRaw`).  `Job` names one
  `track_th_input_chan` / one iteration of `connect_cpu`; `Shape.jobs` is the
  order in which `model_connect` performs them: per model, first
  `model_thread_connect` (thread, channel), then `model_cpu_connect` (CPU,
  channel) — so the select callbacks on a CPU's `th_running` are in model ×
  channel-index order.  The output channel of job number `j` is `L + j`.

  Not represented: the other system channels (thread `cpu` / `tid`, CPU
  `nrunning` / `pid` / `tid`): no mux reads them, their PRV rows are emitted
  from the raw channel (`emitRaw` in View.lean).  Channel ids differ from the C
  registration ids (there the track outputs are registered at create time);
  ids are only names, the dirty list is ordered by write time, the callback
  lists by `mux_init` order, which is the order modelled here.  Across models
  `model_connect` goes by model id, here by position in the spec list; no
  theorem depends on the cross-model order.
-/
namespace Ovni.Emu
open Ovni.Generated

inductive Src where
  | st (g : Nat)
  | run (c : Nat)
  | act (c : Nat)
  | raw (g k i : Nat)
deriving DecidableEq, Repr

structure Shape where
  nT : Nat
  nC : Nat
  specs : List ModelSpec

def Shape.rawAddrs (σ : Shape) : List Src :=
  σ.specs.zipIdx.flatMap fun mk =>
    (List.range σ.nT).flatMap fun g => (List.range mk.1.nch).map (Src.raw g mk.2)

/-- Registration order of the source channels. -/
def Shape.addrs (σ : Shape) : List Src :=
  (List.range σ.nT).map Src.st ++
  ((List.range σ.nC).flatMap fun c => [Src.run c, Src.act c]) ++ σ.rawAddrs

/-- Number of source channels; ids below `L` are sources, above: track outputs. -/
def Shape.L (σ : Shape) : Nat := σ.addrs.length

def Shape.idx (σ : Shape) (s : Src) : Nat := σ.addrs.idxOf s

/-- The channel as `chan_init` + `chan_prop_set` leave it (`thread.c`, `cpu.c`,
    `model_thread.c: init_chan`). -/
def Shape.proto (σ : Shape) : Src → Chan
  | .st _ => {}
  | .run _ => { ignoreDup := true }
  | .act _ => { ignoreDup := true }
  | .raw _ k i =>
    match σ.specs[k]? with
    | some m => { isStack := m.chanStack.getD i false, allowDup := m.chanDup.getD i false }
    | none => {}

theorem Shape.mem_st (σ : Shape) (g : Nat) : Src.st g ∈ σ.addrs ↔ g < σ.nT := by
  simp [Shape.addrs, Shape.rawAddrs]

theorem Shape.mem_run (σ : Shape) (c : Nat) : Src.run c ∈ σ.addrs ↔ c < σ.nC := by
  simp [Shape.addrs, Shape.rawAddrs]

theorem Shape.mem_act (σ : Shape) (c : Nat) : Src.act c ∈ σ.addrs ↔ c < σ.nC := by
  simp [Shape.addrs, Shape.rawAddrs]

theorem Shape.mem_raw (σ : Shape) (g k i : Nat) :
    Src.raw g k i ∈ σ.addrs ↔ g < σ.nT ∧ ∃ m, σ.specs[k]? = some m ∧ i < m.nch := by
  simp only [Shape.addrs, Shape.rawAddrs, List.mem_append, List.mem_map, List.mem_flatMap,
    List.mem_range, List.mem_zipIdx_iff_getElem?]
  constructor
  · rintro ((⟨_, _, h⟩ | ⟨_, _, h⟩) | ⟨⟨m, k'⟩, hk, g', hg, i', hi, h⟩)
    · cases h
    · simp at h
    · cases h; exact ⟨hg, m, hk, hi⟩
  · rintro ⟨hg, m, hk, hi⟩
    exact Or.inr ⟨(m, k), hk, g, hg, i, hi, rfl⟩

theorem Shape.idx_lt (σ : Shape) {s : Src} (h : s ∈ σ.addrs) : σ.idx s < σ.L :=
  List.idxOf_lt_length_iff.mpr h

theorem Shape.getElem?_idx (σ : Shape) {s : Src} (h : s ∈ σ.addrs) : σ.addrs[σ.idx s]? = some s :=
  getElem?_idxOf h

theorem Shape.idx_inj (σ : Shape) {s s' : Src} (h : s ∈ σ.addrs) (h' : s' ∈ σ.addrs)
    (e : σ.idx s = σ.idx s') : s = s' :=
  idxOf_inj h h' e

/-- thread state / CPU `th_running`, `th_active` (written by the ovni thread and affinity events) -/
def Src.isSys : Src → Prop
  | .raw _ _ _ => False
  | _ => True

/-- raw model channels (written by the models' own events) -/
def Src.isRaw : Src → Prop
  | .raw _ _ _ => True
  | _ => False

theorem Src.not_raw_of_sys {s : Src} (h : s.isSys) : ¬ s.isRaw := by
  cases s <;> first | exact fun h' => h' | exact fun _ => h

/-- `c` is the bay channel of a registered source of class `P` (the channels an event of that
    class may write). -/
def Shape.okP (σ : Shape) (P : Src → Prop) (c : Nat) : Prop := ∃ s, s ∈ σ.addrs ∧ P s ∧ c = σ.idx s

theorem Shape.okP_lt {σ : Shape} {P : Src → Prop} {c : Nat} (h : σ.okP P c) : c < σ.L := by
  obtain ⟨s, hs, _, rfl⟩ := h; exact σ.idx_lt hs

theorem Shape.okP_idx {σ : Shape} {P : Src → Prop} {s0 : Src} (hmem : s0 ∈ σ.addrs)
    (h : σ.okP P (σ.idx s0)) : P s0 := by
  obtain ⟨s, hs, hp, he⟩ := h
  have := σ.idx_inj hmem hs he
  subst this; exact hp

theorem Shape.okP_mono {σ : Shape} {P Q : Src → Prop} (hPQ : ∀ s, P s → Q s) {c : Nat}
    (h : σ.okP P c) : σ.okP Q c := by
  obtain ⟨s, h1, h2, h3⟩ := h
  exact ⟨s, h1, hPQ s h2, h3⟩

/-- `bay_register` of a list of channels, in order. -/
def Bay.registerAll (b : Bay) : List Chan → Bay
  | [] => b
  | c :: cs => Bay.registerAll (b.register c).1 cs

theorem Bay.registerAll_eq (cs : List Chan) : ∀ (b : Bay), b.registerAll cs =
    { b with chans := b.chans ++ cs, cbs := b.cbs ++ cs.map (fun _ => []),
             emits := b.emits ++ cs.map (fun _ => false) } := by
  induction cs with
  | nil => intro b; simp [Bay.registerAll]
  | cons c cs ih => intro b; simp [Bay.registerAll, ih, Bay.register]

theorem Bay.WF.registerAll (cs : List Chan) : ∀ (b : Bay), b.WF → (∀ c ∈ cs, c.dirty = false) →
    (b.registerAll cs).WF := by
  induction cs with
  | nil => intro b wf _; exact wf
  | cons c cs ih =>
    intro b wf h
    exact ih _ (wf.register c (h c (by simp))) (fun c' hc' => h c' (by simp [hc']))

theorem Bay.Topo.registerAll (cs : List Chan) (h : ∀ c ∈ cs, c.dirty = false ∧ c.vals = []) :
    (({} : Bay).registerAll cs).Topo cs.length := by
  refine ⟨Bay.WF.registerAll _ _ Bay.WF.empty fun c hc => (h c hc).1, ?_, ?_, ?_, ?_⟩
  · intro mi m hm; simp [Bay.registerAll_eq] at hm
  · intro c mj i hc
    have : (({} : Bay).registerAll cs).cbsOf c = [] := by
      simp only [Bay.registerAll_eq, Bay.cbsOf, List.getD_eq_getElem?_getD, List.nil_append, List.getElem?_map]
      cases cs[c]? <;> rfl
    rw [this] at hc; cases hc
  · intro c
    simp only [Bay.chan, Bay.registerAll_eq, List.getD_eq_getElem?_getD, List.nil_append]
    cases hx : cs[c]? with
    | none => rfl
    | some ch => simp [Chan.cur, (h ch (List.mem_of_getElem? hx)).2]
  · simp [Bay.registerAll_eq]

def Shape.bay0 (σ : Shape) : Bay := ({} : Bay).registerAll (σ.addrs.map σ.proto)

theorem Shape.proto_clean (σ : Shape) (s : Src) : (σ.proto s).dirty = false ∧ (σ.proto s).vals = [] := by
  cases s with
  | raw g k i =>
    cases h : σ.specs[k]? with
    | none => simp [Shape.proto, h]
    | some m => simp [Shape.proto, h]
  | _ => exact ⟨rfl, rfl⟩

theorem Shape.bay0_chans (σ : Shape) : σ.bay0.chans = σ.addrs.map σ.proto := by
  simp [Shape.bay0, Bay.registerAll_eq]

theorem Shape.bay0_topo (σ : Shape) : σ.bay0.Topo σ.L := by
  have := Bay.Topo.registerAll (σ.addrs.map σ.proto) fun c hc => by
    obtain ⟨s, _, rfl⟩ := List.mem_map.mp hc
    exact σ.proto_clean s
  rwa [List.length_map] at this

theorem Shape.bay0_src (σ : Shape) {s : Src} (h : s ∈ σ.addrs) :
    σ.bay0.chans[σ.idx s]? = some (σ.proto s) := by
  rw [σ.bay0_chans, List.getElem?_map, σ.getElem?_idx h]; rfl

/-- One `track_th_input_chan(track[i], state, ch[i])` of thread `g`, or one
    iteration `i` of `connect_cpu` for CPU `c`; `k` is the model's position. -/
inductive Job where
  | th (g k i : Nat)
  | cpu (c k i : Nat)
deriving DecidableEq, Repr

/-- `model_connect`: per model, `model_thread_connect` then `model_cpu_connect`. -/
def Shape.jobs (σ : Shape) : List Job :=
  σ.specs.zipIdx.flatMap fun mk =>
    ((List.range σ.nT).flatMap fun g => (List.range mk.1.nch).map (Job.th g mk.2)) ++
    ((List.range σ.nC).flatMap fun c => (List.range mk.1.nch).map (Job.cpu c mk.2))

theorem Shape.mem_jobs_th (σ : Shape) (g k i : Nat) :
    Job.th g k i ∈ σ.jobs ↔ g < σ.nT ∧ ∃ m, σ.specs[k]? = some m ∧ i < m.nch := by
  simp only [Shape.jobs, List.mem_append, List.mem_map, List.mem_flatMap,
    List.mem_range, List.mem_zipIdx_iff_getElem?]
  constructor
  · rintro ⟨⟨m, k'⟩, hk, ⟨g', hg, i', hi, h⟩ | ⟨_, _, _, _, h⟩⟩
    · cases h; exact ⟨hg, m, hk, hi⟩
    · cases h
  · rintro ⟨hg, m, hk, hi⟩
    exact ⟨(m, k), hk, Or.inl ⟨g, hg, i, hi, rfl⟩⟩

theorem Shape.mem_jobs_cpu (σ : Shape) (c k i : Nat) :
    Job.cpu c k i ∈ σ.jobs ↔ c < σ.nC ∧ ∃ m, σ.specs[k]? = some m ∧ i < m.nch := by
  simp only [Shape.jobs, List.mem_append, List.mem_map, List.mem_flatMap,
    List.mem_range, List.mem_zipIdx_iff_getElem?]
  constructor
  · rintro ⟨⟨m, k'⟩, hk, ⟨_, _, _, _, h⟩ | ⟨c', hc, i', hi, h⟩⟩
    · cases h
    · cases h; exact ⟨hc, m, hk, hi⟩
  · rintro ⟨hc, m, hk, hi⟩
    exact ⟨(m, k), hk, Or.inr ⟨c, hc, i, hi, rfl⟩⟩

/-- `mux_set_default` value of the CPU track of channel `i` (what `cpuView`
    shows for a CPU without running thread). -/
def ModelSpec.cpuDflt (m : ModelSpec) (i : Nat) : Value :=
  match m.cpuDefault.find? (·.1 == i) with
  | some (_, v) => .int v
  | none => .null

/-- The raw channels `i` of model `k` of all threads, in `gindex` order: the
    inputs of a CPU track. -/
def Shape.rawsOf (σ : Shape) (k i : Nat) : List Nat := (List.range σ.nT).map fun g => σ.idx (.raw g k i)

theorem Shape.rawsOf_length (σ : Shape) (k i : Nat) : (σ.rawsOf k i).length = σ.nT := by
  simp [Shape.rawsOf]

theorem Shape.rawsOf_getElem? {σ : Shape} {g : Nat} (hg : g < σ.nT) (k i : Nat) :
    (σ.rawsOf k i)[g]? = some (σ.idx (.raw g k i)) := by
  simp [Shape.rawsOf, List.getElem?_range hg]

theorem Shape.mem_rawsOf {σ : Shape} {k i x : Nat} :
    x ∈ σ.rawsOf k i ↔ ∃ g, g < σ.nT ∧ x = σ.idx (.raw g k i) := by
  simp [Shape.rawsOf, eq_comm]

theorem Shape.rawsOf_input {σ : Shape} {k i j c : Nat} (h : ((σ.rawsOf k i).map some)[j]? = some (some c)) :
    ∃ g, g < σ.nT ∧ c = σ.idx (.raw g k i) :=
  Shape.mem_rawsOf.mp (mem_of_getElem?_map_some h)

/-- Perform one connection job; returns the track's output channel. -/
def Shape.runJob (σ : Shape) (b : Bay) : Job → Except Err (Bay × Nat)
  | .th g k i =>
    match σ.specs[k]? with
    | none => .error .other
    | some m => b.trackThread (m.thTrack.getD i 0) (σ.idx (.st g)) (σ.idx (.raw g k i))
  | .cpu c k i =>
    match σ.specs[k]? with
    | none => .error .other
    | some m =>
      -- "only TRACK_TH_RUN allowed"
      if m.cpuTrack.getD i trackRun = trackRun then
        b.trackCpu (σ.idx (.run c)) (σ.rawsOf k i) (m.cpuDflt i)
      else .error .other

def Shape.connectFrom (σ : Shape) : Bay → List Job → Except Err Bay
  | b, [] => .ok b
  | b, j :: js =>
    match σ.runJob b j with
    | .error e => .error e
    | .ok (b', _) => σ.connectFrom b' js

/-- `emu_connect` up to (not including) the initial `bay_propagate`. -/
def Shape.connect (σ : Shape) : Except Err Bay := σ.connectFrom σ.bay0 σ.jobs

/-- Output channel of the thread track (g, k, i): the raw channel itself for
    mode ANY, else the channel registered by the job. -/
def Shape.thOut (σ : Shape) (g k i : Nat) : Nat :=
  match σ.specs[k]? with
  | some m =>
    if m.thTrack.getD i 0 = trackAny then σ.idx (.raw g k i) else σ.L + σ.jobs.idxOf (.th g k i)
  | none => 0

def Shape.cpuOut (σ : Shape) (c k i : Nat) : Nat := σ.L + σ.jobs.idxOf (.cpu c k i)

end Ovni.Emu
