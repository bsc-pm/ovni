import OvniModel.Lemmas.CoreBay

/-
  C06: the initial state.  `emu_connect` = `Shape.connect`, then the `chan_set`s
  of the models' `connect` functions (`ModelSpec.initVals`: nOS-V / Nanos6 set
  every thread's idle channel to Progressing), then one `bay_propagate`.  The
  result mirrors `mkEmu …` and satisfies `Inv`.
-/
namespace Ovni.Emu
open Ovni.Generated

/-- `mkEmu` with the raw channels of every (thread, model) given by `fc`. -/
def mkEmuWith (fc : ModelSpec → List Chan) (threads : List (Int × Int × Nat))
    (cpus : List (Nat × Int × Bool)) (enabled : List Nat) (lint : Bool) (extra : List ModelSpec) : Emu :=
  let specs := allSpecs.filter (fun s => enabled.contains s.char) ++ extra
  { threads := threads.mapIdx fun g (tid, pid, loom) =>
      { gindex := g, tid := tid, pid := pid, loom := loom,
        mch := specs.map fun s => (s.char, fc s) },
    cpus := cpus.mapIdx fun g (loom, index, virt) => { gindex := g, loom := loom, index := index, virt := virt },
    enabled := enabled, lint := lint, extra := extra }

theorem mkEmu_eq (threads : List (Int × Int × Nat)) (cpus : List (Nat × Int × Bool)) (enabled : List Nat)
    (lint : Bool) (extra : List ModelSpec) :
    mkEmu threads cpus enabled lint extra = mkEmuWith ModelSpec.freshChans threads cpus enabled lint extra := rfl

/-- channels right after `chan_init` -/
def ModelSpec.protoChan (m : ModelSpec) (i : Nat) : Chan :=
  { isStack := m.chanStack.getD i false, allowDup := m.chanDup.getD i false }

def ModelSpec.initOf (m : ModelSpec) (i : Nat) : Option Int := (m.initVals.find? (·.1 == i)).map (·.2)

/-- channels after the `chan_set`s of `model_*_connect`, before the first propagation -/
def ModelSpec.dirtyChan (m : ModelSpec) (i : Nat) : Chan :=
  match m.initOf i with
  | some v => { m.protoChan i with vals := [.int v], dirty := true }
  | none => m.protoChan i

def ModelSpec.protoChans (m : ModelSpec) : List Chan := (List.range m.nch).map m.protoChan
def ModelSpec.dirtyChans (m : ModelSpec) : List Chan := (List.range m.nch).map m.dirtyChan

theorem ModelSpec.protoChans_length (m : ModelSpec) : m.protoChans.length = m.nch := by
  simp [ModelSpec.protoChans]

theorem ModelSpec.dirtyChans_length (m : ModelSpec) : m.dirtyChans.length = m.nch := by
  simp [ModelSpec.dirtyChans]

theorem ModelSpec.freshChans_eq (m : ModelSpec) : m.freshChans = m.dirtyChans.map Chan.flush := by
  simp only [ModelSpec.freshChans, ModelSpec.dirtyChans, List.map_map]
  apply List.map_congr_left
  intro i _
  simp only [Function.comp, ModelSpec.dirtyChan, ModelSpec.initOf]
  cases h : m.initVals.find? (·.1 == i) with
  | none => rfl
  | some x => obtain ⟨a, v⟩ := x; rfl

theorem mkEmuWith_flushAll (threads : List (Int × Int × Nat)) (cpus : List (Nat × Int × Bool)) (enabled : List Nat)
    (lint : Bool) (extra : List ModelSpec) :
    (mkEmuWith ModelSpec.dirtyChans threads cpus enabled lint extra).flushAll =
      mkEmu threads cpus enabled lint extra := by
  rw [mkEmu_eq]
  simp only [mkEmuWith, Emu.flushAll, ModelSpec.freshChans_eq]
  congr 1
  all_goals
    symm
    rw [List.mapIdx_eq_iff]
    intro g
    simp only [List.getElem?_map, List.getElem?_mapIdx, Option.map_map, Function.comp_def, List.map_map]
    rfl

section
variable (fc : ModelSpec → List Chan) (threads : List (Int × Int × Nat))
  (cpus : List (Nat × Int × Bool)) (enabled : List Nat) (lint : Bool) (extra : List ModelSpec)

theorem mkEmuWith_specs : (mkEmuWith fc threads cpus enabled lint extra).specs =
    allSpecs.filter (fun s => enabled.contains s.char) ++ extra := rfl

theorem mkEmuWith_shape : (mkEmuWith fc threads cpus enabled lint extra).shape =
    ⟨threads.length, cpus.length, allSpecs.filter (fun s => enabled.contains s.char) ++ extra⟩ := by
  simp only [Emu.shape, mkEmuWith, List.length_mapIdx]; rfl

theorem mkEmuWith_threads_get {g : Nat} {t : Thread}
    (h : (mkEmuWith fc threads cpus enabled lint extra).threads[g]? = some t) :
    ∃ tid pid loom, t = ({ gindex := g, tid := tid, pid := pid, loom := loom, mch :=
      (allSpecs.filter (fun s => enabled.contains s.char) ++ extra).map fun s => (s.char, fc s) } : Thread) := by
  simp only [mkEmuWith, List.getElem?_mapIdx] at h
  cases hx : threads[g]? with
  | none => rw [hx] at h; cases h
  | some x => rw [hx] at h; cases h; exact ⟨x.1, x.2.1, x.2.2, rfl⟩

theorem mkEmuWith_cpus_get {c : Nat} {x : Cpu}
    (h : (mkEmuWith fc threads cpus enabled lint extra).cpus[c]? = some x) :
    ∃ loom index virt, x = ({ gindex := c, loom := loom, index := index, virt := virt } : Cpu) := by
  simp only [mkEmuWith, List.getElem?_mapIdx] at h
  cases hy : cpus[c]? with
  | none => rw [hy] at h; cases h
  | some y => rw [hy] at h; cases h; exact ⟨y.1, y.2.1, y.2.2, rfl⟩

/-- what `mkEmuWith fc` holds at source `s` -/
def srcWith (specs : List ModelSpec) : Src → Chan
  | .st _ => {}
  | .run _ => { ignoreDup := true }
  | .act _ => { ignoreDup := true }
  | .raw _ k i => match specs[k]? with
    | some m => (fc m).getD i {}
    | none => {}

theorem mkEmuWith_src (hlen : ∀ m, (fc m).length = m.nch) (s : Src)
    (hs : s ∈ (mkEmuWith fc threads cpus enabled lint extra).shape.addrs) :
    (mkEmuWith fc threads cpus enabled lint extra).src s =
      some (srcWith fc (allSpecs.filter (fun s => enabled.contains s.char) ++ extra) s) := by
  rw [mkEmuWith_shape] at hs
  cases s with
  | st g =>
    have hg : g < threads.length := (Shape.mem_st _ g).mp hs
    simp only [Emu.src, mkEmuWith, List.getElem?_mapIdx, List.getElem?_eq_getElem hg, srcWith]
    rfl
  | run c =>
    have hc : c < cpus.length := (Shape.mem_run _ c).mp hs
    simp only [Emu.src, mkEmuWith, List.getElem?_mapIdx, List.getElem?_eq_getElem hc, srcWith]
    rfl
  | act c =>
    have hc : c < cpus.length := (Shape.mem_act _ c).mp hs
    simp only [Emu.src, mkEmuWith, List.getElem?_mapIdx, List.getElem?_eq_getElem hc, srcWith]
    rfl
  | raw g k i =>
    obtain ⟨hg, m, hk, hi⟩ := (Shape.mem_raw _ g k i).mp hs
    have hg' : g < threads.length := hg
    have hil : i < (fc m).length := by rw [hlen]; exact hi
    simp only at hk
    simp only [Emu.src, mkEmuWith, List.getElem?_mapIdx, List.getElem?_eq_getElem hg', srcWith,
      Option.map_some, List.getElem?_map, hk, List.getD_eq_getElem?_getD, List.getElem?_eq_getElem hil,
      Option.getD_some]

theorem mkEmuWith_shaped (hlen : ∀ m, (fc m).length = m.nch)
    (hchars : ((allSpecs.filter (fun s => enabled.contains s.char) ++ extra).map (·.char)).Nodup) :
    Shaped (mkEmuWith fc threads cpus enabled lint extra) := by
  constructor
  · intro g t ht
    obtain ⟨_, _, _, rfl⟩ := mkEmuWith_threads_get fc threads cpus enabled lint extra ht
    rfl
  · intro c x hx
    obtain ⟨_, _, _, rfl⟩ := mkEmuWith_cpus_get fc threads cpus enabled lint extra hx
    rfl
  · intro g t ht
    obtain ⟨_, _, _, rfl⟩ := mkEmuWith_threads_get fc threads cpus enabled lint extra ht
    rw [mkEmuWith_specs]
    simp only [List.map_map]
    apply List.map_congr_left
    intro s _
    simp only [Function.comp, hlen]
  · rw [mkEmuWith_specs]; exact hchars
  · intro c x hx
    obtain ⟨_, _, _, rfl⟩ := mkEmuWith_cpus_get fc threads cpus enabled lint extra hx
    trivial
  · intro g t ht
    obtain ⟨_, _, _, rfl⟩ := mkEmuWith_threads_get fc threads cpus enabled lint extra ht
    exact ⟨Or.inr ⟨rfl, rfl⟩, rfl⟩

end

/-- the operation `model_*_connect` performs on source `s` -/
def Shape.initOp (σ : Shape) : Src → Chan → Except Err Chan
  | .raw _ k i => match σ.specs[k]? with
    | some m => match m.initOf i with
      | some v => (·.set (.int v))
      | none => pure
    | none => pure
  | _ => pure

/-- The sources on which `initOp` is a write; no lemma speaks of it: the evaluated examples of
    `Props/C06.lean` and `Props/C20.lean` build the bay after the connect-time step with it. -/
def Shape.hasInit (σ : Shape) : Src → Bool
  | .raw _ k i => match σ.specs[k]? with
    | some m => (m.initOf i).isSome
    | none => false
  | _ => false

theorem Shape.initOp_chanOp (σ : Shape) (s : Src) : ChanOp (σ.initOp s) := by
  cases s with
  | raw g k i =>
    simp only [Shape.initOp]
    cases σ.specs[k]? with
    | none => exact chanOp_pure
    | some m =>
      simp only
      cases m.initOf i with
      | none => exact chanOp_pure
      | some v => exact chanOp_set _
  | _ => exact chanOp_pure

/-- The channels the models' `connect` functions set are no stacks: `chan_set` refuses a stack. -/
def InitSingle (specs : List ModelSpec) : Prop :=
  ∀ m ∈ specs, ∀ (i : Nat) (v : Int), m.initOf i = some v → m.chanStack.getD i false = false

theorem initSingle_allSpecs (enabled : List Nat) :
    InitSingle (allSpecs.filter (fun s => enabled.contains s.char)) := by
  intro m hm i v hv
  have hm' : m ∈ allSpecs := (List.mem_filter.mp hm).1
  have key : ∀ m ∈ allSpecs, ∀ x ∈ m.initVals, m.chanStack.getD x.1 false = false := by decide
  unfold ModelSpec.initOf at hv
  cases hf : m.initVals.find? (·.1 == i) with
  | none => rw [hf] at hv; cases hv
  | some x =>
    have h1 := key m hm' x (List.mem_of_find?_eq_some hf)
    have h2' : (x.1 == i) = true := List.find?_some (p := fun x : Nat × Int => x.1 == i) hf
    have h2 : x.1 = i := eq_of_beq h2'
    rw [← h2]; exact h1

/-- Every source gets `Shape.initOp`: a `chan_set` where the model has an initial value,
    elsewhere `pure`. -/
theorem sim_init (threads : List (Int × Int × Nat)) (cpus : List (Nat × Int × Bool)) (enabled : List Nat)
    (lint : Bool) (extra : List ModelSpec)
    (hinit : InitSingle (allSpecs.filter (fun s => enabled.contains s.char) ++ extra)) :
    Sim (mkEmuWith ModelSpec.protoChans threads cpus enabled lint extra)
      (mkEmuWith ModelSpec.dirtyChans threads cpus enabled lint extra) := by
  intro hs
  have hsD := mkEmuWith_shaped ModelSpec.dirtyChans threads cpus enabled lint extra
    ModelSpec.dirtyChans_length hs.chars
  have hsh : (mkEmuWith ModelSpec.dirtyChans threads cpus enabled lint extra).shape =
      (mkEmuWith ModelSpec.protoChans threads cpus enabled lint extra).shape := by
    rw [mkEmuWith_shape, mkEmuWith_shape]
  refine SimP.of_upd (fun _ => ⟨hsD, hsh, fun s => ?_⟩) hs
  by_cases hmem : s ∈ (mkEmuWith ModelSpec.protoChans threads cpus enabled lint extra).shape.addrs
  rotate_left
  · exact .inl ((hsD.src_none (by rw [hsh]; exact hmem)).trans (hs.src_none hmem).symm)
  refine .inr ⟨trivial, (mkEmuWith ModelSpec.protoChans threads cpus enabled lint extra).shape.initOp s, _, _,
    Shape.initOp_chanOp _ s, mkEmuWith_src _ _ _ _ _ _ ModelSpec.protoChans_length s hmem, ?_,
    mkEmuWith_src _ _ _ _ _ _ ModelSpec.dirtyChans_length s (by rw [hsh]; exact hmem)⟩
  rw [mkEmuWith_shape] at hmem ⊢
  cases s with
  | raw g k i =>
    obtain ⟨_, m, hk, hilt⟩ := (Shape.mem_raw _ g k i).mp hmem
    simp only at hk
    simp only [Shape.initOp, hk, srcWith, ModelSpec.protoChans, ModelSpec.dirtyChans,
      List.getD_eq_getElem?_getD, List.getElem?_map, List.getElem?_range hilt, Option.map_some,
      Option.getD_some, ModelSpec.dirtyChan]
    cases hv : m.initOf i with
    | none => rfl
    | some v =>
      have hst := hinit m (List.mem_of_getElem? hk) i v hv
      simp only [ModelSpec.protoChan, Chan.set]
      simpa [List.getD_eq_getElem?_getD] using hst
  | _ => rfl

/-- A thread is needed (`hnt`): a CPU mux has one input per thread and starts with
    `mux->selected = 0` (`memset`), which `Safe` wants to be a valid input index. -/
theorem Inv.connected {e : Emu} {b0 : Bay} (hc : e.shape.connect = .ok b0) (hs : Shaped e)
    (hnt : 0 < e.threads.length) (hsrc : ∀ s ∈ e.shape.addrs, e.src s = some (e.shape.proto s)) :
    Inv b0 e b0 := by
  have hb := Shape.connect_built hc
  have hmir : Mirrors e b0 := by
    intro s ch h
    have hmem := hs.src_mem h
    rw [hsrc s hmem] at h; cases h
    exact hb.src hmem
  have hclean : b0.Clean := by
    refine ⟨hb.dirty, fun c => ?_⟩
    cases hx : (b0.chan c).dirty
    · rfl
    · have := (hb.topo.wf.dirtyIff c).mpr hx
      rw [hb.dirty] at this; cases this
  refine ⟨hb.topo.wf, rfl, rfl, hclean, ?_, hmir, ?_, fun _ _ => rfl⟩
  · constructor
    · intro mi m i hm hi
      exact (hb.isTrack hm).input_filled hi
    · intro mi m j hm hj
      rw [hb.selZero hj]
      exact (hb.isTrack hm).inputs_pos hnt
    · exact hb.outOk
    · intro mi m hm
      exact hmir.selOk (hb.isTrack hm) hs
    · intro mi m mj m' hm hm'
      exact (hb.topo.layered.noOut (hb.topo.layered.sel_lt hm)).out_ne hm'
  · intro mi m hm
    exact Or.inr (hb.topo.virgin mi m)

/-- The connect-time step: the bay as `Shape.connect` built it mirrors `mkEmuWith protoChans …`;
    the `chan_set`s of the models' `connect` functions lead to `mkEmuWith dirtyChans …`, and the first
    `bay_propagate` flushes that to `mkEmu …`. -/
theorem Inv.pre_init (threads : List (Int × Int × Nat)) (cpus : List (Nat × Int × Bool)) (enabled : List Nat)
    (lint : Bool) (extra : List ModelSpec) {b0 : Bay}
    (hc : (mkEmu threads cpus enabled lint extra).shape.connect = .ok b0)
    (hnt : 0 < threads.length)
    (hchars : ((allSpecs.filter (fun s => enabled.contains s.char) ++ extra).map (·.char)).Nodup)
    (hinit : InitSingle (allSpecs.filter (fun s => enabled.contains s.char) ++ extra)) :
    (mkEmuWith ModelSpec.protoChans threads cpus enabled lint extra).shape =
      (mkEmu threads cpus enabled lint extra).shape ∧
    Shaped (mkEmuWith ModelSpec.protoChans threads cpus enabled lint extra) ∧
    Inv b0 (mkEmuWith ModelSpec.protoChans threads cpus enabled lint extra) b0 ∧
    Sim (mkEmuWith ModelSpec.protoChans threads cpus enabled lint extra)
      (mkEmuWith ModelSpec.dirtyChans threads cpus enabled lint extra) ∧
    (mkEmuWith ModelSpec.dirtyChans threads cpus enabled lint extra).flushAll =
      mkEmu threads cpus enabled lint extra := by
  have hshape : (mkEmuWith ModelSpec.protoChans threads cpus enabled lint extra).shape =
      (mkEmu threads cpus enabled lint extra).shape := by
    rw [mkEmu_eq, mkEmuWith_shape, mkEmuWith_shape]
  rw [← hshape] at hc
  have hs0 : Shaped (mkEmuWith ModelSpec.protoChans threads cpus enabled lint extra) :=
    mkEmuWith_shaped _ _ _ _ _ _ ModelSpec.protoChans_length hchars
  refine ⟨hshape, hs0, Inv.connected hc hs0 (by simpa [mkEmuWith] using hnt) ?_,
    sim_init threads cpus enabled lint extra hinit, mkEmuWith_flushAll ..⟩
  intro s hs'
  rw [mkEmuWith_src _ _ _ _ _ _ ModelSpec.protoChans_length s hs']
  rw [mkEmuWith_shape] at hs' ⊢
  cases s with
  | raw g k i =>
    obtain ⟨_, m, hk, hi⟩ := (Shape.mem_raw _ g k i).mp hs'
    simp only at hk
    simp only [srcWith, hk, Shape.proto, ModelSpec.protoChans, List.getD_eq_getElem?_getD, List.getElem?_map,
      List.getElem?_range hi, Option.map_some, Option.getD_some]
    rfl
  | _ => rfl

theorem Inv.init (threads : List (Int × Int × Nat)) (cpus : List (Nat × Int × Bool)) (enabled : List Nat)
    (lint : Bool) (extra : List ModelSpec) {b0 : Bay}
    (hc : (mkEmu threads cpus enabled lint extra).shape.connect = .ok b0)
    (hnt : 0 < threads.length)
    (hchars : ((allSpecs.filter (fun s => enabled.contains s.char) ++ extra).map (·.char)).Nodup)
    (hinit : InitSingle (allSpecs.filter (fun s => enabled.contains s.char) ++ extra)) :
    Shaped (mkEmu threads cpus enabled lint extra) ∧
    ∃ b1 b2 em, Bay.Writes (· < (mkEmu threads cpus enabled lint extra).shape.L) b0 b1 ∧
      b1.propagate = .ok (b2, em) ∧ Inv b0 (mkEmu threads cpus enabled lint extra) b2 := by
  obtain ⟨hsh, hs0, hi0, hsim, hfl⟩ := Inv.pre_init threads cpus enabled lint extra hc hnt hchars hinit
  obtain ⟨b1, _, b2, em, E⟩ := hi0.event (hsh ▸ hc) hs0 hsim
  exact ⟨hfl ▸ E.shapedF, b1, b2, em, hsh ▸ E.writesL, E.prop, hfl ▸ E.inv⟩

end Ovni.Emu
