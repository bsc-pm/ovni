import OvniModel.Lemmas.CoreBayIdx

/-
  C20 / C06: the connection jobs are strictly ordered by (model, threads before
  CPUs, thread | CPU, channel index); hence a job's first position
  (`idxOf`) grows with the channel index: the tracks of one CPU and one model
  are created in channel-index order.
-/
namespace Ovni.Emu

def Job.k : Job → Nat
  | .th _ k _ => k
  | .cpu _ k _ => k
def Job.tag : Job → Nat
  | .th _ _ _ => 0
  | .cpu _ _ _ => 1
def Job.u : Job → Nat
  | .th g _ _ => g
  | .cpu c _ _ => c
def Job.i : Job → Nat
  | .th _ _ i => i
  | .cpu _ _ i => i

/-- the order of the `mux_init` calls: `model_thread_connect` of a model before
    its `model_cpu_connect`, model by model -/
def Job.lt (a b : Job) : Prop :=
  a.k < b.k ∨ (a.k = b.k ∧ (a.tag < b.tag ∨ (a.tag = b.tag ∧ (a.u < b.u ∨ (a.u = b.u ∧ a.i < b.i)))))

theorem Job.lt_asymm {a b : Job} (h : a.lt b) : ¬ b.lt a := by
  unfold Job.lt at *; omega

theorem Job.lt_irrefl (a : Job) : ¬ a.lt a := by
  unfold Job.lt; omega

theorem pairwise_jobGrid (mk : Nat → Nat → Job)
    (h : ∀ u i u' i', u < u' ∨ (u = u' ∧ i < i') → (mk u i).lt (mk u' i')) (n nch : Nat) :
    ((List.range n).flatMap fun u => (List.range nch).map (mk u)).Pairwise Job.lt := by
  rw [List.pairwise_flatMap]
  constructor
  · intro u _
    rw [List.pairwise_map]
    exact List.pairwise_lt_range.imp fun hab => h _ _ _ _ (Or.inr ⟨rfl, hab⟩)
  · exact List.pairwise_lt_range.imp fun hab x hx y hy => by
      obtain ⟨i, _, rfl⟩ := List.mem_map.mp hx
      obtain ⟨j, _, rfl⟩ := List.mem_map.mp hy
      exact h _ _ _ _ (Or.inl hab)

theorem Shape.jobs_pairwise (σ : Shape) : σ.jobs.Pairwise Job.lt := by
  have hk : ∀ (mk : ModelSpec × Nat) (x : Job),
      x ∈ ((List.range σ.nT).flatMap fun g => (List.range mk.1.nch).map (Job.th g mk.2)) ++
        ((List.range σ.nC).flatMap fun c => (List.range mk.1.nch).map (Job.cpu c mk.2)) →
      x.k = mk.2 := by
    intro mk x hx
    rcases List.mem_append.mp hx with hx | hx
    · obtain ⟨g, _, hx⟩ := List.mem_flatMap.mp hx
      obtain ⟨i, _, rfl⟩ := List.mem_map.mp hx
      rfl
    · obtain ⟨g, _, hx⟩ := List.mem_flatMap.mp hx
      obtain ⟨i, _, rfl⟩ := List.mem_map.mp hx
      rfl
  unfold Shape.jobs
  rw [List.pairwise_flatMap]
  constructor
  · intro mk _
    rw [List.pairwise_append]
    refine ⟨pairwise_jobGrid _ (fun _ _ _ _ h => ?_) _ _, pairwise_jobGrid _ (fun _ _ _ _ h => ?_) _ _, ?_⟩
    · dsimp only [Job.lt, Job.k, Job.tag, Job.u, Job.i]; omega
    · dsimp only [Job.lt, Job.k, Job.tag, Job.u, Job.i]; omega
    · -- threads before CPUs
      intro x hx y hy
      obtain ⟨g, _, hx⟩ := List.mem_flatMap.mp hx
      obtain ⟨i, _, rfl⟩ := List.mem_map.mp hx
      obtain ⟨c, _, hy⟩ := List.mem_flatMap.mp hy
      obtain ⟨j, _, rfl⟩ := List.mem_map.mp hy
      dsimp only [Job.lt, Job.k, Job.tag, Job.u, Job.i]; omega
  · exact (zipIdx_pairwise σ.specs 0).imp fun h x hx y hy => by
      have hkx := hk _ x hx
      have hky := hk _ y hy
      unfold Job.lt; omega

theorem Shape.cpuOut_lt (σ : Shape) {c k i i' : Nat} {m : ModelSpec} (hcl : c < σ.nC)
    (hk : σ.specs[k]? = some m) (hil : i' < m.nch) (hi : i < i') : σ.cpuOut c k i < σ.cpuOut c k i' := by
  have hm : ∀ x, x < m.nch → Job.cpu c k x ∈ σ.jobs := fun x hx => (σ.mem_jobs_cpu c k x).mpr ⟨hcl, m, hk, hx⟩
  have := idxOf_lt_of_pairwise (fun _ _ => Job.lt_asymm) _ σ.jobs_pairwise (hm i (by omega)) (hm i' hil)
    (by dsimp only [Job.lt, Job.k, Job.tag, Job.u, Job.i]; omega)
  unfold Shape.cpuOut
  omega

theorem Shape.cpuOut_ne {σ : Shape} {c k i j : Nat} {m : ModelSpec} (hcl : c < σ.nC)
    (hk : σ.specs[k]? = some m) (hi : i < m.nch) (hj : j < m.nch) (hne : i ≠ j) :
    σ.cpuOut c k i ≠ σ.cpuOut c k j := by
  rcases Nat.lt_or_gt_of_ne hne with h | h
  · exact Nat.ne_of_lt (σ.cpuOut_lt hcl hk hj h)
  · exact Nat.ne_of_gt (σ.cpuOut_lt hcl hk hi h)

end Ovni.Emu
