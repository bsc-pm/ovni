import OvniModel.Lemmas.CoreBayView
import OvniModel.Lemmas.CoreBayJobs
import OvniModel.Lemmas.TaskHook

/-
  C20 (second obligation), on the global bay model of C06: where the track outputs of one CPU
  stand on the dirty list after one `Event`.
  * An event that wrote thread states / `th_running` but no raw model channel (`Event.sys_dirty`):
    the outputs of one CPU and one model come in channel-index order (`Event.cpu_order_sys`).
  * Every channel appended during the dirty phase has a trigger among the written channels, and a
    CPU track is triggered only by the CPU's `th_running` and the raw channels `i` of the threads
    (`Shape.Built.trig_cpuOut`): a track none of whose triggers was written stays off the list
    (`Event.cpuOut_absent`).
  * Outputs enter in trigger order (`Bay.dirtyPhase_ordered`), so after an event made of two groups
    of writes (`update_task`: first the subsystem channel, then body id, task id, type, app id,
    rank) the CPU track of a channel of the first group comes ahead of that of a channel of the
    second (`Inv.two_phase_event`); the task hook is such an event, with the subsystem channel
    alone in the first group (`Inv.taskHook_event`).
  * When only raw channels are dirty, the dirty phase runs `cb_input` callbacks only and every
    enabled input callback of a dirty channel puts its mux output on the list
    (`Bay.dirtyPhase_inputOnly`); the CPU track of channel `i` of the thread the CPU runs is such a
    mux (`Inv.cpu_input_enabled`, `Event.cpuOut_present`).
-/
namespace Ovni.Emu
open Ovni.Generated

/-- A CPU track is triggered only by the CPU's `th_running` and the raw channels `i` of the threads:
    if the written channel at the trigger's position is of class `Q`, one of these is. -/
theorem Shape.Built.trig_cpuOut {σ : Shape} {b0 b1 : Bay} (hb : σ.Built σ.jobs.length b0)
    (hmx : b1.muxes = b0.muxes) {D : List Nat} {c k i j : Nat} {ms : ModelSpec} (hcl : c < σ.nC)
    (hk : σ.specs[k]? = some ms) (hil : i < ms.nch) (ht : b1.Trig D (σ.cpuOut c k i) j) {Q : Src → Prop}
    (hQ : ∀ s, D[j]? = some s → σ.okP Q s) : Q (.run c) ∨ ∃ g, Q (.raw g k i) := by
  obtain ⟨mi0, hmi0, huniq⟩ := hb.cpuMux hcl hk hil
  obtain ⟨mi, m, c0, hm, ho, hd, hsrc⟩ := ht
  rw [hmx] at hm
  obtain rfl := huniq mi m hm ho
  rw [hmi0] at hm; cases hm
  rcases hsrc with rfl | ⟨i0, hin⟩
  · exact .inl (Shape.okP_idx ((σ.mem_run c).mpr hcl) (hQ _ hd))
  · obtain ⟨g, hg, rfl⟩ := Shape.rawsOf_input hin
    exact .inr ⟨g, Shape.okP_idx ((σ.mem_raw g k i).mpr ⟨hg, ms, hk, hil⟩) (hQ _ hd)⟩

variable {P : Src → Prop} {b0 b b1 bP bF : Bay} {e e' : Emu} {em : List (Nat × Value)}

/-- The handlers write sources, never a track output. -/
theorem Event.cpuOut_not_written (E : Event P b0 e e' b b1 bP bF em) (c k i : Nat) :
    e.shape.cpuOut c k i ∉ b1.dirty := fun h => by
  have := Shape.okP_lt (E.dirty _ h)
  unfold Shape.cpuOut at this; omega

/-- For a step that writes only system channels (the ovni `OH*` / `OA*` events) the dirty phase
    appends, for each written channel in write order, the outputs of the muxes it selects in
    `mux_init` order. -/
theorem Event.sys_dirty (E : Event Src.isSys b0 e e' b b1 bP bF em) :
    bP.dirty = b1.dirty ++ b1.dirty.flatMap b0.selOuts := by
  have hnin : ∀ s, e.shape.okP Src.isSys s → ∀ (mi : Nat) (m : Mux) (i : Nat), b0.muxes[mi]? = some m →
      m.inputs[i]? ≠ some (some s) := by
    rintro s ⟨s0, hmem, hsys, rfl⟩ mi m i hm hin
    exact Src.not_raw_of_sys hsys (Shape.okP_idx hmem ((E.built.isTrack hm).input hin))
  have hsel : ∀ s, e.shape.okP Src.isSys s → b1.selOuts s = b0.selOuts s := by
    intro s hsys
    unfold Bay.selOuts
    rw [Bay.cbsOf_congr E.cbs, E.pre.selCbs s (hnin s hsys)]
    apply filterMap_congr_mem
    intro cb _
    cases cb with
    | muxInput _ _ => rfl
    | muxSelect mi => simp only [Bay.outOfCb, E.muxes]
  have hdirty := Bay.dirtyPhase_selectOnly E.wf E.layered (by
    intro s hsd
    have hsys := E.dirty s hsd
    refine ⟨Shape.okP_lt hsys, ?_, fun mi m i hm => hnin s hsys mi m i (E.muxes ▸ hm)⟩
    intro cb hcb
    cases cb with
    | muxSelect mi => exact ⟨mi, rfl⟩
    | muxInput mi i =>
      exfalso
      obtain ⟨m, hm, hin⟩ := E.wf.inCbOnly s mi i hcb
      exact hnin s hsys mi m i (E.muxes ▸ hm) hin) E.phase
  rw [hdirty, List.flatMap_def, List.flatMap_def, List.map_congr_left fun s hsd => hsel s (E.dirty s hsd)]

/-- `model_cpu_connect` calls `mux_init` for channel 0, 1, 2, … of the CPU, so after such a step
    the outputs of one CPU's tracks of one model are on the dirty list in channel-index order. -/
theorem Event.cpu_order_sys (E : Event Src.isSys b0 e e' b b1 bP bF em) {c k i i' : Nat} {m : ModelSpec}
    (hcl : c < e.shape.nC) (hk : e.shape.specs[k]? = some m) (hii : i < i') (hil : i' < m.nch) :
    Ahead bP.dirty (e.shape.cpuOut c k i) (e.shape.cpuOut c k i') := by
  have hb := E.built
  rw [E.sys_dirty]
  refine Ahead.append_left (E.cpuOut_not_written c k i) (E.cpuOut_not_written c k i') fun hxF hyF => ?_
  -- both outputs sit in the block of the CPU's `th_running`, which selects both muxes
  have hown : ∀ i0, i0 < m.nch → ∀ s ∈ b1.dirty, e.shape.cpuOut c k i0 ∈ b0.selOuts s →
      s = e.shape.idx (.run c) := by
    intro i0 hi0 s _ hxs
    obtain ⟨mi, hmi, _⟩ := hb.cpuMux hcl hk hi0
    exact (Bay.selOuts_sel hb.topo.wf hb.topo.layered hxs hmi rfl).symm
  obtain ⟨sx, hsxD, hxs⟩ := List.mem_flatMap.mp hxF
  obtain ⟨sy, hsyD, hys⟩ := List.mem_flatMap.mp hyF
  obtain rfl := hown i (by omega) sx hsxD hxs
  rw [hown i' hil sy hsyD hys] at hys
  exact idxOf_flatMap_block b0.selOuts _ _ _ _ hsxD hxs hys (hown i (by omega)) (hown i' hil)
    (idxOf_lt_of_pairwise (R := (· < ·)) (fun a b h => by omega) _ (hb.selAsc _) hxs hys
      (e.shape.cpuOut_lt hcl hk hil hii))

/-- A CPU track whose select (`th_running`) and inputs the step cannot have written stays off the
    dirty list (`Bay.dirtyPhase_reached`). -/
theorem Event.cpuOut_absent (E : Event P b0 e e' b b1 bP bF em) {c k i : Nat} {ms : ModelSpec}
    (hcl : c < e.shape.nC) (hk : e.shape.specs[k]? = some ms) (hil : i < ms.nch)
    (hrun : ¬ P (.run c)) (hraw : ∀ g, ¬ P (.raw g k i)) : e.shape.cpuOut c k i ∉ bP.dirty := by
  intro hx
  rcases Bay.dirtyPhase_reached E.wf E.layered E.phase _ hx with hx | ⟨j, ht⟩
  · exact E.cpuOut_not_written c k i hx
  · exact (E.built.trig_cpuOut E.muxes hcl hk hil ht fun s hj => E.dirty s (List.mem_of_getElem? hj)).elim hrun
      fun ⟨g, h⟩ => hraw g h

/-- Two simulated steps in a row are one event, in which the CPU track of a channel `i` written only
    in the first step comes ahead of that of a channel `i'` written only in the second (`th_running`
    of the CPU in neither). -/
theorem Inv.two_phase_event {P1 P2 : Src → Prop} {e1 : Emu} (hc : e.shape.connect = .ok b0) (hs : Shaped e)
    (hi : Inv b0 e b) (h1 : SimP P1 e e1) (h2 : SimP P2 e1 e') :
    ∃ b1 bP bF em, Event (fun s => P1 s ∨ P2 s) b0 e e' b b1 bP bF em ∧
      ∀ {c k i i' : Nat} {ms : ModelSpec}, c < e.shape.nC → e.shape.specs[k]? = some ms → i < ms.nch →
        i' < ms.nch → i ≠ i' → ¬ P1 (.run c) → ¬ P2 (.run c) → (∀ g, ¬ P2 (.raw g k i)) →
        (∀ g, ¬ P1 (.raw g k i')) → Ahead bP.dirty (e.shape.cpuOut c k i) (e.shape.cpuOut c k i') := by
  obtain ⟨hs1, hsh1, bm, hwm, hmm⟩ := h1.run hs hi.mirrors
  obtain ⟨hs', hsh2, b1, hwb, hm1⟩ := h2.run hs1 hmm
  rw [hsh1] at hwb
  have hw : Bay.Writes (e.shape.okP fun s => P1 s ∨ P2 s) b b1 :=
    (hwm.mono fun _ => Shape.okP_mono fun _ => Or.inl).trans (hwb.mono fun _ => Shape.okP_mono fun _ => Or.inr)
  obtain ⟨bP, bF, em, E⟩ := hi.event_of_writes hc hs' (hsh2.trans hsh1) hw hm1
  -- `D1`, `D2`: the channels that became dirty in each step
  obtain ⟨D1, hd1, hok1⟩ := hwm.dirty_ext
  obtain ⟨D2, hd, hok2⟩ := hwb.dirty_ext
  rw [hd1, hi.clean.1, List.nil_append] at hd
  refine ⟨b1, bP, bF, em, E, fun {c k i i' ms} hcl hk hil hil' hii hr1 hr2 h2i h1i' => ?_⟩
  obtain ⟨A, hA, _, hord⟩ := Bay.dirtyPhase_ordered E.wf E.layered E.phase
  rw [hA]
  refine Ahead.append_left (E.cpuOut_not_written c k i) (E.cpuOut_not_written c k i') fun hxA hyA =>
    Bay.idxOf_lt_of_trig hord hxA hyA (Shape.cpuOut_ne hcl hk hil hil' hii) fun jx jy tx ty => ?_
  -- outputs enter in trigger order: a trigger of `i` lies in `D1`, a trigger of `i'` in `D2`
  rw [hd] at tx ty
  have h1 : jx < D1.length := Classical.byContradiction fun hge =>
    (E.built.trig_cpuOut E.muxes hcl hk hil tx fun s hs => by
      rw [List.getElem?_append_right (by omega)] at hs
      exact hok2 s (List.mem_of_getElem? hs)).elim hr2 fun ⟨g, h⟩ => h2i g h
  have h2 : D1.length ≤ jy := Classical.byContradiction fun hlt =>
    (E.built.trig_cpuOut E.muxes hcl hk hil' ty fun s hs => by
      rw [List.getElem?_append_left (by omega)] at hs
      exact hok1 s (List.mem_of_getElem? hs)).elim hr1 fun ⟨g, h⟩ => h1i' g h
  omega

/-- A task event (`update_task`: the subsystem push / pop, for `x` / `e` only, then body id, task id,
    type, app id, rank) on the connected bay: the subsystem track of a CPU comes ahead of the track
    of a channel `itt` of the second group, and is there for `x` / `e` only. -/
theorem Inv.taskHook_event {tm : Ovni.Task.Model} {I : Ovni.Task.ProcInfo} {ε : Ovni.Task.Emu} {ev : Ovni.Task.Ev}
    {ti a a' : Nat} {p : List Nat} (hc : e.shape.connect = .ok b0) (hs : Shaped e) (hi : Inv b0 e b)
    (h : taskHook tm I ε ev e ti a a' p = .ok e') {c k itt : Nat} {ms : ModelSpec} (hcl : c < e.shape.nC)
    (hk : e.shape.specs[k]? = some ms) (hss : (taskIdx tm).ss < ms.nch) (htt : itt < ms.nch)
    (hin : itt ∈ (taskIdx tm).sets) (hssn : (taskIdx tm).ss ∉ (taskIdx tm).sets) :
    ∃ b1 bP bF em, Event (rawOf ti (taskIdx tm).all) b0 e e' b b1 bP bF em ∧
      Ahead bP.dirty (e.shape.cpuOut c k (taskIdx tm).ss) (e.shape.cpuOut c k itt) ∧
      ((∀ th t bp, ev ≠ .task th .x t bp ∧ ev ≠ .task th .e t bp) →
        e.shape.cpuOut c k (taskIdx tm).ss ∉ bP.dirty) := by
  -- the first group of writes is there for `x` / `e` only (`xe`)
  generalize hxe : (∃ th t bp, ev = .task th .x t bp ∨ ev = .task th .e t bp) = xe
  obtain ⟨e1, s1, s2⟩ := taskHook_two_phase h
  rw [hxe] at s1
  obtain ⟨b1, bP, bF, em, E, hord⟩ := hi.two_phase_event hc hs s1 s2
  have hne : (taskIdx tm).ss ≠ itt := fun hq => hssn (hq ▸ hin)
  refine ⟨b1, bP, bF, em, E.mono fun s hs => ?_, ?_, fun hpr => ?_⟩
  · rcases hs with hs | hs
    · exact rawOf_mono (fun i hi => TaskChanIdx.mem_all.mpr (Or.inl (List.mem_singleton.mp hi))) hs.2
    · exact rawOf_mono (fun i hi => TaskChanIdx.mem_all.mpr (Or.inr hi)) hs
  · exact hord hcl hk hss htt hne (fun hx => rawOf_run hx.2) rawOf_run
      (fun _ hx => hssn (rawOf_raw hx)) (fun _ hx => hne (List.mem_singleton.mp (rawOf_raw hx.2)).symm)
  · exact E.cpuOut_absent hcl hk hss (fun hx => hx.elim (fun hx => rawOf_run hx.2) rawOf_run) fun _ hx =>
      hx.elim (fun hx => let ⟨th, t, bp, h⟩ := hxe ▸ hx.1; h.elim (hpr th t bp).1 (hpr th t bp).2)
        (fun hx => hssn (rawOf_raw hx))

/-- An event that writes raw channels only.  CPU `c` runs thread `g` (`th_running` = `g` before the
    event) and the event left channel `i` of model `k` of thread `g` dirty. -/
theorem Event.cpuOut_present (E : Event P b0 e e' b b1 bP bF em) (hraw : ∀ s, P s → s.isRaw)
    {c g k i : Nat} {ms : ModelSpec} (hcl : c < e.shape.nC) (hk : e.shape.specs[k]? = some ms) (hil : i < ms.nch)
    (hg : g < e.shape.nT) {x : Chan} (hrun : e.src (.run c) = some x) (hcur : x.cur = .int (g : Int))
    {ch' : Chan} (hsrc' : e'.src (.raw g k i) = some ch') (hd : ch'.dirty = true) :
    e.shape.cpuOut c k i ∈ bP.dirty := by
  -- only input callbacks on the written channels: a select channel is not raw
  have hin : ∀ s ∈ b1.dirty, ∀ cb ∈ b1.cbsOf s, ∃ mi i, cb = Cb.muxInput mi i := by
    intro s hsd cb hcb
    cases cb with
    | muxInput mi i => exact ⟨mi, i, rfl⟩
    | muxSelect mj =>
      exfalso
      obtain ⟨m, hm, rfl⟩ := E.wf.selCbOnly s mj hcb
      obtain ⟨s0, hmem, hsys, he⟩ := (E.built.isTrack (E.muxes ▸ hm)).sel
      exact Src.not_raw_of_sys hsys (hraw s0 (Shape.okP_idx hmem (he ▸ E.dirty _ hsd)))
  obtain ⟨mi0, hmi0, _⟩ := E.built.cpuMux hcl hk hil
  have hen : Cb.muxInput mi0 g ∈ b1.cbsOf (e.shape.idx (.raw g k i)) := by
    rw [Bay.cbsOf_congr E.cbs]; exact E.pre.cpu_input_enabled hg hmi0 hrun hcur
  have hdirty : e.shape.idx (.raw g k i) ∈ b1.dirty := by
    rw [E.wf.dirtyIff]
    have := E.mirrors.chan hsrc'
    rw [E.shape] at this
    rw [this]; exact hd
  exact Bay.dirtyPhase_inputOnly E.wf E.layered hin E.phase _ hdirty mi0 g _ hen (E.muxes ▸ hmi0)

end Ovni.Emu
