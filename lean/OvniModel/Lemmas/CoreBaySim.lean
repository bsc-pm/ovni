import OvniModel.Lemmas.CoreBayConn
import OvniModel.Lemmas.BayTrack
import OvniModel.Emu.Prv

/-
  C06: the handlers of the reference emulator (`Emu/Core.lean`) only perform
  channel operations, and on the source channels those are `Bay.Writes`.

  `Emu.src e s` reads source channel `s` out of the emulator state;
  `Mirrors e b`: every source channel of the bay IS the emulator's channel
  (whole `Chan`: values, `last_value`, dirty flag, properties);
  `Sim e e'`: from any bay mirroring `e` a sequence of writes to source channels
  leads to a bay mirroring `e'`; `Upd P e e'`: the same step on the emulator's side, source by
  source (kept, or operated on), which the bay replays (`SimP.of_upd`).  Every handler is
  made of two state updates: `Emu.setThread` after thread.c operations, `Emu.setCpu` after
  `cpu_update`.
-/
namespace Ovni.Emu
open Ovni.Generated

def Emu.shape (e : Emu) : Shape := ⟨e.threads.length, e.cpus.length, e.specs⟩

def Emu.src (e : Emu) : Src → Option Chan
  | .st g => (e.threads[g]?).map (·.chState)
  | .run c => (e.cpus[c]?).map (·.chThrun)
  | .act c => (e.cpus[c]?).map (·.chThact)
  | .raw g k i =>
    match e.threads[g]? with
    | none => none
    | some t =>
      match t.mch[k]? with
      | none => none
      | some x => x.2[i]?

/-- `th_running` holds null or the global index of an existing thread. -/
def RunOk (n : Nat) : Value → Prop
  | .null => True
  | .int k => 0 ≤ k ∧ k.toNat < n

/-- The emulator state has the shape its bay is connected for: threads and CPUs sit at their global
    index, every thread carries the channel groups of `e.specs` (distinct model characters), and
    `th_running` names existing threads. -/
structure Shaped (e : Emu) : Prop where
  thIdx : ∀ (g : Nat) (t : Thread), e.threads[g]? = some t → t.gindex = g
  cpuIdx : ∀ (c : Nat) (x : Cpu), e.cpus[c]? = some x → x.gindex = c
  mch : ∀ (g : Nat) (t : Thread), e.threads[g]? = some t →
    t.mch.map (fun x => (x.1, x.2.length)) = e.specs.map (fun s => (s.char, s.nch))
  chars : (e.specs.map (·.char)).Nodup
  run : ∀ (c : Nat) (x : Cpu), e.cpus[c]? = some x → RunOk e.threads.length x.chThrun.cur
  /-- the state channel shows the thread state (`thread_set_state` is the only writer); it is
      not IGNORE_DUP, so every successful `thread_set_state` leaves the new code on it
      (`Chan.set_cur_noign`) -/
  st : ∀ (g : Nat) (t : Thread), e.threads[g]? = some t →
    StateChan t.chState.cur t.state ∧ t.chState.ignoreDup = false

def Mirrors (e : Emu) (b : Bay) : Prop :=
  ∀ (s : Src) (ch : Chan), e.src s = some ch → b.chans[e.shape.idx s]? = some ch

theorem Mirrors.chan {e : Emu} {b : Bay} (hm : Mirrors e b) {s : Src} {ch : Chan} (h : e.src s = some ch) :
    b.chan (e.shape.idx s) = ch :=
  Bay.chan_of_getElem? (hm s ch h)

theorem Mirrors.chan_run {e : Emu} {b : Bay} (hm : Mirrors e b) {c : Nat} {x : Cpu} (hx : e.cpus[c]? = some x) :
    b.chan (e.shape.idx (.run c)) = x.chThrun :=
  hm.chan (by simp only [Emu.src, hx, Option.map_some])

theorem Shaped.mch_get {e : Emu} (hs : Shaped e) {g : Nat} {t : Thread} (ht : e.threads[g]? = some t) (k : Nat) :
    (t.mch[k]?).map (fun x => (x.1, x.2.length)) = (e.specs[k]?).map fun s => (s.char, s.nch) := by
  simpa only [List.getElem?_map] using congrArg (·[k]?) (hs.mch g t ht)

theorem Shaped.mch_at {e : Emu} (hs : Shaped e) {g k : Nat} {t : Thread} {x : Nat × List Chan}
    (ht : e.threads[g]? = some t) (hx : t.mch[k]? = some x) :
    ∃ m, e.specs[k]? = some m ∧ m.char = x.1 ∧ m.nch = x.2.length := by
  have h := hs.mch_get ht k
  rw [hx] at h
  cases hm : e.specs[k]? with
  | none => rw [hm] at h; cases h
  | some m =>
    rw [hm] at h
    simp only [Option.map_some, Option.some.injEq, Prod.mk.injEq] at h
    exact ⟨m, rfl, h.1.symm, h.2.symm⟩

theorem Shaped.cpu_at {e : Emu} (hs : Shaped e) {c : Cpu} (hc : c ∈ e.cpus) : e.cpus[c.gindex]? = some c := by
  obtain ⟨cg, hcg⟩ := List.mem_iff_getElem?.mp hc
  rw [hs.cpuIdx cg c hcg]; exact hcg

theorem Shaped.src_mem {e : Emu} (hs : Shaped e) {s : Src} {ch : Chan} (h : e.src s = some ch) :
    s ∈ e.shape.addrs := by
  cases s with
  | st g =>
    obtain ⟨t, ht, _⟩ := Option.map_eq_some_iff.mp h
    exact (Shape.mem_st _ g).mpr (List.getElem?_eq_some_iff.mp ht).1
  | run c =>
    obtain ⟨x, hx, _⟩ := Option.map_eq_some_iff.mp h
    exact (Shape.mem_run _ c).mpr (List.getElem?_eq_some_iff.mp hx).1
  | act c =>
    obtain ⟨x, hx, _⟩ := Option.map_eq_some_iff.mp h
    exact (Shape.mem_act _ c).mpr (List.getElem?_eq_some_iff.mp hx).1
  | raw g k i =>
    rw [Shape.mem_raw]
    simp only [Emu.src] at h
    cases ht : e.threads[g]? with
    | none => rw [ht] at h; cases h
    | some t =>
      rw [ht] at h
      simp only at h
      cases hx : t.mch[k]? with
      | none => rw [hx] at h; cases h
      | some x =>
        rw [hx] at h
        obtain ⟨m, hm, _, hn⟩ := hs.mch_at ht hx
        exact ⟨(List.getElem?_eq_some_iff.mp ht).1, m, hm, by
          rw [hn]; exact (List.getElem?_eq_some_iff.mp h).1⟩

theorem Shaped.src_none {e : Emu} (hs : Shaped e) {s : Src} (h : s ∉ e.shape.addrs) : e.src s = none :=
  Option.eq_none_iff_forall_ne_some.mpr fun _ hc => h (hs.src_mem hc)

theorem Shaped.raw_lt {e : Emu} (hs : Shaped e) {g k i : Nat} {c : Chan} (h : e.src (.raw g k i) = some c) :
    g < e.threads.length :=
  ((e.shape.mem_raw g k i).mp (hs.src_mem h)).1

theorem Thread.getChans_eq_some {t : Thread} (hnd : (t.mch.map (·.1)).Nodup) {m : Nat} {cs : List Chan} :
    t.getChans m = some cs ↔ ∃ k : Nat, t.mch[k]? = some (m, cs) := by
  unfold Thread.getChans
  cases hf : t.mch.find? (·.1 == m) with
  | none =>
    refine ⟨fun h => (by cases h), fun ⟨k, hk⟩ => ?_⟩
    simpa using List.find?_eq_none.mp hf (m, cs) (List.mem_of_getElem? hk)
  | some x =>
    obtain ⟨k', hk'⟩ := List.mem_iff_getElem?.mp (List.mem_of_find?_eq_some hf)
    have hx : x.1 = m := eq_of_beq (List.find?_some (p := fun x : Nat × List Chan => x.1 == m) hf)
    simp only [Option.map_some, Option.some.injEq]
    constructor
    · rintro rfl; exact ⟨k', hx ▸ hk'⟩
    · rintro ⟨k, hk⟩
      cases nodup_map_getElem?_inj hnd hk' hk hx
      rw [hk] at hk'; cases hk'; rfl

theorem Thread.setChans_getElem? {t : Thread} {m k : Nat} {cs cs' : List Chan}
    (hnd : (t.mch.map (·.1)).Nodup) (hk : t.mch[k]? = some (m, cs)) (k' : Nat) :
    (t.setChans m cs').mch[k']? = if k' = k then some (m, cs') else t.mch[k']? := by
  simp only [Thread.setChans, List.getElem?_map]
  by_cases hkk : k' = k
  · subst hkk; simp [hk]
  · simp only [hkk, if_false]
    cases hx : t.mch[k']? with
    | none => rfl
    | some x =>
      simp only [Option.map_some]
      have hne : ¬ (x.1 == m) = true := fun he => hkk (nodup_map_getElem?_inj hnd hx hk (eq_of_beq he))
      simp [hne]

theorem Shaped.keys {e : Emu} (hs : Shaped e) {g : Nat} {t : Thread} (ht : e.threads[g]? = some t) :
    (t.mch.map (·.1)).Nodup := by
  have h := congrArg (List.map Prod.fst) (hs.mch g t ht)
  simp only [List.map_map] at h
  have h1 : (t.mch.map (·.1)) = e.specs.map (·.char) := h
  rw [h1]; exact hs.chars

theorem Shaped.getChans {e : Emu} (hs : Shaped e) {g k : Nat} {t : Thread} {m : ModelSpec}
    (ht : e.threads[g]? = some t) (hk : e.specs[k]? = some m) :
    ∃ cs, t.getChans m.char = some cs ∧ t.mch[k]? = some (m.char, cs) ∧ cs.length = m.nch := by
  have h := hs.mch_get ht k
  rw [hk] at h
  cases hx : t.mch[k]? with
  | none => rw [hx] at h; cases h
  | some x =>
    rw [hx] at h
    simp only [Option.map_some, Option.some.injEq, Prod.mk.injEq] at h
    have hcs : some x = some (m.char, x.2) := by rw [← h.1]
    exact ⟨x.2, (Thread.getChans_eq_some (hs.keys ht)).mpr ⟨k, hx.trans hcs⟩, hcs, h.2⟩

/-- `e'` is reachable from `e` by channel operations on sources of class `P`
    that the bay can replay.  `Shaped e` is a premise, and `Shaped e'` with the same shape part
    of the conclusion, so that steps compose (`SimP.trans`) without side conditions. -/
def SimP (P : Src → Prop) (e e' : Emu) : Prop :=
  Shaped e → Shaped e' ∧ e'.shape = e.shape ∧
    ∀ b, Mirrors e b → ∃ b1, Bay.Writes (e.shape.okP P) b b1 ∧ Mirrors e' b1

def Sim (e e' : Emu) : Prop := SimP (fun _ => True) e e'

theorem SimP.run {P : Src → Prop} {e e' : Emu} {b : Bay} (h : SimP P e e') (hs : Shaped e) (hm : Mirrors e b) :
    Shaped e' ∧ e'.shape = e.shape ∧ ∃ b1, Bay.Writes (e.shape.okP P) b b1 ∧ Mirrors e' b1 :=
  ⟨(h hs).1, (h hs).2.1, (h hs).2.2 b hm⟩

theorem SimP.refl {P : Src → Prop} (e : Emu) : SimP P e e := fun hs => ⟨hs, rfl, fun b hm => ⟨b, .nil b, hm⟩⟩

theorem SimP.trans {P : Src → Prop} {e e1 e2 : Emu} (h1 : SimP P e e1) (h2 : SimP P e1 e2) : SimP P e e2 := by
  intro hs
  obtain ⟨hs1, hsh1, hw1⟩ := h1 hs
  obtain ⟨hs2, hsh2, hw2⟩ := h2 hs1
  refine ⟨hs2, hsh2.trans hsh1, fun b hm => ?_⟩
  obtain ⟨b1, w1, m1⟩ := hw1 b hm
  obtain ⟨b2, w2, m2⟩ := hw2 b1 m1
  rw [hsh1] at w2
  exact ⟨b2, w1.trans w2, m2⟩

theorem SimP.mono {P Q : Src → Prop} {e e' : Emu} (hpq : ∀ s, P s → Q s) (h : SimP P e e') : SimP Q e e' := by
  intro hs
  obtain ⟨hs1, hsh1, hw1⟩ := h hs
  refine ⟨hs1, hsh1, fun b hm => ?_⟩
  obtain ⟨b1, w1, m1⟩ := hw1 b hm
  exact ⟨b1, w1.mono (fun _ => Shape.okP_mono hpq), m1⟩

theorem SimP.sim {P : Src → Prop} {e e' : Emu} (h : SimP P e e') : Sim e e' := h.mono (fun _ _ => trivial)

theorem Sim.trans {e e1 e2 : Emu} (h1 : Sim e e1) (h2 : Sim e1 e2) : Sim e e2 := SimP.trans h1 h2

/-- `e'` is `e` with sources of class `P` operated on and the others as they were.  Every primitive
    update of a handler is one, they compose (`Upd.trans`), the bay replays them
    (`SimP.of_upd`), and the sources outside `P` are left alone by definition. -/
structure Upd (P : Src → Prop) (e e' : Emu) : Prop where
  shaped : Shaped e'
  shape : e'.shape = e.shape
  src : ∀ s, e'.src s = e.src s ∨
    P s ∧ ∃ f ch ch', ChanOp f ∧ e.src s = some ch ∧ f ch = .ok ch' ∧ e'.src s = some ch'

theorem Upd.refl {P : Src → Prop} {e : Emu} (hs : Shaped e) : Upd P e e := ⟨hs, rfl, fun _ => .inl rfl⟩

/-- Two operations on the same source are one: `ChanOp.comp`. -/
theorem Upd.trans {P : Src → Prop} {e e1 e2 : Emu} (h1 : Upd P e e1) (h2 : Upd P e1 e2) : Upd P e e2 := by
  refine ⟨h2.shaped, h2.shape.trans h1.shape, fun s => ?_⟩
  rcases h2.src s with h | ⟨hP, g, c1, c2, hg, a1, a2, a3⟩
  · rw [h]; exact h1.src s
  · rcases h1.src s with h | ⟨_, f, c0, c1', hf, b1, b2, b3⟩
    · exact .inr ⟨hP, g, c1, c2, hg, h ▸ a1, a2, a3⟩
    · cases b3.symm.trans a1
      exact .inr ⟨hP, _, c0, c2, hf.comp hg, b1, bind_ok_iff.mpr ⟨_, b2, a2⟩, a3⟩

/-- The bay replays the operations, one write per changed source: any order will do for
    `Bay.Writes`. -/
theorem SimP.of_upd {P : Src → Prop} {e e' : Emu} (h : Shaped e → Upd P e e') : SimP P e e' := by
  intro hs
  obtain ⟨hs', hshape, hsrc⟩ := h hs
  refine ⟨hs', hshape, fun b hm => ?_⟩
  -- the sources in `l` are written, the others not yet
  have key : ∀ l : List Src, ∃ b1, Bay.Writes (e.shape.okP P) b b1 ∧ ∀ s ch,
      (if s ∈ l then e'.src s else e.src s) = some ch → b1.chans[e.shape.idx s]? = some ch := by
    intro l
    induction l with
    | nil => exact ⟨b, .nil b, fun s ch h => hm s ch (by simpa using h)⟩
    | cons s l ih =>
      obtain ⟨b1, hw, h1⟩ := ih
      by_cases hk : s ∈ l ∨ e'.src s = e.src s
      · -- nothing to write
        refine ⟨b1, hw, fun s' ch hc => h1 s' ch ?_⟩
        by_cases q : s' = s
        · subst q
          rw [if_pos List.mem_cons_self] at hc
          rcases hk with hk | hk
          · rwa [if_pos hk]
          · split
            · exact hc
            · exact hk ▸ hc
        · simpa [q] using hc
      · obtain ⟨hP, f, ch, ch', hf, h0, hfs, h0'⟩ := (hsrc s).resolve_left fun h => hk (.inr h)
        have hmem := hs.src_mem h0
        obtain ⟨b2, hwr, hw1, hw2⟩ :=
          Bay.write1 (h1 s ch (by rw [if_neg fun h => hk (.inl h)]; exact h0)) hfs
        refine ⟨b2, .snoc hw ⟨s, hmem, hP, rfl⟩ hf hwr, fun s' c hc => ?_⟩
        by_cases q : s' = s
        · subst q; rw [if_pos List.mem_cons_self, h0'] at hc; cases hc; exact hw1
        · replace hc : (if s' ∈ l then e'.src s' else e.src s') = some c := by simpa [q] using hc
          have hmem' : s' ∈ e.shape.addrs := by
            split at hc
            · exact hshape ▸ hs'.src_mem hc
            · exact hs.src_mem hc
          rw [hw2 _ fun q' => q (e.shape.idx_inj hmem' hmem q')]
          exact h1 s' c hc
  obtain ⟨b1, hw, h1⟩ := key e.shape.addrs
  exact ⟨b1, hw, fun s ch' h0 => hshape ▸ h1 s ch' (by rw [if_pos (hshape ▸ hs'.src_mem h0)]; exact h0)⟩

/-- `hs'` has the shape in which `Shaped.setThread` and `Shaped.setCpu` conclude, to be handed over whole. -/
theorem Upd.of_write {P : Src → Prop} {e e' : Emu} (hs' : Shaped e' ∧ e'.shape = e.shape) (s0 : Src)
    (hP : P s0) {ch ch' : Chan} {f : Chan → Except Err Chan} (hf : ChanOp f)
    (h0 : e.src s0 = some ch) (hfc : f ch = .ok ch') (h0' : e'.src s0 = some ch')
    (hsrc : ∀ s, s ≠ s0 → e'.src s = e.src s) : Upd P e e' :=
  ⟨hs'.1, hs'.2, fun s => by
    by_cases hne : s = s0
    · exact hne ▸ .inr ⟨hP, f, ch, ch', hf, h0, hfc, h0'⟩
    · exact .inl (hsrc s hne)⟩

theorem Emu.src_setThread {e : Emu} {ti : Nat} {t t' : Thread} (ht : e.threads[ti]? = some t)
    (hg : t'.gindex = ti) (s : Src) (hst : s = .st ti → t'.chState = t.chState)
    (hraw : ∀ k i, s = .raw ti k i → (t'.mch[k]?).bind (·.2[i]?) = (t.mch[k]?).bind (·.2[i]?)) :
    (e.setThread t').src s = e.src s := by
  have hlt : ti < e.threads.length := (List.getElem?_eq_some_iff.mp ht).1
  cases s with
  | st g =>
    simp only [Emu.src, Emu.setThread, hg]
    by_cases h : ti = g
    · subst h; simp only [List.getElem?_set_self hlt, ht, Option.map_some, hst rfl]
    · rw [List.getElem?_set_ne h]
  | run c => rfl
  | act c => rfl
  | raw g k i =>
    simp only [Emu.src, Emu.setThread, hg]
    by_cases h : ti = g
    · subst h
      have := hraw k i rfl
      simp only [List.getElem?_set_self hlt, ht]
      cases h1 : t'.mch[k]? <;> cases h2 : t.mch[k]? <;> rw [h1, h2] at this <;> exact this
    · rw [List.getElem?_set_ne h]

theorem Emu.src_setThread_st {e : Emu} {ti : Nat} {t t' : Thread} (ht : e.threads[ti]? = some t)
    (hg : t'.gindex = ti) : (e.setThread t').src (.st ti) = some t'.chState := by
  have hlt : ti < e.threads.length := (List.getElem?_eq_some_iff.mp ht).1
  simp only [Emu.src, Emu.setThread, hg, List.getElem?_set_self hlt, Option.map_some]

/-- `Shaped` looks at each thread and each CPU on its own. -/
theorem Shaped.of_pointwise {e e' : Emu} (hs : Shaped e) (hspecs : e'.specs = e.specs)
    (hlen : e'.threads.length = e.threads.length)
    (hth : ∀ (g : Nat) (t' : Thread), e'.threads[g]? = some t' → ∃ t, e.threads[g]? = some t ∧
      t'.gindex = t.gindex ∧
      t'.mch.map (fun x => (x.1, x.2.length)) = t.mch.map (fun x => (x.1, x.2.length)) ∧
      StateChan t'.chState.cur t'.state ∧ t'.chState.ignoreDup = false)
    (hcpu : ∀ (c : Nat) (x' : Cpu), e'.cpus[c]? = some x' → ∃ x, e.cpus[c]? = some x ∧
      x'.gindex = x.gindex ∧ RunOk e.threads.length x'.chThrun.cur) : Shaped e' := by
  constructor
  · intro g t' h; obtain ⟨t, ht, hg, _⟩ := hth g t' h; exact hg.trans (hs.thIdx g t ht)
  · intro c x' h; obtain ⟨x, hx, hg, _⟩ := hcpu c x' h; exact hg.trans (hs.cpuIdx c x hx)
  · intro g t' h; obtain ⟨t, ht, _, hm, _⟩ := hth g t' h; rw [hm, hspecs]; exact hs.mch g t ht
  · rw [hspecs]; exact hs.chars
  · intro c x' h; obtain ⟨x, _, _, hr⟩ := hcpu c x' h; rw [hlen]; exact hr
  · intro g t' h; obtain ⟨t, _, _, _, hst⟩ := hth g t' h; exact hst

theorem Shaped.setThread {e : Emu} (hs : Shaped e) {ti : Nat} {t t' : Thread} (ht : e.threads[ti]? = some t)
    (hg : t'.gindex = ti)
    (hmch : t'.mch.map (fun x => (x.1, x.2.length)) = t.mch.map (fun x => (x.1, x.2.length)))
    (hst : StateChan t'.chState.cur t'.state ∧ t'.chState.ignoreDup = false) :
    Shaped (e.setThread t') ∧ (e.setThread t').shape = e.shape := by
  have hthr : (e.setThread t').threads = e.threads.set ti t' := by simp [Emu.setThread, hg]
  refine ⟨hs.of_pointwise rfl (by rw [hthr, List.length_set]) (fun g u hu => ?_)
    (fun c x hx => ⟨x, hx, rfl, hs.run c x hx⟩), by simp only [Emu.shape, hthr, List.length_set]; rfl⟩
  rw [hthr] at hu
  rcases getElem?_set_some hu with ⟨rfl, rfl⟩ | ⟨_, h⟩
  · exact ⟨t, ht, hg.trans (hs.thIdx _ t ht).symm, hmch, hst⟩
  · exact ⟨u, h, rfl, rfl, hs.st g u h⟩

/-- `Emu.setThread` stores at `t'.gindex`, which is the thread's position in a `Shaped` state. -/
theorem Shaped.setThread_get {e : Emu} (hs : Shaped e) {ti : Nat} {t t' : Thread} (ht : e.threads[ti]? = some t)
    (hg : t'.gindex = t.gindex) : (e.setThread t').threads[ti]? = some t' := by
  simp only [Emu.setThread, hg, hs.thIdx ti t ht, List.getElem?_set_self (List.getElem?_eq_some_iff.mp ht).1]

/-- A thread stored back with its state and its source channels as they were (the affinity channel,
    `is_out_of_cpu`): no source changes. -/
theorem Upd.setThread_same {P : Src → Prop} {e : Emu} {ti : Nat} {t t' : Thread} (hs : Shaped e)
    (ht : e.threads[ti]? = some t) (hg : t'.gindex = t.gindex) (hmch : t'.mch = t.mch)
    (hst : t'.chState = t.chState) (hstate : t'.state = t.state) : Upd P e (e.setThread t') :=
  have hgi : t'.gindex = ti := hg.trans (hs.thIdx ti t ht)
  have ⟨hs', hsh⟩ := hs.setThread ht hgi (by rw [hmch]) (by rw [hst, hstate]; exact hs.st ti t ht)
  ⟨hs', hsh, fun s => .inl (Emu.src_setThread ht hgi s (fun _ => hst) fun _ _ _ => by rw [hmch])⟩

theorem Emu.src_setCpu {e : Emu} {ci : Nat} {c' : Cpu}
    (hg : c'.gindex = ci) (s : Src) (hr : s ≠ .run ci) (ha : s ≠ .act ci) :
    (e.setCpu c').src s = e.src s := by
  cases s with
  | st g => rfl
  | raw g k i => rfl
  | run x =>
    have : ci ≠ x := fun h => hr (by rw [h])
    simp only [Emu.src, Emu.setCpu, hg, List.getElem?_set_ne this]
  | act x =>
    have : ci ≠ x := fun h => ha (by rw [h])
    simp only [Emu.src, Emu.setCpu, hg, List.getElem?_set_ne this]

theorem Emu.src_setCpu_self {e : Emu} {ci : Nat} {c c' : Cpu} (hc : e.cpus[ci]? = some c)
    (hg : c'.gindex = ci) : (e.setCpu c').src (.run ci) = some c'.chThrun ∧
      (e.setCpu c').src (.act ci) = some c'.chThact := by
  have hlt : ci < e.cpus.length := (List.getElem?_eq_some_iff.mp hc).1
  simp only [Emu.src, Emu.setCpu, hg, List.getElem?_set_self hlt, Option.map_some, and_self]

theorem Shaped.setCpu {e : Emu} (hs : Shaped e) {ci : Nat} {c c' : Cpu} (hc : e.cpus[ci]? = some c)
    (hg : c'.gindex = ci) (hrun : RunOk e.threads.length c'.chThrun.cur) :
    Shaped (e.setCpu c') ∧ (e.setCpu c').shape = e.shape := by
  have hcp : (e.setCpu c').cpus = e.cpus.set ci c' := by simp [Emu.setCpu, hg]
  refine ⟨hs.of_pointwise rfl rfl (fun g t ht => ⟨t, ht, rfl, rfl, hs.st g t ht⟩) (fun g u hu => ?_),
    by simp only [Emu.shape, hcp, List.length_set]; rfl⟩
  rw [hcp] at hu
  rcases getElem?_set_some hu with ⟨rfl, rfl⟩ | ⟨_, h⟩
  · exact ⟨c, hc, hg.trans (hs.cpuIdx _ c hc).symm, hrun⟩
  · exact ⟨u, h, rfl, hs.run g u h⟩

theorem Emu.src_flushAll (e : Emu) (s : Src) : e.flushAll.src s = (e.src s).map Chan.flush := by
  cases s with
  | st g =>
    simp only [Emu.src, Emu.flushAll, List.getElem?_map]
    cases e.threads[g]? <;> rfl
  | run c =>
    simp only [Emu.src, Emu.flushAll, List.getElem?_map]
    cases e.cpus[c]? <;> rfl
  | act c =>
    simp only [Emu.src, Emu.flushAll, List.getElem?_map]
    cases e.cpus[c]? <;> rfl
  | raw g k i =>
    simp only [Emu.src, Emu.flushAll, List.getElem?_map]
    cases e.threads[g]? with
    | none => rfl
    | some t =>
      simp only [Option.map_some, List.getElem?_map]
      cases t.mch[k]? with
      | none => rfl
      | some x => simp only [Option.map_some, List.getElem?_map]

theorem Emu.shape_flushAll (e : Emu) : e.flushAll.shape = e.shape := by
  simp only [Emu.shape, Emu.flushAll, List.length_map]; rfl

theorem Shaped.flushAll {e : Emu} (hs : Shaped e) : Shaped e.flushAll := by
  refine hs.of_pointwise rfl (by simp only [Emu.flushAll, List.length_map]) (fun g t ht => ?_)
    (fun c x hx => ?_)
  · simp only [Emu.flushAll, List.getElem?_map] at ht
    obtain ⟨u, hu, rfl⟩ := Option.map_eq_some_iff.mp ht
    refine ⟨u, hu, rfl, by simp [List.map_map, Function.comp_def], ?_⟩
    simp only [Chan.flush_cur]
    rw [Chan.flush_eq]
    exact hs.st g u hu
  · simp only [Emu.flushAll, List.getElem?_map] at hx
    obtain ⟨u, hu, rfl⟩ := Option.map_eq_some_iff.mp hx
    simp only [Chan.flush_cur]
    exact ⟨u, hu, rfl, hs.run c u hu⟩

end Ovni.Emu
