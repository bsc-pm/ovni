import OvniModel.Lemmas.CoreBayInit

/-
  C06: where the tracks of (thread | CPU, model, channel) sit in a bay satisfying `Inv`, what their
  inputs mirror, and the invariance of `thView` / `cpuView` under the flush that ends a step.
-/
namespace Ovni.Emu
open Ovni.Generated

theorem Inv.raw_cur {e : Emu} {b0 b : Bay} (hs : Shaped e) (hi : Inv b0 e b) {g k i : Nat} {t : Thread}
    {m : ModelSpec} (ht : e.threads[g]? = some t) (hk : e.specs[k]? = some m) (hil : i < m.nch) :
    ∃ cs, t.getChans m.char = some cs ∧ b.chan (e.shape.idx (.raw g k i)) = cs.getD i {} := by
  obtain ⟨cs, hcs, hmch, hlen⟩ := hs.getChans ht hk
  have hil' : i < cs.length := hlen ▸ hil
  have hsrc : e.src (.raw g k i) = some cs[i] := by
    simp only [Emu.src, ht, hmch, List.getElem?_eq_getElem hil']
  refine ⟨cs, hcs, ?_⟩
  rw [hi.mirrors.chan hsrc]
  simp [List.getD_eq_getElem?_getD, List.getElem?_eq_getElem hil']

theorem Inv.thMux {e : Emu} {b0 b : Bay} (hc : e.shape.connect = .ok b0) (hi : Inv b0 e b) {g k i : Nat}
    {m : ModelSpec} (hg : g < e.threads.length) (hk : e.specs[k]? = some m) (hil : i < m.nch)
    (hna : m.thTrack.getD i 0 ≠ trackAny) :
    (m.thTrack.getD i 0 = trackRun ∨ m.thTrack.getD i 0 = trackAct) ∧
    ∃ mi : Nat, b.muxes[mi]? = some (e.shape.thTrack g k i m (e.shape.thOut g k i)) := by
  have hjob : Job.th g k i ∈ e.shape.jobs := (e.shape.mem_jobs_th g k i).mpr ⟨hg, m, hk, hil⟩
  have hmode := ((Shape.connect_iff.mp hc).1 _ hjob m hk).resolve_left hna
  have hk' : e.shape.specs[k]? = some m := hk
  have hout : e.shape.thOut g k i = e.shape.L + e.shape.jobs.idxOf (Job.th g k i) := by
    simp only [Shape.thOut, hk', hna, if_false]
  rw [hi.muxes, hout]
  exact ⟨hmode, (Shape.connect_built hc).mem_mux hjob (by simp only [Shape.muxOf, hk', if_pos hmode])⟩

theorem Shape.Built.cpuMux {σ : Shape} {b0 : Bay} (hb : σ.Built σ.jobs.length b0)
    {c k i : Nat} {ms : ModelSpec} (hcl : c < σ.nC) (hk : σ.specs[k]? = some ms) (hil : i < ms.nch) :
    ∃ mi0, b0.muxes[mi0]? = some (σ.cpuTrack c k i ms (σ.cpuOut c k i)) ∧
      ∀ (mi : Nat) (m : Mux), b0.muxes[mi]? = some m → m.out = σ.cpuOut c k i → mi = mi0 := by
  have hjob : Job.cpu c k i ∈ σ.jobs := (σ.mem_jobs_cpu c k i).mpr ⟨hcl, ms, hk, hil⟩
  have hmo : σ.muxOf (Job.cpu c k i) (σ.L + σ.jobs.idxOf (Job.cpu c k i)) =
      some (σ.cpuTrack c k i ms (σ.cpuOut c k i)) := by
    simp only [Shape.muxOf, hk]; rfl
  obtain ⟨mi0, hmi0⟩ := hb.mem_mux hjob hmo
  exact ⟨mi0, hmi0, fun mi m hm ho => hb.topo.layered.out_inj hmi0 hm ho⟩

theorem Inv.cpuMux {e : Emu} {b0 b : Bay} (hc : e.shape.connect = .ok b0) (hi : Inv b0 e b) {c k i : Nat}
    {m : ModelSpec} (hcl : c < e.cpus.length) (hk : e.specs[k]? = some m) (hil : i < m.nch) :
    ∃ mi : Nat, b.muxes[mi]? = some (e.shape.cpuTrack c k i m (e.shape.cpuOut c k i)) := by
  obtain ⟨mi, hmi, _⟩ := (Shape.connect_built hc).cpuMux (σ := e.shape) hcl hk hil
  exact ⟨mi, hi.muxes ▸ hmi⟩

/-- CPU `c` runs thread `g` (`th_running` = `g`): on every track of the CPU the input callback of
    that thread is the enabled one. -/
theorem Inv.cpu_input_enabled {e : Emu} {b0 b : Bay} (hi : Inv b0 e b)
    {c g k i mi : Nat} {ms : ModelSpec} {x : Chan} (hg : g < e.shape.nT)
    (hmi : b0.muxes[mi]? = some (e.shape.cpuTrack c k i ms (e.shape.cpuOut c k i)))
    (hrun : e.src (.run c) = some x) (hcur : x.cur = .int (g : Int)) :
    Cb.muxInput mi g ∈ b.cbsOf (e.shape.idx (.raw g k i)) := by
  have hselc : (b.chan (e.shape.idx (.run c))).cur = .int (g : Int) := by
    rw [hi.mirrors.chan hrun]; exact hcur
  have hinp : ((e.shape.rawsOf k i).map some)[g]? = some (some (e.shape.idx (.raw g k i))) := by
    rw [List.getElem?_map, Shape.rawsOf_getElem? hg]; rfl
  rcases hi.sync mi _ (hi.muxes ▸ hmi) with hsync | hvir
  · obtain ⟨s, hsel, hen, _, _⟩ := hsync.2.out
    simp only [hselc] at hsel
    obtain ⟨_, _, hs'⟩ := selectInput_index _ rfl _ _ hsel
    have : s = some g := by rw [hs']; simp
    obtain ⟨c0, hc0, hcb⟩ := (hen g).mpr this
    simp only at hc0
    rw [hinp] at hc0
    injection hc0 with hc0; injection hc0 with hc0
    rw [hc0]; exact hcb
  · -- a virgin mux (select never written, `mux_set_default` still inert, cf. `cpuViewC`) has a null select
    exfalso
    obtain ⟨v1, _, _⟩ := hvir
    simp only [hselc] at v1
    cases v1

theorem Thread.getChans_flush (t : Thread) (m : Nat) :
    t.flush.getChans m = (t.getChans m).map (·.map Chan.flush) := by
  simp only [Thread.getChans, Thread.flush, List.find?_map, Option.map_map]
  rfl

theorem thView_flush (t : Thread) (m : ModelSpec) (i : Nat) : thView t.flush m i = thView t m i := by
  unfold thView
  rw [Thread.getChans_flush]
  cases t.getChans m.char with
  | none => rfl
  | some cs => simp only [Option.map_some, getD_map_flush_cur]; rfl

/-- The flush that ends a step changes no row: a thread of `e.flushAll` shows what it showed. -/
theorem flushAll_thread {e : Emu} {g : Nat} {t : Thread} (ht : e.threads[g]? = some t) :
    ∃ t', e.flushAll.threads[g]? = some t' ∧ ∀ m i, thView t' m i = thView t m i :=
  ⟨t.flush, by rw [Emu.flushAll_threads_getElem?, ht]; rfl, thView_flush t⟩

/-- A CPU of `e.flushAll` shows what it showed: its `th_running` names the same thread. -/
theorem flushAll_cpu {e : Emu} {c : Nat} {x : Cpu} (hx : e.cpus[c]? = some x) :
    ∃ x', e.flushAll.cpus[c]? = some x' ∧ x'.chThrun.cur = x.chThrun.cur ∧
      ∀ m i, cpuView e.flushAll x' m i = cpuView e x m i := by
  refine ⟨x.flush, by rw [Emu.flushAll_cpus_getElem?, hx]; rfl, Chan.flush_cur _, fun m i => ?_⟩
  unfold cpuView cpuSelected
  simp only [Cpu.flush, Chan.flush_cur, Emu.flushAll_threads_getElem?]
  cases x.chThrun.cur with
  | null => rfl
  | int g =>
    simp only
    by_cases hg : g < 0
    · simp only [hg, if_true]
    · simp only [hg, if_false]
      cases e.threads[g.toNat]? with
      | none => rfl
      | some t =>
        simp only [Option.map_some, Thread.getChans_flush]
        cases t.getChans m.char with
        | none => rfl
        | some cs => simp only [Option.map_some, getD_map_flush_cur]

end Ovni.Emu
