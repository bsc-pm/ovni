import OvniModel.Lemmas.Breakdown

/-!
What C20 needs between the dirty list of the global bay and the order hypothesis `orderOk` of one
CPU's breakdown.  `srcOrder` projects a dirty list onto the CPU's three breakdown inputs; `orderOk`
holds of it when a channel is absent or `tt` / `ss` are ahead of `idle`.
-/
namespace Ovni.Props.C20
open Ovni.Emu.Breakdown

def srcOf (tt ss idle ch : Nat) : Option Src :=
  if ch = tt then some Src.tt else if ch = ss then some Src.ss else if ch = idle then some Src.idle else none

/-- The three CPU track outputs feeding the breakdown, as they appear on a
    dirty list: channel ids `tt`, `ss`, `idle` ↦ `Src`. -/
def srcOrder (tt ss idle : Nat) (d : List Nat) : List Src := d.filterMap (srcOf tt ss idle)

def chOf (tt ss idle : Nat) : Src → Nat
  | .tt => tt
  | .ss => ss
  | .idle => idle

theorem srcOf_eq_some {tt ss idle ch : Nat} {x : Src} (h : srcOf tt ss idle ch = some x) :
    ch = chOf tt ss idle x := by
  unfold srcOf at h
  split at h
  · cases h; assumption
  · split at h
    · cases h; assumption
    · split at h
      · cases h; assumption
      · cases h

theorem srcOf_chOf {tt ss idle : Nat} (hts : tt ≠ ss) (hti : tt ≠ idle) (hsi : ss ≠ idle) (x : Src) :
    srcOf tt ss idle (chOf tt ss idle x) = some x := by
  cases x <;> simp [srcOf, chOf, hts.symm, hti.symm, hsi.symm]

theorem mem_srcOrder {tt ss idle : Nat} {d : List Nat} {x : Src} (h : x ∈ srcOrder tt ss idle d) :
    chOf tt ss idle x ∈ d := by
  obtain ⟨ch, hch, hx⟩ := List.mem_filterMap.mp h
  exact srcOf_eq_some hx ▸ hch

theorem mem_srcOrder_of_mem {tt ss idle : Nat} (hts : tt ≠ ss) (hti : tt ≠ idle) (hsi : ss ≠ idle)
    {d : List Nat} {x : Src} (h : chOf tt ss idle x ∈ d) : x ∈ srcOrder tt ss idle d :=
  List.mem_filterMap.mpr ⟨_, h, srcOf_chOf hts hti hsi x⟩

theorem srcOrder_eq_nil {tt ss idle : Nat} {d : List Nat} (h1 : tt ∉ d) (h2 : ss ∉ d) (h3 : idle ∉ d) :
    srcOrder tt ss idle d = [] :=
  List.eq_nil_iff_forall_not_mem.mpr fun x hx => by
    cases x
    · exact h2 (mem_srcOrder hx)
    · exact h1 (mem_srcOrder hx)
    · exact h3 (mem_srcOrder hx)

theorem srcOrder_cons_other {tt ss idle a : Nat} (d : List Nat) (h1 : a ≠ tt) (h2 : a ≠ ss) (h3 : a ≠ idle) :
    srcOrder tt ss idle (a :: d) = srcOrder tt ss idle d := by
  simp [srcOrder, srcOf, h1, h2, h3]

theorem srcOrder_nodup (tt ss idle : Nat) {d : List Nat} (hnd : d.Nodup) : (srcOrder tt ss idle d).Nodup := by
  refine List.Pairwise.filterMap _ ?_ hnd
  intro a a' hne b hb b' hb' hbb
  subst hbb
  exact hne ((srcOf_eq_some hb).trans (srcOf_eq_some hb').symm)

theorem orderOk_of_absent (tt ss idle : Nat) (d : List Nat) (h : idle ∉ d ∨ tt ∉ d ∧ ss ∉ d) :
    orderOk (dedup (srcOrder tt ss idle d)) = true := by
  have hm : ∀ x, x ∈ dedup (srcOrder tt ss idle d) → chOf tt ss idle x ∈ d :=
    fun x hx => mem_srcOrder ((mem_dedup _ _).mp hx)
  rcases h with h | ⟨h1, h2⟩
  · exact orderOk_of_no_idle _ (fun hx => h (hm _ hx))
  · exact orderOk_of_none _ (fun hx => h2 (hm _ hx)) (fun hx => h1 (hm _ hx))

theorem orderOk_of_ahead (tt ss idle : Nat) (hti : tt ≠ idle) (hsi : ss ≠ idle) :
    ∀ (d : List Nat), d.Nodup → Ahead d tt idle → Ahead d ss idle →
      orderOk (dedup (srcOrder tt ss idle d)) = true := by
  intro d hnd
  rw [dedup_of_nodup _ (srcOrder_nodup tt ss idle hnd)]
  induction d with
  | nil => intro _ _; rfl
  | cons a d ih =>
    intro h1 h2
    rw [List.nodup_cons] at hnd
    have ih := ih hnd.2 (h1.tail hnd.1) (h2.tail hnd.1)
    rw [srcOrder, List.filterMap_cons]
    cases hx : srcOf tt ss idle a with
    | none => exact ih
    | some x =>
      cases x with
      | tt => exact ih
      | ss => exact ih
      | idle =>
        -- `idle` first: no `tt` / `ss` may follow
        have ha : a = idle := srcOf_eq_some hx
        subst ha
        exact (orderOk_idle _).mpr ⟨fun h => h2.not_mem hsi.symm (mem_srcOrder h),
          fun h => h1.not_mem hti.symm (mem_srcOrder h)⟩

theorem srcOrder_sublist_tt (tt : Nat) {ss idle : Nat} {d : List Nat} (hnd : d.Nodup) (hs : ss ∉ d)
    (hi : idle ∉ d) : (srcOrder tt ss idle d).Sublist [Src.tt] := by
  have hnd' := srcOrder_nodup tt ss idle hnd
  have hall : ∀ x ∈ srcOrder tt ss idle d, x = Src.tt := by
    intro x hx
    cases x
    · exact absurd (mem_srcOrder hx) hs
    · rfl
    · exact absurd (mem_srcOrder hx) hi
  rw [List.eq_replicate_of_mem hall] at hnd' ⊢
  exact (List.replicate_sublist_replicate (n := 1) _).2 (List.nodup_replicate.1 hnd')

theorem srcOrder_sublist_of_ahead (tt ss idle : Nat) (hts : tt ≠ ss) : ∀ (d : List Nat), d.Nodup → idle ∉ d →
    Ahead d ss tt → (srcOrder tt ss idle d).Sublist [Src.ss, Src.tt] := by
  intro d
  induction d with
  | nil => intro _ _ _; exact List.nil_sublist _
  | cons a d ih =>
    intro hnd hi hord
    rw [List.nodup_cons] at hnd
    have hi' : idle ∉ d := fun h => hi (List.mem_cons_of_mem _ h)
    rw [srcOrder, List.filterMap_cons]
    cases hx : srcOf tt ss idle a with
    | none => exact ih hnd.2 hi' (hord.tail hnd.1)
    | some x =>
      cases x with
      | idle =>
        have ha : a = idle := srcOf_eq_some hx
        exact absurd (ha ▸ List.mem_cons_self ..) hi
      | ss =>
        have ha : a = ss := srcOf_eq_some hx
        subst ha
        exact List.Sublist.cons_cons _ (srcOrder_sublist_tt tt hnd.2 hnd.1 hi')
      | tt =>
        -- `tt` first: no `ss` may follow
        have ha : a = tt := srcOf_eq_some hx
        have hord' : Ahead (tt :: d) ss tt := ha ▸ hord
        have e : List.filterMap (srcOf tt ss idle) d = [] :=
          srcOrder_eq_nil (ha ▸ hnd.1) (hord'.not_mem hts) hi'
        rw [e]
        exact List.Sublist.cons _ (List.Sublist.refl _)

end Ovni.Props.C20
