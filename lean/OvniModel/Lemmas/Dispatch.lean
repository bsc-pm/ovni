import OvniModel.Emu.Dispatch
import OvniModel.Lemmas.ListLemmas

/-! C18: a dispatcher accepts exactly its wildcard categories and its finite key list (`accepts_iff`).
    `finiteKeys` is `candidates` filtered by `accepts`, so the one thing to show is that an accepted code
    outside the wildcard categories is among the candidates. -/
namespace Ovni.Emu.Dispatch

theorem mem_wild_iff (d : Disp) (c : Nat) :
    c ∈ d.wild ↔ d.cats.lookup c = some Rule.any := by
  unfold Disp.wild
  rw [List.mem_filter]
  constructor
  · intro h; simpa using h.2
  · intro h
    refine ⟨?_, by simp [h]⟩
    exact List.mem_map.mpr ⟨(c, Rule.any), lookup_mem c _ _ h, rfl⟩

theorem mem_finiteKeys (d : Disp) (keys : List (Nat × Nat)) (k : Nat × Nat) :
    k ∈ d.finiteKeys keys ↔
      k ∈ d.candidates keys ∧ d.accepts keys k.1 k.2 = true ∧ d.cats.lookup k.1 ≠ some Rule.any := by
  simp [Disp.finiteKeys, List.mem_filter]

theorem accepted_candidate (d : Disp) (keys : List (Nat × Nat)) (c v : Nat) (h : d.accepts keys c v = true)
    (hw : d.cats.lookup c ≠ some Rule.any) : (c, v) ∈ d.candidates keys := by
  unfold Disp.accepts at h
  unfold Disp.candidates
  cases hl : d.cats.lookup c with
  | none =>
    rw [hl] at h
    simp only [Bool.and_eq_true, List.contains_eq_mem, decide_eq_true_eq] at h
    exact List.mem_append_right _ h.2
  | some r =>
    rw [hl] at h
    cases r with
    | any => exact absurd hl hw
    | vals vs =>
      simp only [List.contains_eq_mem, decide_eq_true_eq] at h
      exact List.mem_append_left _ (List.mem_flatMap.mpr
        ⟨(c, Rule.vals vs), lookup_mem c _ _ hl, List.mem_map.mpr ⟨v, h, rfl⟩⟩)
    | tab =>
      simp only [List.contains_eq_mem, decide_eq_true_eq] at h
      exact List.mem_append_right _ h

theorem accepts_iff (d : Disp) (keys : List (Nat × Nat)) (c v : Nat) :
    d.accepts keys c v = true ↔ c ∈ d.wild ∨ (c, v) ∈ d.finiteKeys keys := by
  rw [mem_wild_iff, mem_finiteKeys]
  constructor
  · intro h
    by_cases hw : d.cats.lookup c = some Rule.any
    · exact Or.inl hw
    · exact Or.inr ⟨accepted_candidate d keys c v h hw, h, hw⟩
  · rintro (h | h)
    · unfold Disp.accepts
      rw [h]
    · exact h.2.1

end Ovni.Emu.Dispatch
