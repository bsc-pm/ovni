import OvniModel.Lemmas.EmitLines
import OvniModel.Lemmas.CoreBayView

/-
  C06 (emit side): the registrations `model_pvt_connect_thread` /
  `model_pvt_connect_cpu` perform on the bay of `Shape.connect`, and
  `Bay.viewRecs` of those registrations = `viewRecords` of View.lean whenever
  the registered channels show `thView` / `cpuView`; at the end the connect-time step
  (`init_rows_ok`).
-/
namespace Ovni.Emu
open Ovni.Generated

/-- `connect_thread_prv` for thread `g`: per model, per channel `i`, register the
    track output with row `gindex`, type `pvt->type[i]`, flags `pvt->flags[i]`
    in thread.prv. -/
def Shape.thRegs (σ : Shape) (g : Nat) : List PrvReg :=
  σ.specs.zipIdx.flatMap fun mk => (List.range mk.1.nch).map fun i =>
    ({ chan := σ.thOut g mk.2 i, file := 0, row := g + 1, type := mk.1.pvtType.getD i 0,
       flags := mk.1.prvFlags.getD i 0 } : PrvReg)

/-- `connect_cpu_prv` for CPU `c`, in cpu.prv. -/
def Shape.cpuRegs (σ : Shape) (c : Nat) : List PrvReg :=
  σ.specs.zipIdx.flatMap fun mk => (List.range mk.1.nch).map fun i =>
    ({ chan := σ.cpuOut c mk.2 i, file := 1, row := c + 1, type := mk.1.pvtType.getD i 0,
       flags := mk.1.prvFlags.getD i 0 } : PrvReg)

/-- All model-channel registrations, listed in the row order of `records`
    (threads, then CPUs; per row by model and channel).  prv.c keeps them in a
    hash table; the order of the table is irrelevant (every channel has one
    callback, the call order is the dirty-list order). -/
def Shape.regs (σ : Shape) : List PrvReg :=
  (List.range σ.nT).flatMap σ.thRegs ++ (List.range σ.nC).flatMap σ.cpuRegs

def SpecFlagsOk (specs : List ModelSpec) : Prop :=
  ∀ m ∈ specs, ∀ i, i < m.nch → DupOk (m.prvFlags.getD i 0) ∧ NoZero (m.prvFlags.getD i 0)

/-- the registrations of one row; `Shape.thRegs` and `Shape.cpuRegs` are this by unfolding -/
def rowRegs (specs : List ModelSpec) (out : Nat → Nat → Nat) (file row : Nat) : List PrvReg :=
  specs.zipIdx.flatMap fun mk => (List.range mk.1.nch).map fun i =>
    ({ chan := out mk.2 i, file := file, row := row, type := mk.1.pvtType.getD i 0,
       flags := mk.1.prvFlags.getD i 0 } : PrvReg)

theorem mem_rowRegs {specs : List ModelSpec} (out : Nat → Nat → Nat) (file row : Nat) {r : PrvReg}
    (h : r ∈ rowRegs specs out file row) : ∃ m ∈ specs, ∃ i, i < m.nch ∧ r.flags = m.prvFlags.getD i 0 := by
  obtain ⟨⟨m, k⟩, hmk, h⟩ := List.mem_flatMap.mp h
  obtain ⟨i, hi, rfl⟩ := List.mem_map.mp h
  exact ⟨m, List.mem_of_getElem? (List.mem_zipIdx_iff_getElem?.mp hmk), i, List.mem_range.mp hi, rfl⟩

theorem Shape.regs_spec {σ : Shape} {r : PrvReg} (hr : r ∈ σ.regs) :
    ∃ m ∈ σ.specs, ∃ i, i < m.nch ∧ r.flags = m.prvFlags.getD i 0 := by
  rcases List.mem_append.mp hr with h1 | h1
  · obtain ⟨g, _, hg⟩ := List.mem_flatMap.mp h1
    exact mem_rowRegs (σ.thOut g) 0 (g + 1) hg
  · obtain ⟨c, _, hc⟩ := List.mem_flatMap.mp h1
    exact mem_rowRegs (σ.cpuOut c) 1 (c + 1) hc

theorem Shape.regs_flags {σ : Shape} (h : SpecFlagsOk σ.specs) : ∀ r ∈ σ.regs, DupOk r.flags ∧ NoZero r.flags := by
  intro r hr
  obtain ⟨m, hm, i, hi, hf⟩ := σ.regs_spec hr
  exact hf ▸ h m hm i hi

/-- What a CPU row shows: `cpuView`, except that a CPU whose `th_running` has
    never been written (`fresh`) shows nothing yet on a channel with a mux
    default — `mux_set_default` only takes effect at the first `cb_select`. -/
def cpuViewC (fresh : Bool) (e : Emu) (c : Cpu) (m : ModelSpec) (i : Nat) : Value :=
  if fresh = true ∧ m.cpuDflt i ≠ .null then .null else cpuView e c m i

theorem cpuViewC_false (e : Emu) (c : Cpu) (m : ModelSpec) (i : Nat) : cpuViewC false e c m i = cpuView e c m i := by
  simp [cpuViewC]

def cpuViewListC (specs : List ModelSpec) (fo fn : Bool) (old new : Emu) (cold c : Cpu) :
    List (Except Err (List PrvRec)) :=
  specs.flatMap fun m => (List.range m.nch).map fun i =>
    emitView 1 (c.gindex + 1) (m.pvtType.getD i 0) (m.prvFlags.getD i 0)
      (cpuViewC fo old cold m i) (cpuViewC fn new c m i)

/-- `viewRecords` with the CPU rows taken from `cpuViewC` (`fo` / `fn`: which
    CPUs are fresh before / after the event). -/
def viewRecordsC (old new : Emu) (fo fn : Nat → Bool) : Except Err (List PrvRec) :=
  collect (new.threads.flatMap (fun t => thViewList new.specs (old.threads.getD t.gindex t) t) ++
           new.cpus.flatMap (fun c => cpuViewListC new.specs (fo c.gindex) (fn c.gindex) old new
             (old.cpus.getD c.gindex c) c))

theorem regRow_eq {specs : List ModelSpec} {b bF : Bay} (file row : Nat) (out : Nat → Nat → Nat)
    (vo vn : ModelSpec → Nat → Value)
    (h : ∀ k ms i, specs[k]? = some ms → i < ms.nch →
      (b.chan (out k i)).cur = vo ms i ∧ (bF.chan (out k i)).cur = vn ms i) :
    (rowRegs specs out file row).map
      (fun r => emitView r.file r.row r.type r.flags (b.chan r.chan).cur (bF.chan r.chan).cur) =
    specs.flatMap fun m => (List.range m.nch).map fun i =>
      emitView file row (m.pvtType.getD i 0) (m.prvFlags.getD i 0) (vo m i) (vn m i) := by
  unfold rowRegs
  rw [List.map_flatMap]
  apply zipIdx_flatMap_congr
  intro k ms hk
  rw [List.map_map]
  apply List.map_congr_left
  intro i hi
  obtain ⟨h1, h2⟩ := h k ms i hk (List.mem_range.mp hi)
  simp only [Function.comp, Nat.zero_add]
  rw [h1, h2]

/-- What the registered channels of `b` show for the state `e` while the CPUs in
    `fresh` have not had their `th_running` written (`dflt`: such a CPU runs no
    thread, so `cpuView` shows the mux default). -/
structure Rows (σ : Shape) (e : Emu) (b : Bay) (fresh : Nat → Bool) : Prop where
  th : ∀ (g k i : Nat) (t : Thread) (ms : ModelSpec), e.threads[g]? = some t → σ.specs[k]? = some ms →
    i < ms.nch → (b.chan (σ.thOut g k i)).cur = thView t ms i
  cpu : ∀ (c k i : Nat) (x : Cpu) (ms : ModelSpec), e.cpus[c]? = some x → σ.specs[k]? = some ms →
    i < ms.nch → (b.chan (σ.cpuOut c k i)).cur = cpuViewC (fresh c) e x ms i
  dflt : ∀ (c k i : Nat) (x : Cpu) (ms : ModelSpec), e.cpus[c]? = some x → σ.specs[k]? = some ms →
    i < ms.nch → fresh c = true → ms.cpuDflt i ≠ .null → cpuView e x ms i = ms.cpuDflt i

/-- Pure list bookkeeping: `Shape.regs` lists the rows in the order of `records`. -/
theorem viewRecs_eq_viewRecordsC {e e' : Emu} {b bF : Bay} {fo fn : Nat → Bool} (hs' : Shaped e')
    (hshape : e'.shape = e.shape) (rO : Rows e.shape e b fo) (rN : Rows e.shape e' bF fn) :
    b.viewRecs e.shape.regs bF = viewRecordsC e e' fo fn := by
  have hspecs : e'.specs = e.specs := congrArg Shape.specs hshape
  unfold Bay.viewRecs viewRecordsC Shape.regs
  congr 1
  rw [List.map_append, List.map_flatMap, List.map_flatMap]
  congr 1
  · refine flatMap_rows (xs := e.threads) (xs' := e'.threads) (·.gindex) (congrArg Shape.nT hshape) hs'.thIdx
      (fun told t => thViewList e'.specs told t) fun g t t' ht ht' => ?_
    unfold thViewList
    rw [hs'.thIdx g t' ht', hspecs]
    exact regRow_eq 0 (g + 1) (e.shape.thOut g) (thView t) (thView t') fun k ms i hk hi =>
      ⟨rO.th g k i t ms ht hk hi, rN.th g k i t' ms ht' hk hi⟩
  · refine flatMap_rows (xs := e.cpus) (xs' := e'.cpus) (·.gindex) (congrArg Shape.nC hshape) hs'.cpuIdx
      (fun cold c => cpuViewListC e'.specs (fo c.gindex) (fn c.gindex) e e' cold c) fun c x x' hx hx' => ?_
    unfold cpuViewListC
    rw [hs'.cpuIdx c x' hx', hspecs]
    exact regRow_eq 1 (c + 1) (e.shape.cpuOut c) (cpuViewC (fo c) e x) (cpuViewC (fn c) e' x') fun k ms i hk hi =>
      ⟨rO.cpu c k i x ms hx hk hi, rN.cpu c k i x' ms hx' hk hi⟩

theorem emitView_isOk_iff (file row type flags : Nat) (vo vn : Value) :
    (∃ m, emitView file row type flags vo vn = .ok m) ↔ (vo = vn ∨ ∃ x, prvValue flags vn = .ok x) := by
  rw [emitView_eq, Cell.emit_ok_iff, Decidable.or_iff_not_imp_left]
  simp only [bne_iff_ne, ne_eq]

theorem viewRecordsC_of_settled {e e' : Emu} {fo fn : Nat → Bool}
    (ho : ∀ c ∈ e'.cpus, fo c.gindex = false) (hn : ∀ c ∈ e'.cpus, fn c.gindex = false) :
    viewRecordsC e e' fo fn = viewRecords e e' := by
  unfold viewRecordsC viewRecords
  congr 2
  apply flatMap_congr_mem
  intro c hc
  unfold cpuViewListC cpuViewList
  rw [ho c hc, hn c hc]
  simp only [cpuViewC_false]

theorem viewRecordsC_false (old new : Emu) :
    viewRecordsC old new (fun _ => false) (fun _ => false) = viewRecords old new :=
  viewRecordsC_of_settled (fun _ _ => rfl) (fun _ _ => rfl)

/-- The view attempts of a list of rows, threads or CPUs, all succeed iff every cell stays as it
    was or holds a value `emit` accepts. -/
theorem viewRows_ok_iff {α} {rows : List α} {specs : List ModelSpec} {file : Nat} {row : α → Nat}
    {VO VN : α → ModelSpec → Nat → Value} :
    (∀ x ∈ rows.flatMap (fun a => specs.flatMap fun m => (List.range m.nch).map fun i =>
      emitView file (row a) (m.pvtType.getD i 0) (m.prvFlags.getD i 0) (VO a m i) (VN a m i)),
      ∃ r, x = .ok r) ↔
    ∀ a ∈ rows, ∀ m ∈ specs, ∀ i, i < m.nch →
      (VO a m i = VN a m i ∨ ∃ x, prvValue (m.prvFlags.getD i 0) (VN a m i) = .ok x) := by
  constructor
  · intro h a ha m hm i hi
    exact (emitView_isOk_iff ..).mp (h _ (List.mem_flatMap.mpr ⟨a, ha,
      List.mem_flatMap.mpr ⟨m, hm, List.mem_map.mpr ⟨i, List.mem_range.mpr hi, rfl⟩⟩⟩))
  · intro h x hx
    obtain ⟨a, ha, hx⟩ := List.mem_flatMap.mp hx
    obtain ⟨m, hm, hx⟩ := List.mem_flatMap.mp hx
    obtain ⟨i, hi, rfl⟩ := List.mem_map.mp hx
    exact (emitView_isOk_iff ..).mpr (h a ha m hm i (List.mem_range.mp hi))

theorem viewRecordsC_ok_iff {e e' : Emu} {fo fn : Nat → Bool} :
    (∃ v, viewRecordsC e e' fo fn = .ok v) ↔
    (∀ t ∈ e'.threads, ∀ m ∈ e'.specs, ∀ i, i < m.nch →
      (thView (e.threads.getD t.gindex t) m i = thView t m i ∨
        ∃ x, prvValue (m.prvFlags.getD i 0) (thView t m i) = .ok x)) ∧
    ∀ c ∈ e'.cpus, ∀ m ∈ e'.specs, ∀ i, i < m.nch →
      (cpuViewC (fo c.gindex) e (e.cpus.getD c.gindex c) m i = cpuViewC (fn c.gindex) e' c m i ∨
        ∃ x, prvValue (m.prvFlags.getD i 0) (cpuViewC (fn c.gindex) e' c m i) = .ok x) := by
  constructor
  · rintro ⟨v, h⟩
    have hall := (collect_ok_iff.mp h).1
    exact ⟨viewRows_ok_iff.mp fun x hx => hall x (List.mem_append_left _ hx),
      viewRows_ok_iff.mp fun x hx => hall x (List.mem_append_right _ hx)⟩
  · rintro ⟨hT, hC⟩
    exact ⟨_, collect_ok_iff.mpr ⟨fun x hx => (List.mem_append.mp hx).elim (viewRows_ok_iff.mpr hT x)
      (viewRows_ok_iff.mpr hC x), rfl⟩⟩

def CpuDfltOk (specs : List ModelSpec) : Prop :=
  ∀ m ∈ specs, ∀ i, i < m.nch → ∃ x, prvValue (m.prvFlags.getD i 0) (m.cpuDflt i) = .ok x

theorem Rows.dflt_old {e e' : Emu} {b : Bay} {fo : Nat → Bool} (rO : Rows e.shape e b fo) (hs' : Shaped e')
    (hshape : e'.shape = e.shape) {c : Cpu} (hc : c ∈ e'.cpus) (hf : fo c.gindex = true) {ms : ModelSpec}
    (hms : ms ∈ e.specs) {i : Nat} (hil : i < ms.nch) (hdn : ms.cpuDflt i ≠ .null) :
    cpuView e (e.cpus.getD c.gindex c) ms i = ms.cpuDflt i := by
  obtain ⟨k, hk⟩ := List.mem_iff_getElem?.mp hms
  have hlen : e'.cpus.length = e.cpus.length := congrArg Shape.nC hshape
  have hlt : c.gindex < e.cpus.length := hlen ▸ (List.getElem?_eq_some_iff.mp (hs'.cpu_at hc)).1
  exact rO.dflt _ k i _ ms (by simp [List.getD_eq_getElem?_getD, List.getElem?_eq_getElem hlt]) hk hil hf hdn

/-- One cell of a CPU row, `cpuViewC` (`if p then null else A`, `if q then null else B`) against
    `cpuView` (`A` before, `B` after): whether the cell stays or `emit` accepts its value (`ok`).
    `p`, `q`: the CPU is fresh and the channel has a default `dv`, which `cpuView` then shows.
    Instantiated with `ok v` = "`prvValue` accepts `v`": the first half in `viewRecordsC_ok`, the second
    in `viewRecords_ok_of_C`. -/
theorem freshCell {ok : Value → Prop} (h0 : ok .null) {A B dv : Value} {p q : Prop} [Decidable p] [Decidable q]
    (hA : p → A = dv) :
    (ok dv → A = B ∨ ok B →
      (if p then .null else A) = (if q then .null else B) ∨ ok (if q then .null else B)) ∧
    ((q → p ∧ B = dv) →
      (if p then .null else A) = (if q then .null else B) ∨ ok (if q then .null else B) → A = B ∨ ok B) := by
  by_cases hq : q
  · -- still fresh: null on one side, the default twice on the other
    simp only [if_pos hq]
    exact ⟨fun _ _ => .inr h0, fun hB _ => .inl ((hA (hB hq).1).trans (hB hq).2.symm)⟩
  · by_cases hp : p
    · -- fresh before, selected now: null → `B` on one side, the default → `B` on the other
      simp only [if_pos hp, if_neg hq]
      exact ⟨fun hd h => .inr (h.elim (fun h => h ▸ hA hp ▸ hd) id),
        fun _ h => .inr (h.elim (fun h => h ▸ h0) id)⟩
    · simp only [if_neg hp, if_neg hq]
      exact ⟨fun _ h => h, fun _ h => h⟩

theorem viewRecordsC_ok {e e' : Emu} {b : Bay} {fo fn : Nat → Bool} (hs' : Shaped e') (hshape : e'.shape = e.shape)
    (rO : Rows e.shape e b fo) (hd : CpuDfltOk e.specs) {v : List PrvRec} (h : viewRecords e e' = .ok v) :
    ∃ vr, viewRecordsC e e' fo fn = .ok vr := by
  have hspecs : e'.specs = e.specs := congrArg Shape.specs hshape
  obtain ⟨hT, hC⟩ := viewRecordsC_ok_iff.mp ⟨v, (viewRecordsC_false e e').trans h⟩
  refine viewRecordsC_ok_iff.mpr ⟨hT, fun c hc ms hms i hil => ?_⟩
  have hC := hC c hc ms hms i hil
  simp only [cpuViewC_false] at hC
  exact (freshCell (ok := fun v => ∃ x, prvValue (ms.prvFlags.getD i 0) v = .ok x) ⟨0, rfl⟩
    fun hp => rO.dflt_old hs' hshape hc hp.1 (hspecs ▸ hms) hil hp.2).1 (hd ms (hspecs ▸ hms) i hil) hC

/-- The converse of `viewRecordsC_ok`.  `hmono`: a CPU still fresh after the event was fresh before,
    and shows its default in `cpuView` both times. -/
theorem viewRecords_ok_of_C {e e' : Emu} {b bF : Bay} {fo fn : Nat → Bool} (hs' : Shaped e')
    (hshape : e'.shape = e.shape) (hmono : ∀ c, fn c = true → fo c = true)
    (rO : Rows e.shape e b fo) (rN : Rows e.shape e' bF fn)
    {vr : List PrvRec} (h : viewRecordsC e e' fo fn = .ok vr) : ∃ v, viewRecords e e' = .ok v := by
  have hspecs : e'.specs = e.specs := congrArg Shape.specs hshape
  obtain ⟨hT, hC⟩ := viewRecordsC_ok_iff.mp ⟨vr, h⟩
  rw [← viewRecordsC_false]
  refine viewRecordsC_ok_iff.mpr ⟨hT, fun c hc ms hms i hil => ?_⟩
  obtain ⟨k, hk⟩ := List.mem_iff_getElem?.mp (hspecs ▸ hms)
  simp only [cpuViewC_false]
  exact (freshCell (ok := fun v => ∃ x, prvValue (ms.prvFlags.getD i 0) v = .ok x) ⟨0, rfl⟩
    fun hp => rO.dflt_old hs' hshape hc hp.1 (hspecs ▸ hms) hil hp.2).2
    (fun hq => ⟨⟨hmono _ hq.1, hq.2⟩,
      rN.dflt _ k i c ms (hs'.cpu_at hc) hk hil hq.1 hq.2⟩)
    (hC c hc ms hms i hil)

theorem EmitInv.ofNull (regs : List PrvReg) {b : Bay} (hnull : b.AllNull) :
    EmitInv regs (List.replicate regs.length none) (List.replicate regs.length 0) b := by
  refine ⟨by simp, by simp, ?_, ?_⟩
  · intro j r _
    have : (List.replicate regs.length (none : Option Value)).getD j none = none := by
      simp only [List.getD_eq_getElem?_getD, List.getElem?_replicate]
      split <;> rfl
    rw [this]; exact ⟨fun _ => rfl, Or.inl rfl⟩
  · intro j r hr
    have hj : j < regs.length := (List.getElem?_eq_some_iff.mp hr).1
    have : (List.replicate regs.length (0 : Int)).getD j 0 = 0 := by
      simp only [List.getD_eq_getElem?_getD, List.getElem?_replicate]
      split <;> rfl
    rw [this, hnull]; rfl

/-! The connect-time step: what the rows of `mkEmuWith …` show, so that the first `bay_propagate` (time 0)
    cannot hit "forbidden value 0" when the connect-time values are legal Paraver values. -/

/-- the values the raw channels hold after `emu_connect` are legal Paraver values -/
def InitPrvOk (specs : List ModelSpec) : Prop :=
  ∀ m ∈ specs, ∀ i, i < m.nch → ∃ x, prvValue (m.prvFlags.getD i 0) ((m.freshChans.getD i {}).cur) = .ok x

theorem mkEmuWith_thread {fc : ModelSpec → List Chan} {threads : List (Int × Int × Nat)}
    {cpus : List (Nat × Int × Bool)} {enabled : List Nat} {lint : Bool} {extra : List ModelSpec} {g : Nat} {t : Thread}
    (h : (mkEmuWith fc threads cpus enabled lint extra).threads[g]? = some t) :
    t.state = .unknown ∧
    t.mch = (allSpecs.filter (fun s => enabled.contains s.char) ++ extra).map fun s => (s.char, fc s) := by
  obtain ⟨_, _, _, rfl⟩ := mkEmuWith_threads_get _ _ _ _ _ _ h
  exact ⟨rfl, rfl⟩

theorem mkEmuWith_cpu {fc : ModelSpec → List Chan} {threads : List (Int × Int × Nat)}
    {cpus : List (Nat × Int × Bool)} {enabled : List Nat} {lint : Bool} {extra : List ModelSpec} {c : Nat} {x : Cpu}
    (h : (mkEmuWith fc threads cpus enabled lint extra).cpus[c]? = some x) :
    x.chThrun = { ignoreDup := true } := by
  obtain ⟨_, _, _, rfl⟩ := mkEmuWith_cpus_get _ _ _ _ _ _ h
  rfl

/-- The rows of the state after the connect-time writes: a thread row shows
    null or the connect-time value of its raw channel; a CPU row (all CPUs
    fresh, no running thread) shows null. -/
theorem init_rows_ok (threads : List (Int × Int × Nat)) (cpus : List (Nat × Int × Bool)) (enabled : List Nat)
    (lint : Bool) (extra : List ModelSpec) (e : Emu) (fo : Nat → Bool)
    (hiv : InitPrvOk (allSpecs.filter (fun s => enabled.contains s.char) ++ extra))
    (hchars : ((allSpecs.filter (fun s => enabled.contains s.char) ++ extra).map (·.char)).Nodup) :
    ∃ vr, viewRecordsC e (mkEmuWith ModelSpec.dirtyChans threads cpus enabled lint extra) fo
      (fun _ => true) = .ok vr := by
  have hsd : Shaped (mkEmuWith ModelSpec.dirtyChans threads cpus enabled lint extra) :=
    mkEmuWith_shaped _ _ _ _ _ _ ModelSpec.dirtyChans_length hchars
  refine viewRecordsC_ok_iff.mpr ⟨fun t ht m hm i hil => .inr ?_, fun c hc m hm i hil => .inr ?_⟩
  · obtain ⟨g, hg⟩ := List.mem_iff_getElem?.mp ht
    obtain ⟨k, hk⟩ := List.mem_iff_getElem?.mp hm
    obtain ⟨hst, hmch⟩ := mkEmuWith_thread hg
    obtain ⟨cs, hcs, hmk, _⟩ := hsd.getChans hg hk
    have hcsd : cs = m.dirtyChans := by
      rw [hmch, List.getElem?_map] at hmk
      have hk' : (allSpecs.filter (fun s => enabled.contains s.char) ++ extra)[k]? = some m := hk
      rw [hk'] at hmk
      simp only [Option.map_some, Option.some.injEq, Prod.mk.injEq] at hmk
      exact hmk.2.symm
    have hcur : (cs.getD i {}).cur = (m.freshChans.getD i {}).cur := by
      rw [hcsd, ModelSpec.freshChans_eq, getD_map_flush_cur]
    unfold thView
    simp only [hcs, hst]
    by_cases hh : trackHolds (m.thTrack.getD i 0) ThState.unknown = true
    · rw [if_pos hh, hcur]; exact hiv m hm i hil
    · rw [if_neg hh]; exact ⟨0, rfl⟩
  · obtain ⟨cg, hcg⟩ := List.mem_iff_getElem?.mp hc
    have hthr := mkEmuWith_cpu hcg
    unfold cpuViewC
    split
    · exact ⟨0, rfl⟩
    · rename_i hn
      have hd : m.cpuDflt i = .null := by
        apply Classical.byContradiction
        intro hd; exact hn ⟨rfl, hd⟩
      have : cpuView (mkEmuWith ModelSpec.dirtyChans threads cpus enabled lint extra) c m i = m.cpuDflt i := by
        unfold cpuView cpuSelected
        rw [hthr]; rfl
      rw [this, hd]; exact ⟨0, rfl⟩

end Ovni.Emu
