import OvniModel.Lemmas.EmitWalk
import OvniModel.Lemmas.EmitReg
import OvniModel.Lemmas.BayPropagate

/-
  C06 (emit side): `bay_propagate` with the PRV callbacks taken row by row, with the
  dirty list and its order hidden (`Bay.propagateP_rows`), and what it is compared
  with: the rows after a list of lines (`tvStep`), the invariant between the PRV
  writer and a clean bay (`EmitInv`), and the records View.lean's `emitView` gives
  for the registered channels' values before and after an event (`Bay.viewRecs`).
-/
namespace Ovni.Emu
open Ovni.Generated

theorem tvStep_length : ∀ (L : List (Nat × PrvRec)) (tvs : List Int), (tvStep tvs L).length = tvs.length
  | [], _ => rfl
  | x :: xs, tvs => by rw [tvStep, tvStep_length xs, List.length_set]

theorem tvStep_getD {j : Nat} : ∀ (L : List (Nat × PrvRec)) (tvs : List Int), j < tvs.length →
    (tvStep tvs L).getD j 0 = tvNew (tvs.getD j 0) ((L.filter (·.1 = j)).map (·.2))
  | [], _, _ => rfl
  | x :: xs, tvs, hj => by
    rw [tvStep, tvStep_getD xs _ (by rw [List.length_set]; exact hj), List.filter_cons]
    by_cases hx : x.1 = j
    · rw [if_pos (decide_eq_true hx), ← hx, getD_set_eq _ _ _ _ (hx ▸ hj)]; rfl
    · rw [if_neg (by simpa using hx), getD_set_ne _ _ _ _ _ hx]

/-- `bay_propagate` with the PRV callbacks, given that the one without them succeeds: the same
    dirty phase and flush around the walk over the emit callbacks. -/
theorem Bay.propagateP_of_propagate {b1 bF : Bay} {em : List (Nat × Value)} (wf1 : b1.WF)
    (hp : b1.propagate = .ok (bF, em)) (regs : List PrvReg) (lvs : List (Option Value)) :
    ∃ bP, b1.dirtyPhase b1.chans.length 0 = .ok bP ∧ (∀ c, (bF.chan c).cur = (bP.chan c).cur) ∧
      b1.propagateP regs lvs =
        match emitWalk regs bP (bP.emitSeq regs) lvs with
        | .error e => .error e
        | .ok (lvs', ls) => .ok (bF, lvs', ls) := by
  obtain ⟨bP, h1, rfl, _⟩ := (Bay.propagate_iff wf1).mp hp
  have wfP := (Bay.dirtyPhase_grown wf1 h1).1
  refine ⟨bP, h1, bP.flushed_cur, ?_⟩
  unfold Bay.propagateP
  simp only [h1, Bay.flushList_eq _ _ wfP.dirtyNodup wfP.dirtyIff]
  cases emitWalk regs bP (bP.emitSeq regs) lvs with
  | error e => rfl
  | ok q => rfl

/-- `bay_propagate` with the PRV callbacks, row by row, in terms of the bay before the writes of
    the event and the flushed bay only: the dirty list is hidden.  `d c`: channel `c` was on the
    dirty list when the emit callbacks ran; a channel that was not still holds the value from
    before the event.  Callback `j` is `emitIf` on the `last_value` from before the walk (`emit` when
    the registration's channel is dirty, nothing otherwise) and `cs j` are its lines; the lines
    written are those of the rows in some order, each row's own in the order of `cs j`. -/
theorem Bay.propagateP_rows {ok : Nat → Prop} {b b1 bF : Bay} {em : List (Nat × Value)} {regs : List PrvReg}
    {lvs : List (Option Value)} (wf : b.WF) (hw : Bay.Writes ok b b1) (hp : b1.propagate = .ok (bF, em))
    (hlen : lvs.length = regs.length) :
    ∃ d : Nat → Bool, (∀ c, d c = false → (bF.chan c).cur = (b.chan c).cur) ∧
      match b1.propagateP regs lvs with
      | .error x => ∃ j r, regs[j]? = some r ∧
          emitIf r (d r.chan) (lvs.getD j none) (bF.chan r.chan).cur = .error x
      | .ok (b', lvs', L) => b' = bF ∧ lvs'.length = regs.length ∧ ∃ cs : Nat → List PrvRec,
          (∀ j r, regs[j]? = some r →
            emitIf r (d r.chan) (lvs.getD j none) (bF.chan r.chan).cur = .ok (lvs'.getD j none, cs j)) ∧
          L.Perm ((List.range regs.length).flatMap fun j => (cs j).map fun l => (j, l)) ∧
          ∀ j, (L.filter (·.1 = j)).map (·.2) = cs j := by
  have wf1 : b1.WF := (hw.kept wf).wf
  obtain ⟨bP, h1, hcurF, hPP⟩ := Bay.propagateP_of_propagate wf1 hp regs lvs
  refine ⟨fun c => decide (c ∈ bP.dirty),
    fun c hd => (hcurF c).trans (hw.cur_of_not_dirty wf h1 (of_decide_eq_false hd)), ?_⟩
  have hnd := (Bay.dirtyPhase_grown wf1 h1).1.dirtyNodup
  have hnd' := Bay.emitSeq_nodup hnd regs
  have hlt : ∀ j ∈ bP.emitSeq regs, j < regs.length := fun j hj =>
    (Bay.mem_emitSeq.mp hj).elim fun r hr => (List.getElem?_eq_some_iff.mp hr.1).1
  have hmem : ∀ {j r}, regs[j]? = some r → (j ∈ bP.emitSeq regs ↔ r.chan ∈ bP.dirty) := fun {j r} hr =>
    Bay.mem_emitSeq.trans ⟨fun ⟨r', hr', hd⟩ => by rw [hr] at hr'; cases hr'; exact hd, fun hd => ⟨r, hr, hd⟩⟩
  have hsp := emitWalk_spec regs bP _ lvs hnd' hlt hlen
  rw [hPP]
  simp only [hcurF]
  cases hwk : emitWalk regs bP (bP.emitSeq regs) lvs with
  | error x =>
    rw [hwk] at hsp
    obtain ⟨j, hj, r, hr, hje⟩ := hsp
    exact ⟨j, r, hr, by rw [decide_eq_true ((hmem hr).mp hj)]; exact hje⟩
  | ok q =>
    rw [hwk] at hsp
    obtain ⟨g3, cs, g1, g2, g4⟩ := hsp
    refine ⟨rfl, g3, cs, fun j r hr => ?_, ?_, fun j => ?_⟩
    · by_cases hj : j ∈ bP.emitSeq regs
      · rw [decide_eq_true ((hmem hr).mp hj)]; exact g1 j hj r hr
      · rw [decide_eq_false (mt (hmem hr).mpr hj), (g2 j hj).1, (g2 j hj).2]; rfl
    · rw [g4]
      exact flatMap_perm_range hnd' hlt fun j hj => by rw [(g2 j hj).2]; rfl
    · rw [g4, filter_tag_flatMap cs j _ hnd']
      split
      · rfl
      · rename_i hj; rw [(g2 j hj).2]

/-- `lvs[j]` is consistent with the value of the `j`-th registered channel,
    and `tvs[j]`, what row `j` shows, is that value converted. -/
structure EmitInv (regs : List PrvReg) (lvs : List (Option Value)) (tvs : List Int) (b : Bay) : Prop where
  lenL : lvs.length = regs.length
  lenT : tvs.length = regs.length
  lv : ∀ (j : Nat) (r : PrvReg), regs[j]? = some r → LvOk r.flags (lvs.getD j none) (b.chan r.chan).cur
  tv : ∀ (j : Nat) (r : PrvReg), regs[j]? = some r → prvValue r.flags (b.chan r.chan).cur = .ok (tvs.getD j 0)

def Bay.viewRecs (b : Bay) (regs : List PrvReg) (bF : Bay) : Except Err (List PrvRec) :=
  collect (regs.map fun r => emitView r.file r.row r.type r.flags (b.chan r.chan).cur (bF.chan r.chan).cur)

theorem Bay.viewRecs_error {b bF : Bay} {regs : List PrvReg} {x : Err} (h : b.viewRecs regs bF = .error x) :
    x = .prvZero := by
  obtain ⟨y, hy, hye⟩ := collect_error h
  obtain ⟨r, _, rfl⟩ := List.mem_map.mp hy
  exact emitView_error_prvZero hye

theorem filter_effective_tag (tvs : List Int) (j : Nat) (m : List PrvRec) :
    (m.map fun l => (j, l)).filter (effective tvs) =
      (m.filter (fun l => l.value != tvs.getD j 0)).map fun l => (j, l) := by
  rw [List.filter_map]; rfl

theorem Bay.viewRecs_eq_viewLinesT {b bF : Bay} {regs : List PrvReg} {vr : List PrvRec}
    (h : b.viewRecs regs bF = .ok vr) : vr = (b.viewLinesT regs bF).map (·.2) := by
  obtain ⟨_, rfl⟩ := collect_ok_iff.mp h
  rw [List.flatMap_map, flatMap_eq_range]
  unfold Bay.viewLinesT
  rw [List.map_flatMap]
  apply flatMap_congr_mem
  intro j hj
  have hjl : j < regs.length := List.mem_range.mp hj
  simp only [List.getElem?_eq_getElem hjl]
  cases emitView regs[j].file regs[j].row regs[j].type regs[j].flags (b.chan regs[j].chan).cur
      (bF.chan regs[j].chan).cur with
  | error e => rfl
  | ok m => exact (map_snd_tag j m).symm

end Ovni.Emu
