import OvniModel.Lemmas.EmuCoreRec

/-
  C06 (emit side): ONE registered channel, one event.  `emit` of prv.c on
  a channel that went from `vo` to `vn` (dirty or not) against `emitView vo vn`
  of View.lean: same failure, and the same lines among those that change what
  the row shows.
-/
namespace Ovni.Emu
open Ovni.Generated

/-- the channel has one of the three duplicate policies (all generated specs do) -/
def DupOk (flags : Nat) : Prop :=
  hasFlag flags prvEmitDup = true ∨ hasFlag flags prvSkipDup = true ∨ hasFlag flags prvSkipDupNull = true

/-- no `PRV_ZERO`: then distinct channel values give distinct Paraver values -/
def NoZero (flags : Nat) : Prop := hasFlag flags prvZero = false

instance (f : Nat) : Decidable (DupOk f) := by unfold DupOk; infer_instance
instance (f : Nat) : Decidable (NoZero f) := by unfold NoZero; infer_instance

theorem prvValue_int_noZero {f : Nat} (hz : NoZero f) (i : Int) :
    prvValue f (.int i) =
      if i + (if f / prvNext % 2 = 1 then 1 else 0) = 0 then .error .prvZero
      else .ok (i + (if f / prvNext % 2 = 1 then 1 else 0)) := by
  have hz' : (f / prvZero) % 2 = 0 := by
    unfold NoZero hasFlag at hz
    have := of_decide_eq_false hz
    omega
  unfold prvValue
  simp only [hz', decide_true, Bool.true_and, decide_eq_true_eq]
  by_cases hn : f / prvNext % 2 = 1
  · simp only [hn, if_true]
  · simp only [hn, if_false, Int.add_zero]

theorem prvValue_int_ok {f : Nat} (hz : NoZero f) {i x : Int} (h : prvValue f (.int i) = .ok x) :
    x = i + (if f / prvNext % 2 = 1 then 1 else 0) ∧ x ≠ 0 := by
  rw [prvValue_int_noZero hz] at h
  by_cases hc : i + (if f / prvNext % 2 = 1 then 1 else 0) = 0
  · rw [if_pos hc] at h; cases h
  · rw [if_neg hc] at h; cases h; exact ⟨rfl, hc⟩

theorem prvValue_inj {f : Nat} (hz : NoZero f) {a b : Value} {x : Int} (ha : prvValue f a = .ok x)
    (hb : prvValue f b = .ok x) : a = b := by
  have hnull : prvValue f .null = .ok x → x = 0 := fun h => by unfold prvValue at h; cases h; rfl
  cases a with
  | null =>
    cases b with
    | null => rfl
    | int j => exact absurd (hnull ha) (prvValue_int_ok hz hb).2
  | int i =>
    cases b with
    | null => exact absurd (hnull hb) (prvValue_int_ok hz ha).2
    | int j =>
      have h1 := (prvValue_int_ok hz ha).1
      have h2 := (prvValue_int_ok hz hb).1
      have : i = j := by omega
      rw [this]

/-- `last_value` is consistent with the channel value `v`: never set on a
    `PRV_EMITDUP` registration, else unset or equal to `v`. -/
def LvOk (flags : Nat) (lv : Option Value) (v : Value) : Prop :=
  (hasFlag flags prvEmitDup = true → lv = none) ∧ (lv = none ∨ lv = some v)

/-- what the row shows after the lines `c` of one callback: the value of the last line -/
def tvNew (tv : Int) (c : List PrvRec) : Int := c.foldl (fun _ l => l.value) tv

/-- what the callback of a registration does in an event: nothing when its
    channel is not dirty (`emitSys1 r ch lv` of Emit.lean is `emitIf r ch.dirty lv ch.cur`) -/
def emitIf (r : PrvReg) (d : Bool) (lv : Option Value) (vn : Value) : Except Err (Option Value × List PrvRec) :=
  if d then emitOne r lv vn else .ok (lv, [])

theorem emitWrite_ok {r : PrvReg} {lv : Option Value} {v : Value} {x : Int} (h : prvValue r.flags v = .ok x) :
    emitWrite r lv v = .ok (lv, [r.line x]) := by
  unfold emitWrite; rw [h]

theorem emitWrite_error {r : PrvReg} {lv : Option Value} {v : Value} {x : Err} (h : prvValue r.flags v = .error x) :
    emitWrite r lv v = .error x := by
  unfold emitWrite; rw [h]

theorem emitView_same (file row type flags : Nat) (v : Value) : emitView file row type flags v v = .ok [] := by
  unfold emitView; simp only [if_true]; rfl

theorem emitView_ne_ok {file row type flags : Nat} {vo vn : Value} (hne : vo ≠ vn) {x : Int}
    (h : prvValue flags vn = .ok x) : emitView file row type flags vo vn = .ok [⟨file, row, type, x⟩] := by
  unfold emitView; simp only [hne, if_false, h, bind, Except.bind, pure, Except.pure]

theorem emitView_ne_error {file row type flags : Nat} {vo vn : Value} (hne : vo ≠ vn) {x : Err}
    (h : prvValue flags vn = .error x) : emitView file row type flags vo vn = .error x := by
  unfold emitView; simp only [hne, if_false, h, bind, Except.bind]

theorem emitView_error_prvZero {file row type flags : Nat} {vo vn : Value} {x : Err}
    (h : emitView file row type flags vo vn = .error x) : x = .prvZero :=
  Cell.emit_error (emitView_eq .. ▸ h)

theorem LvOk.write {flags : Nat} {lv : Option Value} {vo : Value} (h : LvOk flags lv vo) (vn : Value) :
    LvOk flags (if hasFlag flags prvEmitDup then lv else some vn) vn := by
  by_cases he : hasFlag flags prvEmitDup = true
  · rw [if_pos he]; exact ⟨fun _ => h.1 he, Or.inl (h.1 he)⟩
  · rw [if_neg he]; exact ⟨fun h' => absurd h' he, Or.inr rfl⟩

theorem emitOne_cases (r : PrvReg) (lv : Option Value) (v : Value) :
    (lv = some v ∧ emitOne r lv v = .ok (lv, [])) ∨
    emitOne r lv v = emitWrite r (if hasFlag r.flags prvEmitDup then lv else some v) v ∨
    (¬ DupOk r.flags ∧ emitOne r lv v = .error .other) := by
  unfold emitOne
  by_cases he : hasFlag r.flags prvEmitDup = true
  · simp only [if_pos he, true_or, or_true]
  · by_cases hl : lv = some v
    · by_cases h1 : hasFlag r.flags prvSkipDup = true
      · exact Or.inl ⟨hl, by simp only [if_neg he, if_pos hl, if_pos h1]⟩
      · by_cases h2 : hasFlag r.flags prvSkipDupNull = true
        · by_cases hn : v = Value.null
          · exact Or.inl ⟨hl, by simp only [if_neg he, if_pos hl, if_neg h1, if_pos h2, if_pos hn]⟩
          · simp only [if_neg he, if_pos hl, if_neg h1, if_pos h2, if_neg hn, true_or, or_true]
        · right; right
          simp only [if_neg he, if_pos hl, if_neg h1, if_neg h2, and_true]
          rintro (h | h | h)
          · exact he h
          · exact h1 h
          · exact h2 h
    · simp only [if_neg he, if_neg hl, true_or, or_true]

theorem emitOne_lines {r : PrvReg} {lv lv' : Option Value} {v : Value} {ls : List PrvRec}
    (h : emitOne r lv v = .ok (lv', ls)) : ls = [] ∨ ∃ x, prvValue r.flags v = .ok x ∧ ls = [r.line x] := by
  rcases emitOne_cases r lv v with ⟨_, hs⟩ | hw | ⟨_, he⟩
  · rw [hs] at h; cases h; exact Or.inl rfl
  · rw [hw] at h
    cases hp : prvValue r.flags v with
    | ok x => rw [emitWrite_ok hp] at h; cases h; exact Or.inr ⟨x, rfl, rfl⟩
    | error e => rw [emitWrite_error hp] at h; cases h
  · rw [he] at h; cases h

theorem emitOne_error {r : PrvReg} {lv : Option Value} {v : Value} {x : Err} (hdup : DupOk r.flags)
    (h : emitOne r lv v = .error x) : x = .prvZero := by
  rcases emitOne_cases r lv v with ⟨_, hs⟩ | hw | ⟨hn, _⟩
  · rw [hs] at h; cases h
  · rw [hw] at h
    cases hp : prvValue r.flags v with
    | ok y => rw [emitWrite_ok hp] at h; cases h
    | error e => rw [emitWrite_error hp] at h; cases h; exact prvValue_error hp
  · exact absurd hdup hn

/-- `vo` / `vn`: value of the channel before the event / after the dirty phase; `d`: the channel
    is on the dirty list; `lv`: `last_value`; `tv`: what the row shows.
    `emit` fails iff `emitView vo vn` does (forbidden value 0); otherwise both write the same
    lines that change the row.  `emit` may write one more line, repeating `tv`: a first emission,
    a `PRV_EMITDUP` or a non-null `PRV_SKIPDUPNULL` duplicate; with `PRV_ZERO` both may write a
    line with value 0 on a row that shows 0, when the channel goes from null to 0 or back. -/
theorem emit_vs_view {r : PrvReg} {d : Bool} {lv : Option Value} {vo vn : Value} {tv : Int}
    (hdup : DupOk r.flags) (hlv : LvOk r.flags lv vo)
    (htv : prvValue r.flags vo = .ok tv) (hd : d = false → vn = vo) :
    match emitIf r d lv vn with
    | .error x => emitView r.file r.row r.type r.flags vo vn = .error x
    | .ok (lv', c) => ∃ m, emitView r.file r.row r.type r.flags vo vn = .ok m ∧ LvOk r.flags lv' vn ∧
        prvValue r.flags vn = .ok (tvNew tv c) ∧
        m.filter (fun l => l.value != tv) = c.filter (fun l => l.value != tv) := by
  cases d with
  | false => rw [hd rfl, emitView_same]; exact ⟨[], rfl, hlv, htv, rfl⟩
  | true =>
    have hE : emitIf r true lv vn = emitOne r lv vn := rfl
    rw [hE]
    rcases emitOne_cases r lv vn with ⟨hl, hs⟩ | hw | ⟨hn, _⟩
    · -- a skipped duplicate: the value did not change
      have hvv : vo = vn := by
        rcases hlv.2 with h | h
        · rw [h] at hl; cases hl
        · rw [h] at hl; exact Option.some.inj hl
      subst hvv
      rw [hs, emitView_same]
      exact ⟨[], rfl, hlv, htv, rfl⟩
    · rw [hw]
      by_cases hvv : vo = vn
      · -- a duplicate written again: a line repeating `tv`
        subst hvv
        rw [emitWrite_ok htv, emitView_same]
        exact ⟨[], rfl, hlv.write _, htv, by simp [PrvReg.line]⟩
      · -- a new value: `emitView` and `emit` write the same line
        cases hp : prvValue r.flags vn with
        | error y => rw [emitWrite_error hp]; exact emitView_ne_error hvv hp
        | ok x => rw [emitWrite_ok hp]; exact ⟨_, emitView_ne_ok hvv hp, hlv.write _, rfl, rfl⟩
    · exact absurd hdup hn

end Ovni.Emu
