import OvniModel.Emu.Emit
import OvniModel.Lemmas.ListLemmas

/-
  C06 (emit side): the walk over the emit callbacks in closed form.
  Every callback only touches its own `last_value`, so on a duplicate-free
  call sequence the result is pointwise: callback `j` sees the `last_value` it
  had before the walk.
-/
namespace Ovni.Emu
open Ovni.Generated

/-- A failing walk fails with the error some callback of the sequence gives on the `last_value`
    it had before the walk; a successful one has run every callback of the sequence on that
    `last_value` (`cs j`: the lines of callback `j`) and touched nothing else. -/
theorem emitWalk_spec (regs : List PrvReg) (b : Bay) : ∀ (js : List Nat) (lvs : List (Option Value)),
    js.Nodup → (∀ j ∈ js, j < regs.length) → lvs.length = regs.length →
    match emitWalk regs b js lvs with
    | .error x => ∃ j ∈ js, ∃ r, regs[j]? = some r ∧
        emitOne r (lvs.getD j none) (b.chan r.chan).cur = .error x
    | .ok (lvs', L) => lvs'.length = regs.length ∧ ∃ cs : Nat → List PrvRec,
        (∀ j ∈ js, ∀ r, regs[j]? = some r →
          emitOne r (lvs.getD j none) (b.chan r.chan).cur = .ok (lvs'.getD j none, cs j)) ∧
        (∀ j, j ∉ js → lvs'.getD j none = lvs.getD j none ∧ cs j = []) ∧
        L = js.flatMap fun j => (cs j).map fun l => (j, l) := by
  intro js
  induction js with
  | nil =>
    intro lvs _ _ hlen
    rw [emitWalk]
    exact ⟨hlen, fun _ => [], fun j hj => (nomatch hj), fun _ _ => ⟨rfl, rfl⟩, rfl⟩
  | cons j js ih =>
    intro lvs hnd hlt hlen
    rw [List.nodup_cons] at hnd
    have hjl : j < regs.length := hlt j (by simp)
    have hr : regs[j]? = some regs[j] := List.getElem?_eq_getElem hjl
    have hne : ∀ j2 ∈ js, j ≠ j2 := fun j2 hj2 e => hnd.1 (e ▸ hj2)
    rw [emitWalk, hr]
    dsimp only
    cases he : emitOne regs[j] (lvs.getD j none) (b.chan regs[j].chan).cur with
    | error x => exact ⟨j, by simp, _, hr, he⟩
    | ok p =>
      obtain ⟨lv1, ls1⟩ := p
      have ih' := ih (lvs.set j lv1) hnd.2 (fun j2 hj2 => hlt j2 (by simp [hj2]))
        (by rw [List.length_set]; exact hlen)
      dsimp only
      cases hw : emitWalk regs b js (lvs.set j lv1) with
      | error x =>
        rw [hw] at ih'
        obtain ⟨j2, hj2, r2, hr2, h2⟩ := ih'
        rw [getD_set_ne _ _ _ _ _ (hne j2 hj2)] at h2
        exact ⟨j2, by simp [hj2], r2, hr2, h2⟩
      | ok q =>
        obtain ⟨lvs2, L2⟩ := q
        rw [hw] at ih'
        obtain ⟨g3, cs, g1, g2, g4⟩ := ih'
        refine ⟨g3, fun k => if k = j then ls1 else cs k, ?_, ?_, ?_⟩ <;> dsimp only
        · intro j2 hj2 r2 hr2
          rcases List.mem_cons.mp hj2 with rfl | hj2
          · rw [hr] at hr2; cases hr2
            rw [(g2 j2 hnd.1).1, getD_set_eq _ _ _ _ (hlen ▸ hjl), if_pos rfl]
            exact he
          · have := g1 j2 hj2 r2 hr2
            rw [getD_set_ne _ _ _ _ _ (hne j2 hj2)] at this
            rw [if_neg (hne j2 hj2).symm]; exact this
        · intro j2 hj2
          have hne' : j ≠ j2 := fun e => hj2 (by simp [e])
          obtain ⟨h1, h2⟩ := g2 j2 (fun hm => hj2 (by simp [hm]))
          rw [h1, getD_set_ne _ _ _ _ _ hne', if_neg hne'.symm]
          exact ⟨rfl, h2⟩
        · rw [List.flatMap_cons, g4, if_pos rfl]
          congr 1
          exact flatMap_congr_mem (fun j2 hj2 => by rw [if_neg (hne j2 hj2).symm])

theorem mem_emitIdx {regs : List PrvReg} {c j : Nat} :
    j ∈ emitIdx regs c ↔ ∃ r, regs[j]? = some r ∧ r.chan = c := by
  unfold emitIdx
  rw [List.mem_filter, List.mem_range]
  constructor
  · rintro ⟨hlt, h⟩
    rw [List.getElem?_eq_getElem hlt] at h
    exact ⟨regs[j], List.getElem?_eq_getElem hlt, of_decide_eq_true h⟩
  · rintro ⟨r, hr, hp⟩
    exact ⟨(List.getElem?_eq_some_iff.mp hr).1, by rw [hr]; exact decide_eq_true hp⟩

theorem emitIdx_nodup (regs : List PrvReg) (c : Nat) : (emitIdx regs c).Nodup :=
  List.Nodup.sublist List.filter_sublist List.nodup_range

theorem Bay.mem_emitSeq {b : Bay} {regs : List PrvReg} {j : Nat} :
    j ∈ b.emitSeq regs ↔ ∃ r, regs[j]? = some r ∧ r.chan ∈ b.dirty := by
  unfold Bay.emitSeq
  rw [List.mem_flatMap]
  constructor
  · rintro ⟨c, hc, hj⟩
    obtain ⟨r, hr, rfl⟩ := mem_emitIdx.mp hj
    exact ⟨r, hr, hc⟩
  · rintro ⟨r, hr, hc⟩
    exact ⟨r.chan, hc, mem_emitIdx.mpr ⟨r, hr, rfl⟩⟩

theorem Bay.emitSeq_nodup {b : Bay} (hnd : b.dirty.Nodup) (regs : List PrvReg) : (b.emitSeq regs).Nodup := by
  unfold Bay.emitSeq List.Nodup
  rw [List.pairwise_flatMap]
  refine ⟨fun c _ => emitIdx_nodup regs c, ?_⟩
  refine List.Pairwise.imp ?_ hnd
  intro c c' hne j hj j' hj' e
  subst e
  obtain ⟨r, hr, h1⟩ := mem_emitIdx.mp hj
  obtain ⟨r', hr', h2⟩ := mem_emitIdx.mp hj'
  rw [hr] at hr'; cases hr'
  exact hne (h1.symm.trans h2)

end Ovni.Emu
