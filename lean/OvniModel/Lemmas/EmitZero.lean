import OvniModel.Lemmas.EmitLines
import OvniModel.Lemmas.BayBuild
import OvniModel.Emu.Basic  -- `DecidableEq (Except ε α)`, for the `decide`s of the examples

/-
  C06 (emit side): one event on ANY well-formed bay — writes, then
  `bay_propagate` with the PRV callbacks (`Bay.propagateP`) — against the view
  records, for registrations with or without `PRV_ZERO`.

  With `PRV_ZERO` null and `int 0` both convert to 0: `emitView null (int 0)`
  writes a line with value 0 that repeats what the row shows — and so does
  `emit`.  Hence the statement: the lines of `emitView` and the lines of `emit`
  have the same EFFECTIVE lines.  Without `PRV_ZERO` a changed channel value
  gives a changed Paraver value, every line `emitView` writes is effective, and
  the view lines ARE the effective emitted lines (`Bay.emit_step`).
-/
namespace Ovni.Emu
open Ovni.Generated

/-- `b`: clean bay; `b1`: after the writes of the event; `bF`: after `bay_propagate`.
    `bay_propagate` with the PRV callbacks fails iff `viewRecs` does, only with "forbidden
    value 0"; otherwise it ends in the same `bF`, and the lines `L` it writes are, up to the order
    (dirty-list order vs registration order), a list `Lr` with the same effective lines as
    `viewLinesT` (= `viewRecs` with tags).  Both may hold lines repeating what the row shows. -/
theorem Bay.emit_step_zero {ok : Nat → Prop} {b b1 bF : Bay} {em : List (Nat × Value)} {regs : List PrvReg}
    {lvs : List (Option Value)} {tvs : List Int}
    (wf : b.WF) (hw : Bay.Writes ok b b1) (hp : b1.propagate = .ok (bF, em))
    (hinv : EmitInv regs lvs tvs b) (hfl : ∀ r ∈ regs, DupOk r.flags) :
    ((∃ x, b.viewRecs regs bF = .error x) ↔ (∃ y, b1.propagateP regs lvs = .error y)) ∧
    (∀ y, b1.propagateP regs lvs = .error y → y = .prvZero) ∧
    (∀ vr, b.viewRecs regs bF = .ok vr → ∃ lvs' L Lr, b1.propagateP regs lvs = .ok (bF, lvs', L) ∧
      L.Perm Lr ∧ vr = (b.viewLinesT regs bF).map (·.2) ∧
      (b.viewLinesT regs bF).filter (effective tvs) = Lr.filter (effective tvs) ∧
      EmitInv regs lvs' (tvStep tvs L) bF) := by
  obtain ⟨d, hdz, hrows⟩ := Bay.propagateP_rows (regs := regs) wf hw hp hinv.lenL
  -- row by row: the callback against the view
  have hreg := fun (j : Nat) (r : PrvReg) (hr : regs[j]? = some r) =>
    emit_vs_view (d := d r.chan) (vn := (bF.chan r.chan).cur) (hfl r (List.mem_of_getElem? hr)) (hinv.lv j r hr)
      (hinv.tv j r hr) (hdz r.chan)
  cases hpp : b1.propagateP regs lvs with
  | error e =>
    rw [hpp] at hrows
    obtain ⟨j, r, hr, hje⟩ := hrows
    have hve := hreg j r hr
    rw [hje] at hve
    have hverr : ∃ x, b.viewRecs regs bF = .error x := 
      collect_error_iff.mpr ⟨_, List.mem_map.mpr ⟨r, List.mem_of_getElem? hr, rfl⟩, e, hve⟩
    refine ⟨⟨fun _ => ⟨e, rfl⟩, fun _ => hverr⟩, fun y hy => ?_, fun vr hvr => ?_⟩
    · cases hy; exact emitView_error_prvZero hve
    · obtain ⟨x, hx⟩ := hverr; rw [hx] at hvr; cases hvr
  | ok q =>
    obtain ⟨b', lvs', L⟩ := q
    rw [hpp] at hrows
    obtain ⟨rfl, hlen', cs, hcs, hperm, hrow⟩ := hrows
    have hfull : ∀ (j : Nat) (r : PrvReg), regs[j]? = some r → ∃ m,
        emitView r.file r.row r.type r.flags (b.chan r.chan).cur (b'.chan r.chan).cur = .ok m ∧
        LvOk r.flags (lvs'.getD j none) (b'.chan r.chan).cur ∧
        prvValue r.flags (b'.chan r.chan).cur = .ok (tvNew (tvs.getD j 0) (cs j)) ∧
        m.filter (fun l => l.value != tvs.getD j 0) = (cs j).filter (fun l => l.value != tvs.getD j 0) := by
      intro j r hr
      have := hreg j r hr
      rw [hcs j r hr] at this
      exact this
    refine ⟨⟨fun ⟨x, hx⟩ => ?_, fun ⟨y, hy⟩ => (nomatch hy)⟩, fun y hy => (nomatch hy), fun vr hvr => ?_⟩
    · -- no `emitView` fails when every callback succeeded
      obtain ⟨y, hy, hye⟩ := collect_error hx
      obtain ⟨r, hr, rfl⟩ := List.mem_map.mp hy
      obtain ⟨j, hj⟩ := List.mem_iff_getElem?.mp hr
      obtain ⟨m, hm, _⟩ := hfull j r hj
      rw [hm] at hye; cases hye
    · refine ⟨lvs', L, _, rfl, hperm, Bay.viewRecs_eq_viewLinesT hvr, ?_,
        hlen', (tvStep_length _ _).trans hinv.lenT, fun j r hr => ?_, fun j r hr => ?_⟩
      · unfold Bay.viewLinesT
        rw [List.filter_flatMap, List.filter_flatMap]
        apply flatMap_congr_mem
        intro j hj
        have hjl : j < regs.length := List.mem_range.mp hj
        have hr : regs[j]? = some regs[j] := List.getElem?_eq_getElem hjl
        obtain ⟨m, hm, _, _, hmc⟩ := hfull j _ hr
        simp only [hr, hm]
        rw [filter_effective_tag, filter_effective_tag, hmc]
      · obtain ⟨_, _, hLv, _⟩ := hfull j r hr
        exact hLv
      · obtain ⟨_, _, _, hTv, _⟩ := hfull j r hr
        rw [tvStep_getD _ _ (hinv.lenT ▸ (List.getElem?_eq_some_iff.mp hr).1), hrow j]; exact hTv

/-- `emitView` writes only when the channel value changed, and without `PRV_ZERO` the Paraver
    value then changed too (`prvValue_inj`). -/
theorem Bay.viewLinesT_effective_of_noZero {b bF : Bay} {regs : List PrvReg} {lvs : List (Option Value)}
    {tvs : List Int} (hinv : EmitInv regs lvs tvs b) (hz : ∀ r ∈ regs, NoZero r.flags) :
    (b.viewLinesT regs bF).filter (effective tvs) = b.viewLinesT regs bF := by
  rw [List.filter_eq_self]
  intro x hx
  unfold Bay.viewLinesT at hx
  obtain ⟨j, hj, hx⟩ := List.mem_flatMap.mp hx
  have hjl : j < regs.length := List.mem_range.mp hj
  have hr : regs[j]? = some regs[j] := List.getElem?_eq_getElem hjl
  have hnz := hz regs[j] (List.getElem_mem hjl)
  have htv := hinv.tv j _ hr
  simp only [hr] at hx
  by_cases hvv : (b.chan regs[j].chan).cur = (bF.chan regs[j].chan).cur
  · rw [hvv, emitView_same] at hx; cases hx
  · cases hp : prvValue regs[j].flags (bF.chan regs[j].chan).cur with
    | error e => rw [emitView_ne_error hvv hp] at hx; cases hx
    | ok v =>
      rw [emitView_ne_ok hvv hp] at hx
      simp only [List.map_cons, List.map_nil, List.mem_singleton] at hx
      subst hx
      unfold effective
      simp only [bne_iff_ne, ne_eq]
      intro e
      exact hvv (prvValue_inj hnz htv (e ▸ hp))

theorem Bay.viewRecs_effective_of_noZero {b bF : Bay} {regs : List PrvReg} {lvs : List (Option Value)}
    {tvs : List Int} {vr : List PrvRec} {Lr : List (Nat × PrvRec)} (hinv : EmitInv regs lvs tvs b)
    (hz : ∀ r ∈ regs, NoZero r.flags) (hvr : vr = (b.viewLinesT regs bF).map (·.2))
    (heff : (b.viewLinesT regs bF).filter (effective tvs) = Lr.filter (effective tvs)) :
    vr = (Lr.filter (effective tvs)).map (·.2) := by
  rw [hvr, ← heff, Bay.viewLinesT_effective_of_noZero hinv hz]

/-- As `Bay.emit_step_zero`; without `PRV_ZERO`, `viewRecs` is exactly the lines of `Lr` that
    change what their row shows. -/
theorem Bay.emit_step {ok : Nat → Prop} {b b1 bF : Bay} {em : List (Nat × Value)} {regs : List PrvReg}
    {lvs : List (Option Value)} {tvs : List Int}
    (wf : b.WF) (hw : Bay.Writes ok b b1) (hp : b1.propagate = .ok (bF, em))
    (hinv : EmitInv regs lvs tvs b) (hfl : ∀ r ∈ regs, DupOk r.flags ∧ NoZero r.flags) :
    ((∃ x, b.viewRecs regs bF = .error x) ↔ (∃ y, b1.propagateP regs lvs = .error y)) ∧
    (∀ y, b1.propagateP regs lvs = .error y → y = .prvZero) ∧
    (∀ vr, b.viewRecs regs bF = .ok vr → ∃ lvs' L Lr, b1.propagateP regs lvs = .ok (bF, lvs', L) ∧
      L.Perm Lr ∧ vr = (Lr.filter (effective tvs)).map (·.2) ∧ EmitInv regs lvs' (tvStep tvs L) bF) := by
  obtain ⟨h1, h2, h3⟩ := Bay.emit_step_zero wf hw hp hinv (fun r hr => (hfl r hr).1)
  refine ⟨h1, h2, fun vr hvr => ?_⟩
  obtain ⟨lvs', L, Lr, hpp, hperm, hv, heff, hE⟩ := h3 vr hvr
  refine ⟨lvs', L, Lr, hpp, hperm, ?_, hE⟩
  exact Bay.viewRecs_effective_of_noZero hinv (fun r hr => (hfl r hr).2) hv heff

/-! A registration with `PRV_SKIPDUP | PRV_ZERO`: one plain channel (no mux), registered as row 1,
type 10, flags 2 + 8.  Event A writes `int 0` on the all-null bay: the channel value changes
(null → 0), so `emitView` and `emit` both write the line `1:10:0` — which repeats the 0 the
row shows from the start.  Event B writes `int 5`: an effective line. -/

private def unwrapZ {α} (d : α) : Except Err α → α
  | .ok a => a
  | .error _ => d

def ezB0 : Bay := (({} : Bay).register {}).1
def ezRegs : List PrvReg := [⟨0, 0, 1, 10, prvSkipDup + prvZero⟩]
def ezA1 : Bay := unwrapZ ezB0 (ezB0.chanSet 0 (.int 0))
def ezA : Bay × List (Option Value) × List (Nat × PrvRec) :=
  unwrapZ (ezA1, [], []) (ezA1.propagateP ezRegs [none])
def ezB1 : Bay := unwrapZ ezA.1 (ezA.1.chanSet 0 (.int 5))
def ezB : Bay × List (Option Value) × List (Nat × PrvRec) :=
  unwrapZ (ezB1, [], []) (ezB1.propagateP ezRegs ezA.2.1)

example : ezRegs.map (·.flags) = [10] ∧ (∀ r ∈ ezRegs, DupOk r.flags ∧ ¬ NoZero r.flags) := by decide

/-- Event A: the line written has value 0 and is NOT effective; `viewRecs` gives that line. -/
example : ezA1.propagateP ezRegs [none] = .ok ezA ∧ ezA.2.2 = [(0, ⟨0, 1, 10, 0⟩)] ∧
    ezA.2.1 = [some (.int 0)] ∧ effective [0] (0, ⟨0, 1, 10, 0⟩) = false ∧
    ezB0.viewRecs ezRegs ezA.1 = .ok [⟨0, 1, 10, 0⟩] ∧
    ezB0.viewLinesT ezRegs ezA.1 = [(0, ⟨0, 1, 10, 0⟩)] :=
  ⟨by rfl, by decide, by decide, by decide, by decide, by decide⟩

/-- The conclusion of `Bay.emit_step` is false for this registration: no permutation `Lr` of the
    lines written has `viewRecs` as its effective lines. -/
example : ¬ ∃ Lr, ezA.2.2.Perm Lr ∧
    ([⟨0, 1, 10, 0⟩] : List PrvRec) = (Lr.filter (effective [0])).map (·.2) := by
  rintro ⟨Lr, hperm, h⟩
  have hA : ezA.2.2 = [(0, ⟨0, 1, 10, 0⟩)] := by decide
  rw [hA] at hperm
  have hLr : Lr = [(0, ⟨0, 1, 10, 0⟩)] := (List.singleton_perm.mp hperm).symm
  subst hLr
  revert h; decide

/-- The conclusion of `Bay.emit_step_zero` holds for it. -/
example : ([⟨0, 1, 10, 0⟩] : List PrvRec) = (ezB0.viewLinesT ezRegs ezA.1).map (·.2) ∧
    (ezB0.viewLinesT ezRegs ezA.1).filter (effective [0]) = ezA.2.2.filter (effective [0]) := by decide

/-- Event B: the value goes from 0 to 5, an effective line on both sides. -/
example : ezB1.propagateP ezRegs ezA.2.1 = .ok ezB ∧ ezB.2.2 = [(0, ⟨0, 1, 10, 5⟩)] ∧
    tvStep [0] ezA.2.2 = [0] ∧ effective [0] (0, ⟨0, 1, 10, 5⟩) = true ∧
    ezA.1.viewRecs ezRegs ezB.1 = .ok [⟨0, 1, 10, 5⟩] ∧
    (ezA.1.viewLinesT ezRegs ezB.1).filter (effective [0]) = ezB.2.2.filter (effective [0]) ∧
    tvStep [0] ezB.2.2 = [5] :=
  ⟨by rfl, by decide, by decide, by decide, by decide, by decide, by decide⟩

/-- `Bay.emit_step_zero` applies to event A (all hypotheses hold), and its
    result — `EmitInv` after event A — is what event B needs. -/
example : ∃ lvs' L, ezA1.propagateP ezRegs [none] = .ok (ezA.1, lvs', L) ∧
    (ezB0.viewLinesT ezRegs ezA.1).filter (effective [0]) ≠ ezB0.viewLinesT ezRegs ezA.1 ∧
    EmitInv ezRegs lvs' (tvStep [0] L) ezA.1 := by
  have hfl : ∀ r ∈ ezRegs, DupOk r.flags := by decide
  have wf0 : ezB0.WF := Bay.WF.empty.register _ rfl
  have hw : Bay.Writes (fun _ => True) ezB0 ezA1 :=
    .snoc (b1 := ezB0) (c := 0) (f := fun x => x.set (.int 0)) (.nil _) trivial (chanOp_set _) (by rfl)
  have hp : ezA1.propagate = .ok (ezA.1, []) := by rfl
  have hinv : EmitInv ezRegs [none] [0] ezB0 := by
    refine ⟨rfl, rfl, ?_, ?_⟩
    · intro j r hr
      match j, hr with
      | 0, hr => injection hr with hr; subst hr; exact ⟨fun _ => rfl, Or.inl rfl⟩
    · intro j r hr
      match j, hr with
      | 0, hr => injection hr with hr; subst hr; rfl
  obtain ⟨_, _, h3⟩ := Bay.emit_step_zero wf0 hw hp hinv hfl
  obtain ⟨lvs', L, _, hpp, _, _, _, hE⟩ :=
    h3 _ (by decide : ezB0.viewRecs ezRegs ezA.1 = .ok [⟨0, 1, 10, 0⟩])
  exact ⟨lvs', L, hpp, by decide, hE⟩

end Ovni.Emu
