import OvniModel.Lemmas.TaskCouple
import OvniModel.Emu.Emit

/-!
The histories C06's theorems quantify over, with their induction principles.  Bay side: `Rounds`
(events = writes then `bay_propagate`) and `RoundsP` (the same with the PRV callbacks, collecting
the lines).  Emulator side: `replay` (`stepEv` over a list of events with fixed hooks) and
`replayT` (the task hook rebuilt per event from the task layer's state).
-/
namespace Ovni.Emu

theorem stepEv_ok {e e2 : Emu} {ti m c v : Nat} {p : List Nat} {rs : List PrvRec}
    {th mh : Emu → Nat → Nat → Nat → List Nat → Except Err Emu}
    (h : stepEv e ti m c v p th mh = .ok (e2, rs)) :
    ∃ e1, modelEvent e ti m c v p th mh = .ok e1 ∧ records e e1 = .ok rs ∧ e2 = e1.flushAll := by
  unfold stepEv at h
  obtain ⟨e1, h1, h⟩ := bind_ok h
  obtain ⟨rs', h2, h⟩ := bind_ok h
  cases h
  exact ⟨e1, h1, h2, rfl⟩

end Ovni.Emu

namespace Ovni.Props.C06
open Ovni.Emu

inductive Rounds (ok : Nat → Prop) : Bay → Bay → Prop
  | nil (b : Bay) : Rounds ok b b
  | round {b b0 b1 b2 : Bay} {em : List (Nat × Value)} :
      Rounds ok b b0 → Bay.Writes ok b0 b1 → b1.propagate = .ok (b2, em) → Rounds ok b b2

theorem Rounds.trans {ok : Nat → Prop} {b b1 b2 : Bay} (h1 : Rounds ok b b1) (h2 : Rounds ok b1 b2) :
    Rounds ok b b2 := by
  induction h2 with
  | nil => exact h1
  | round _ hw hp ih => exact .round ih hw hp

/-- At every instant of a history on the sources of a connected two-level bay every mux is in sync
    or still virgin. -/
theorem Rounds.syncOrVirgin {L : Nat} {b0 b : Bay} (t : b0.Topo L) (hr : Rounds (· < L) b0 b) :
    b.WF ∧ b.muxes = b0.muxes ∧
    ∀ (mi : Nat) (m : Mux), b0.muxes[mi]? = some m → b.MuxSync false mi m ∨ b.Virgin mi m := by
  induction hr with
  | nil => exact ⟨t.wf, rfl, fun mi m _ => .inr (t.virgin mi m)⟩
  | round _ hw hp ih =>
    obtain ⟨wf1, hmx, hsv⟩ := ih
    have k := hw.kept wf1
    exact ⟨(Bay.propagate_wf k.wf hp).1, ((Bay.propagate_wf k.wf hp).2.2.trans k.muxes).trans hmx, fun mi m hm =>
      Bay.syncOrVirgin_step wf1 (t.layered.congr hmx) (hmx ▸ hm) hw hp (hsv mi m hm)⟩

/-- One event of a history: thread, model, category, value, payload. -/
abbrev Ev := Nat × Nat × Nat × Nat × List Nat

/-- The reference emulator on a list of events (`stepEv` = handlers, record
    emission, flush), collecting the records. -/
def replay (th mh : Emu → Nat → Nat → Nat → List Nat → Except Err Emu) :
    Emu → List Ev → Except Err (Emu × List PrvRec)
  | e, [] => .ok (e, [])
  | e, ev :: evs =>
    match stepEv e ev.1 ev.2.1 ev.2.2.1 ev.2.2.2.1 ev.2.2.2.2 th mh with
    | .error x => .error x
    | .ok (e1, rs) =>
      match replay th mh e1 evs with
      | .error x => .error x
      | .ok (eF, rs') => .ok (eF, rs ++ rs')

theorem replay_cons_ok {th mh : Emu → Nat → Nat → Nat → List Nat → Except Err Emu} {e eF : Emu} {ev : Ev}
    {evs : List Ev} {rs : List PrvRec} (h : replay th mh e (ev :: evs) = .ok (eF, rs)) :
    ∃ e1 rs1 rs2, stepEv e ev.1 ev.2.1 ev.2.2.1 ev.2.2.2.1 ev.2.2.2.2 th mh = .ok (e1, rs1) ∧
      replay th mh e1 evs = .ok (eF, rs2) := by
  rw [replay] at h
  split at h
  · cases h
  · rename_i e1 rs1 hstep
    split at h
    · cases h
    · rename_i eF' rs2 hrest
      injection h with h; injection h with h1 _
      exact ⟨e1, rs1, rs2, hstep, h1 ▸ hrest⟩

/-- An accepted history walks through `Shaped` states of one shape (that of `e0`).  `I n e`: after
    `n` accepted events the state is `e`; a step is the handlers' `modelEvent`, the `records` of the
    event and the flush. -/
theorem replay_invariant {th mh : Emu → Nat → Nat → Nat → List Nat → Except Err Emu} (hth : HookSim th)
    (hmh : HookSim mh) {e0 : Emu} (I : Nat → Emu → Prop)
    (step : ∀ {n : Nat} {e e1 : Emu} {ti mc c v : Nat} {p : List Nat} {rs : List PrvRec}, Shaped e →
      e.shape = e0.shape → I n e → modelEvent e ti mc c v p th mh = .ok e1 → records e e1 = .ok rs →
      I (n + 1) e1.flushAll) (evs : List Ev) :
    ∀ {n : Nat} {e eF : Emu} {rs : List PrvRec}, Shaped e → e.shape = e0.shape → I n e →
      replay th mh e evs = .ok (eF, rs) → Shaped eF ∧ eF.shape = e0.shape ∧ I (evs.length + n) eF := by
  induction evs with
  | nil =>
    intro n e eF rs hs hsh h0 h
    injection h with h; injection h with h1 _
    rw [List.length_nil, Nat.zero_add, ← h1]; exact ⟨hs, hsh, h0⟩
  | cons ev evs ih =>
    intro n e eF rs hs hsh h0 h
    obtain ⟨e1, rs1, rs2, hstep, hrest⟩ := replay_cons_ok h
    obtain ⟨e1, hme, hrec, rfl⟩ := stepEv_ok hstep
    obtain ⟨hs1, hsh1, _⟩ := Sim.modelEvent hth hmh hme hs
    rw [List.length_cons, Nat.add_right_comm]
    exact ih hs1.flushAll ((Emu.shape_flushAll e1).trans (hsh1.trans hsh)) (step hs hsh h0 hme hrec) hrest

inductive RoundsP (regs : List PrvReg) (ok : Nat → Prop) :
    Bay × List (Option Value) → List (List (Nat × PrvRec)) → Bay × List (Option Value) → Prop
  | nil (s : Bay × List (Option Value)) : RoundsP regs ok s [] s
  | cons {b b1 b2 : Bay} {lvs lvs' : List (Option Value)} {L : List (Nat × PrvRec)}
      {rest : List (List (Nat × PrvRec))} {sF : Bay × List (Option Value)} :
      Bay.Writes ok b b1 → b1.propagateP regs lvs = .ok (b2, lvs', L) → RoundsP regs ok (b2, lvs') rest sF →
      RoundsP regs ok (b, lvs) (L :: rest) sF

theorem RoundsP.snoc {regs : List PrvReg} {ok : Nat → Prop} {s : Bay × List (Option Value)}
    {Ls : List (List (Nat × PrvRec))} {b b1 b2 : Bay} {lvs lvs' : List (Option Value)} {L : List (Nat × PrvRec)}
    (hr : RoundsP regs ok s Ls (b, lvs)) (hw : Bay.Writes ok b b1) (hp : b1.propagateP regs lvs = .ok (b2, lvs', L)) :
    RoundsP regs ok s (Ls ++ [L]) (b2, lvs') := by
  generalize hx : (b, lvs) = x at hr
  induction hr with
  | nil s => subst hx; exact .cons hw hp (.nil _)
  | cons hw' hp' _ ih => exact .cons hw' hp' (ih hx)

/-- One event of a history with the task layer: the raw event and, for a task
    event, its decoded form (`none`: not a task event; the hook then refuses it). -/
abbrev EvT := Ev × Option Ovni.Task.Ev

/-- `replay` with the task layer of one process (model `tm`, process info `P`): the task hook of each
    event is built from the current task state (`hookOf`), which `advanceT` then steps
    (`Ovni.Task.Emu.step`). -/
def replayT (tm : Ovni.Task.Model) (P : Ovni.Task.ProcInfo) (tab : List MarkType) :
    Emu → Ovni.Task.Emu → List EvT → Except Err (Emu × Ovni.Task.Emu × List PrvRec)
  | e, ε, [] => .ok (e, ε, [])
  | e, ε, evt :: evs =>
    match stepEv e evt.1.1 evt.1.2.1 evt.1.2.2.1 evt.1.2.2.2.1 evt.1.2.2.2.2 (hookOf tm P ε evt.2)
        (fun e ti _ v p => markEvent tab e ti v p) with
    | .error x => .error x
    | .ok (e1, rs) =>
      match replayT tm P tab e1 (advanceT tm P ε evt.2) evs with
      | .error x => .error x
      | .ok (eF, εF, rs') => .ok (eF, εF, rs ++ rs')

theorem replayT_cons_ok {tm : Ovni.Task.Model} {P : Ovni.Task.ProcInfo} {tab : List MarkType} {e eF : Emu}
    {ε εF : Ovni.Task.Emu} {evt : EvT} {evs : List EvT} {rs : List PrvRec}
    (h : replayT tm P tab e ε (evt :: evs) = .ok (eF, εF, rs)) :
    ∃ e1 rs1 rs2, stepEv e evt.1.1 evt.1.2.1 evt.1.2.2.1 evt.1.2.2.2.1 evt.1.2.2.2.2 (hookOf tm P ε evt.2)
        (fun e ti _ v p => markEvent tab e ti v p) = .ok (e1, rs1) ∧
      replayT tm P tab e1 (advanceT tm P ε evt.2) evs = .ok (eF, εF, rs2) := by
  rw [replayT] at h
  split at h
  · cases h
  · rename_i e1 rs1 hstep
    split at h
    · cases h
    · rename_i eF' εF' rs2 hrest
      injection h with h; injection h with h1 h2; injection h2 with h2 _
      exact ⟨e1, rs1, rs2, hstep, h1 ▸ h2 ▸ hrest⟩

/-- `replay_invariant` for `replayT`, whose hooks simulate (`hookSim_hookOf`, `hookSim_mark`).  The
    property may speak of the task state, and a step may use that its event is one of the
    history. -/
theorem replayT_invariant {tm : Ovni.Task.Model} {P : Ovni.Task.ProcInfo} {tab : List MarkType} {e0 : Emu}
    (I : Nat → Emu → Ovni.Task.Emu → Prop) (evs : List EvT) :
    (∀ {n : Nat} {e e1 : Emu} {ε : Ovni.Task.Emu} {evt : EvT} {rs : List PrvRec}, evt ∈ evs → Shaped e →
      e.shape = e0.shape → I n e ε →
      modelEvent e evt.1.1 evt.1.2.1 evt.1.2.2.1 evt.1.2.2.2.1 evt.1.2.2.2.2 (hookOf tm P ε evt.2)
        (fun e ti _ v p => markEvent tab e ti v p) = .ok e1 → records e e1 = .ok rs →
      I (n + 1) e1.flushAll (advanceT tm P ε evt.2)) →
    ∀ {n : Nat} {e eF : Emu} {ε εF : Ovni.Task.Emu} {rs : List PrvRec}, Shaped e → e.shape = e0.shape → I n e ε →
      replayT tm P tab e ε evs = .ok (eF, εF, rs) → Shaped eF ∧ eF.shape = e0.shape ∧ I (evs.length + n) eF εF := by
  induction evs with
  | nil =>
    intro _ n e eF ε εF rs hs hsh h0 h
    injection h with h; injection h with h1 h2; injection h2 with h2 _
    rw [List.length_nil, Nat.zero_add, ← h1, ← h2]; exact ⟨hs, hsh, h0⟩
  | cons evt evs ih =>
    intro step n e eF ε εF rs hs hsh h0 h
    obtain ⟨e1, rs1, rs2, hstep, hrest⟩ := replayT_cons_ok h
    obtain ⟨e1, hme, hrec, rfl⟩ := stepEv_ok hstep
    obtain ⟨hs1, hsh1, _⟩ := Sim.modelEvent (hookSim_hookOf tm P ε evt.2) (hookSim_mark tab) hme hs
    rw [List.length_cons, Nat.add_right_comm]
    exact ih (fun hm => step (List.mem_cons_of_mem _ hm)) hs1.flushAll
      ((Emu.shape_flushAll e1).trans (hsh1.trans hsh)) (step List.mem_cons_self hs hsh h0 hme hrec) hrest

end Ovni.Props.C06
