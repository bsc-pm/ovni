import OvniModel.Emu.Core
import OvniModel.Lemmas.ListLemmas
import OvniModel.Lemmas.Chan

/-
  Channels, the thread operations of thread.c and `cpu_update` in closed form on
  flushed channels, and what `cpu_update` reads of the thread table.
-/
namespace Ovni.Emu

/-- what a successful `Chan.set` on a clean channel produces -/
def Chan.setv (c : Chan) (v : Value) : Chan :=
  if c.last = v then c else c.wr v.single

/-- a flushed (clean) single channel whose value is `v`: on such a channel `Chan.set` has the
    closed form `Chan.setv`, and flushing the result gives a `ChanOK` channel with the new value -/
structure ChanOK (c : Chan) (v : Value) (ign : Bool) : Prop where
  single : c.isStack = false
  clean : c.dirty = false
  last : c.last = v
  cur : c.cur = v
  noDup : c.allowDup = false
  ign : c.ignoreDup = ign
  noDw : c.dirtyWrite = false

theorem Chan.set_ign {c : Chan} {w : Value} (h : ChanOK c w true) (v : Value) :
    c.set v = .ok (c.setv v) := by
  refine Chan.set_ok_iff.mpr ⟨h.single, fun hd => by simp [h.clean] at hd, ?_⟩
  unfold Chan.setv Chan.IsDup
  by_cases hv : c.last = v <;> simp [hv, h.noDup, h.ign]

theorem Chan.set_noign {c : Chan} {w : Value} (h : ChanOK c w false) (v : Value) :
    c.set v = if w = v then .error .chanDup else .ok (c.setv v) := by
  by_cases hv : w = v
  · simp [Chan.set, h.single, h.clean, h.noDup, h.ign, h.last, hv]
  · rw [if_neg hv]
    exact Chan.set_ok_iff.mpr ⟨h.single, fun hd => by simp [h.clean] at hd,
      .inr ⟨fun hd => hv (h.last ▸ hd.2), by rw [Chan.setv, if_neg (h.last ▸ hv)]⟩⟩

theorem chanOK_default : ChanOK ({} : Chan) .null false := ⟨rfl, rfl, rfl, rfl, rfl, rfl, rfl⟩
theorem chanOK_default_ign : ChanOK ({ ignoreDup := true } : Chan) .null true := ⟨rfl, rfl, rfl, rfl, rfl, rfl, rfl⟩

theorem ChanOK.flush_eq {c : Chan} {v : Value} {ign : Bool} (h : ChanOK c v ign) : c.flush = c :=
  Chan.flush_of_clean h.clean

theorem ChanOK.flush {c : Chan} {v : Value} {ign : Bool} (h : ChanOK c v ign) : ChanOK c.flush v ign := by
  rw [h.flush_eq]; exact h

theorem ChanOK.setv_same {c : Chan} {v : Value} {ign : Bool} (h : ChanOK c v ign) : c.setv v = c := by
  unfold Chan.setv; rw [if_pos h.last]

theorem ChanOK.setv_cur {c : Chan} {w : Value} {ign : Bool} (h : ChanOK c w ign) (v : Value) :
    (c.setv v).cur = v := by
  unfold Chan.setv
  by_cases hv : c.last = v
  · simp only [hv, if_true]; rw [h.cur, ← h.last, hv]
  · simp only [hv, if_false]; exact Value.cur_single v c

theorem ChanOK.setv_dirty {c : Chan} {w : Value} {ign : Bool} (h : ChanOK c w ign) (v : Value) :
    (c.setv v).dirty = decide (w ≠ v) := by
  unfold Chan.setv
  by_cases hv : c.last = v
  · simp only [hv, if_true]; rw [h.clean]; rw [h.last] at hv; simp [hv]
  · simp only [hv, if_false]; rw [h.last] at hv; simp [hv]

theorem ChanOK.setv_flush {c : Chan} {w : Value} {ign : Bool} (h : ChanOK c w ign) (v : Value) :
    ChanOK (c.setv v).flush v ign := by
  have hc := h.setv_cur v
  unfold Chan.setv at hc ⊢
  by_cases hv : c.last = v
  · simp only [hv, if_true] at hc ⊢
    rw [h.flush_eq]
    exact { h with last := hv, cur := hc }
  · simp only [hv, if_false] at hc ⊢
    rw [Chan.flush_wr]
    exact ⟨h.single, rfl, hc, hc, h.noDup, h.ign, h.noDw⟩

/-- value of the TID channel (`thread_set_state`): the TID while the thread is active, else nothing -/
def tidVal (st : ThState) (tid : Int) : Value := if st.isActive then .int tid else .null

/-- value of the CPU channel: the global index of the CPU the thread is bound to, if any -/
def cpuVal : Option Nat → Value
  | none => .null
  | some c => .int c

/-- value of the state channel: nothing before the first execute, then the state's code -/
def stateVal (st : ThState) : Value := if st = .unknown then .null else .int st.code

/-- The thread with logical value `x = (state, cpu)` as every handler leaves it before the flush:
    its three channels written with the values of `x` (on a flushed channel, a `chan_set` of the
    value it already has changes nothing: `ChanOK.setv_same`). -/
def Thread.assign (t : Thread) (x : ThState × Option Nat) : Thread :=
  { t with state := x.1, cpu := x.2, chState := t.chState.setv (stateVal x.1),
           chTid := t.chTid.setv (tidVal x.1 t.tid), chCpu := t.chCpu.setv (cpuVal x.2) }

theorem Thread.assign_gindex (t : Thread) (x : ThState × Option Nat) : (t.assign x).gindex = t.gindex := rfl

theorem tidVal_eq (s : ThState) (tid : Int) :
    tidVal s tid = if s = .running ∨ s = .cooling ∨ s = .warming then .int tid else .null := by
  cases s <;> rfl

theorem stateVal_of_ne {st : ThState} (h : st ≠ .unknown) : stateVal st = .int st.code := by
  unfold stateVal; simp [h]

theorem stateVal_inj {a b : ThState} (h : stateVal a = stateVal b) : a = b := by
  cases a <;> cases b <;> first | rfl | exact absurd h (by decide)

theorem stateVal_ne {s s' : ThState} (h : s' ≠ s) : stateVal s ≠ stateVal s' :=
  fun hv => h (stateVal_inj hv).symm

theorem cpuVal_inj {a b : Option Nat} (h : cpuVal a = cpuVal b) : a = b := by
  cases a <;> cases b <;> cases h <;> rfl

/- The thread operations on `t.assign x`.  A handler works on the thread `t` it found, whose channels
   are flushed, and every operation changes one component of the logical value: the state channels
   can be written while the state is still `t`'s, the affinity channel while the CPU is. -/

theorem Thread.setState_assign {t : Thread} (hS : ChanOK t.chState (stateVal t.state) false)
    (hT : ChanOK t.chTid (tidVal t.state t.tid) true) (o : Option Nat) {st : ThState} (hst : st ≠ .unknown) :
    (t.assign (t.state, o)).setState st =
      if o.isNone then .error .noCpu
      else if t.state = st then .error .chanDup
      else .ok (t.assign (st, o)) := by
  cases o with
  | none => rfl
  | some k =>
    show ((t.chState.setv (stateVal t.state)).set (.int st.code) >>= fun cs =>
      (t.chTid.setv (tidVal t.state t.tid)).set (tidVal st t.tid) >>= fun ct => _) = _
    rw [hS.setv_same, hT.setv_same, Chan.set_noign hS, Chan.set_ign hT, ← stateVal_of_ne hst]
    by_cases hs : t.state = st
    · rw [if_pos (hs ▸ rfl)]; simp only [hs, if_true]; rfl
    · rw [if_neg fun h => hs (stateVal_inj h)]
      simp only [hs, if_false]; rfl

/-- the `chan_set` of the three affinity operations -/
theorem Thread.chCpu_assign {t : Thread} (hC : ChanOK t.chCpu (cpuVal t.cpu) false) (s : ThState) (o : Option Nat) :
    (t.assign (s, t.cpu)).chCpu.set (cpuVal o) =
      if t.cpu = o then .error .chanDup else .ok (t.assign (s, o)).chCpu := by
  show (t.chCpu.setv (cpuVal t.cpu)).set _ = _
  rw [hC.setv_same, Chan.set_noign hC]
  by_cases h : t.cpu = o
  · rw [if_pos h, if_pos (h ▸ rfl)]
  · rw [if_neg h, if_neg fun h' => h (cpuVal_inj h')]; rfl

theorem Thread.setCpu_assign {t : Thread} (hC : ChanOK t.chCpu (cpuVal t.cpu) false) (s : ThState) (ci : Nat) :
    (t.assign (s, t.cpu)).setCpu ci =
      if t.cpu.isSome then .error .state
      else .ok (t.assign (s, some ci)) := by
  unfold Thread.setCpu
  show (if t.cpu.isSome = true then _ else (t.assign (s, t.cpu)).chCpu.set (cpuVal (some ci)) >>= _) = _
  rw [Thread.chCpu_assign hC]
  cases h : t.cpu <;> rfl

theorem Thread.unsetCpu_assign {t : Thread} (hC : ChanOK t.chCpu (cpuVal t.cpu) false) (s : ThState) :
    (t.assign (s, t.cpu)).unsetCpu =
      if t.cpu.isNone then .error .noCpu
      else .ok (t.assign (s, none)) := by
  unfold Thread.unsetCpu
  show (if t.cpu.isNone = true then _ else (t.assign (s, t.cpu)).chCpu.set (cpuVal none) >>= _) = _
  rw [Thread.chCpu_assign hC]
  cases h : t.cpu <;> rfl

theorem Thread.migrateCpu_assign {t : Thread} (hC : ChanOK t.chCpu (cpuVal t.cpu) false) (s : ThState) (ci : Nat) :
    (t.assign (s, t.cpu)).migrateCpu ci =
      if t.cpu.isNone then .error .noCpu
      else if t.cpu = some ci then .error .chanDup
      else .ok (t.assign (s, some ci)) := by
  unfold Thread.migrateCpu
  show (if t.cpu.isNone = true then _ else (t.assign (s, t.cpu)).chCpu.set (cpuVal (some ci)) >>= _) = _
  rw [Thread.chCpu_assign hC]
  cases h : t.cpu with
  | none => rfl
  | some k => by_cases hk : some k = some ci <;> simp only [hk, if_true, if_false] <;> rfl

/- The `let`s of `cpuUpdate` under names: `cpuUpdate_eq` states the function through them. -/

/-- the value `cpu_update` writes for "the thread when it is unique": `f` of it, else nothing -/
def uniq (l : List Thread) (f : Thread → Int) : Value :=
  match l with
  | [t] => .int (f t)
  | _ => .null

def runOf (bound : List Thread) : List Thread := bound.filter (fun t => t.state = .running)
def actOf (bound : List Thread) : List Thread := bound.filter (fun t => t.state.isActive)
def boundOf (ths : List Thread) (l : List Nat) : List Thread := l.filterMap (fun g => ths[g]?)

/-- the CPU after a successful `cpu_update` over the bound threads `bound` -/
def Cpu.withVals (c : Cpu) (bound : List Thread) : Cpu :=
  { c with chTid := c.chTid.setv (uniq (runOf bound) (·.tid)),
           chPid := c.chPid.setv (uniq (runOf bound) (·.pid)),
           chThrun := c.chThrun.setv (uniq (runOf bound) (fun t => (t.gindex : Int))),
           chNrun := c.chNrun.setv (.int (runOf bound).length),
           chThact := c.chThact.setv (uniq (actOf bound) (fun t => (t.gindex : Int))) }

theorem Cpu.withVals_gindex (c : Cpu) (b : List Thread) : (c.withVals b).gindex = c.gindex := rfl

/-- the values are in the order running-count, pid, tid, running thread, active thread -/
structure CpuChansOK (c : Cpu) (vn vp vt vr va : Value) : Prop where
  nrun : ChanOK c.chNrun vn true
  pid : ChanOK c.chPid vp true
  tid : ChanOK c.chTid vt true
  thrun : ChanOK c.chThrun vr true
  thact : ChanOK c.chThact va true

/-- all five channels of the CPU are flushed single `CHAN_IGNORE_DUP` channels (`cpu_init_end`) -/
def CpuClean (c : Cpu) : Prop := ∃ vn vp vt vr va, CpuChansOK c vn vp vt vr va

theorem CpuClean.dirty {c : Cpu} : CpuClean c → c.chNrun.dirty = false ∧ c.chTid.dirty = false ∧
    c.chPid.dirty = false ∧ c.chThrun.dirty = false ∧ c.chThact.dirty = false
  | ⟨_, _, _, _, _, h⟩ => ⟨h.nrun.clean, h.tid.clean, h.pid.clean, h.thrun.clean, h.thact.clean⟩

/-- the oversubscription guard of `cpu_update` -/
def overGuard (ths : List Thread) (l : List Nat) (virt : Bool) : Bool :=
  decide ((runOf (boundOf ths l)).length > 1) && !virt

theorem overGuard_eq_true_iff {ths : List Thread} {l : List Nat} {virt : Bool} :
    overGuard ths l virt = true ↔ virt = false ∧ 1 < (runOf (boundOf ths l)).length := by
  unfold overGuard; simp [and_comm]

/-- `cpu_add_thread` and `cpu_remove_thread` change the list before the call; `l := c.threads` is the
    plain call (eta) -/
theorem cpuUpdate_eq {c : Cpu} (h : CpuClean c) (ths : List Thread) (l : List Nat) :
    cpuUpdate ths { c with threads := l } =
      if overGuard ths l c.virt then .error .oversub
      else .ok (({ c with threads := l } : Cpu).withVals (boundOf ths l)) := by
  obtain ⟨vn, vp, vt, vr, va, h⟩ := h
  unfold cpuUpdate
  simp only [Chan.set_ign h.nrun, Chan.set_ign h.pid, Chan.set_ign h.tid, Chan.set_ign h.thrun, Chan.set_ign h.thact]
  show (if overGuard ths l c.virt = true then _ else _) = _
  by_cases ho : overGuard ths l c.virt = true
  · simp only [ho, if_true]; rfl
  · simp only [ho]
    simp only [Bool.false_eq_true, if_false]
    unfold Cpu.withVals uniq runOf actOf boundOf
    generalize List.filter (fun t : Thread => decide (t.state = ThState.running)) _ = r
    generalize List.filter (fun t : Thread => t.state.isActive) _ = a
    rcases r with _ | ⟨t, _ | ⟨t', r⟩⟩ <;> rfl

def Thread.key (t : Thread) : ThState × Int × Int × Nat := (t.state, t.tid, t.pid, t.gindex)

/-- `cpu_update` reads of the listed threads only state / tid / pid / gindex, and not the order in
    which they are listed: all it computes is the same for two lists with `SameKeys`. -/
def SameKeys (b b' : List Thread) : Prop := (b.map Thread.key).Perm (b'.map Thread.key)

def uniqK (l : List (ThState × Int × Int × Nat)) (f : ThState × Int × Int × Nat → Int) : Value :=
  match l with
  | [k] => .int (f k)
  | _ => .null

theorem uniq_key (l : List Thread) (f : ThState × Int × Int × Nat → Int) :
    uniq l (fun t => f t.key) = uniqK (l.map Thread.key) f := by
  rcases l with _ | ⟨t, _ | ⟨t', r⟩⟩ <;> rfl

theorem uniqK_perm {l l' : List (ThState × Int × Int × Nat)} (h : l.Perm l') (f : ThState × Int × Int × Nat → Int) :
    uniqK l f = uniqK l' f := by
  rcases l with _ | ⟨t, _ | ⟨t', r⟩⟩
  · rw [List.nil_perm.mp h]
  · rw [List.singleton_perm.mp h]
  · have hl := h.length_eq
    rcases l' with _ | ⟨u, _ | ⟨u', r'⟩⟩
    · simp at hl
    · simp at hl
    · rfl

theorem runOf_key (b : List Thread) :
    (runOf b).map Thread.key = (b.map Thread.key).filter (fun k => k.1 = .running) := by
  unfold runOf; rw [List.filter_map]; rfl

theorem actOf_key (b : List Thread) :
    (actOf b).map Thread.key = (b.map Thread.key).filter (fun k => k.1.isActive) := by
  unfold actOf; rw [List.filter_map]; rfl

theorem SameKeys.vals {b b' : List Thread} (h : SameKeys b b') :
    (runOf b).length = (runOf b').length ∧
    uniq (runOf b) (·.pid) = uniq (runOf b') (·.pid) ∧
    uniq (runOf b) (·.tid) = uniq (runOf b') (·.tid) ∧
    uniq (runOf b) (fun t => (t.gindex : Int)) = uniq (runOf b') (fun t => (t.gindex : Int)) ∧
    uniq (actOf b) (fun t => (t.gindex : Int)) = uniq (actOf b') (fun t => (t.gindex : Int)) := by
  have hr : SameKeys (runOf b) (runOf b') := by unfold SameKeys; rw [runOf_key, runOf_key]; exact h.filter _
  have ha : SameKeys (actOf b) (actOf b') := by unfold SameKeys; rw [actOf_key, actOf_key]; exact h.filter _
  have key : ∀ {l l' : List Thread} (f : ThState × Int × Int × Nat → Int), SameKeys l l' →
      uniq l (fun t => f t.key) = uniq l' (fun t => f t.key) :=
    fun f h => by rw [uniq_key, uniq_key, uniqK_perm h]
  refine ⟨?_, key (fun k => k.2.2.1) hr, key (fun k => k.2.1) hr, key (fun k => (k.2.2.2 : Int)) hr,
    key (fun k => (k.2.2.2 : Int)) ha⟩
  rw [← List.length_map (f := Thread.key), hr.length_eq, List.length_map]

theorem SameKeys.withVals (c : Cpu) {b b' : List Thread} (h : SameKeys b b') : c.withVals b = c.withVals b' := by
  obtain ⟨e1, e2, e3, e4, e5⟩ := h.vals
  unfold Cpu.withVals
  rw [e1, e2, e3, e4, e5]

theorem boundOf_key_congr {ths ths2 : List Thread} (l : List Nat)
    (h : ∀ i ∈ l, (ths[i]?).map Thread.key = (ths2[i]?).map Thread.key) :
    (boundOf ths l).map Thread.key = (boundOf ths2 l).map Thread.key := by
  unfold boundOf
  rw [List.map_filterMap, List.map_filterMap]
  induction l with
  | nil => rfl
  | cons i l ih =>
    rw [List.filterMap_cons, List.filterMap_cons, h i List.mem_cons_self,
      ih fun j hj => h j (List.mem_cons_of_mem _ hj)]

theorem key_agree_set {ths : List Thread} {ti : Nat} {t t' : Thread} (ht : ths[ti]? = some t)
    (hk : t'.key = t.key) (i : Nat) :
    (ths[i]?).map Thread.key = ((ths.set ti t')[i]?).map Thread.key := by
  by_cases hi : ti = i
  · subst hi
    rw [List.getElem?_set_self (List.getElem?_eq_some_iff.mp ht).1, ht]
    simp [hk]
  · rw [List.getElem?_set_ne hi]

/-- the threads whose `cpu` field names CPU `g` (the specification's notion of "bound to") -/
def onCpu (ths : List Thread) (g : Nat) : List Thread := ths.filter (fun t => t.cpu == some g)

/-- `l` is the thread list of CPU `g`: without repetition, the indices of the threads of `ths` whose
    `cpu` is `g` -/
structure Membership (ths : List Thread) (g : Nat) (l : List Nat) : Prop where
  nodup : l.Nodup
  mem : ∀ i, i ∈ l ↔ ∃ t, ths[i]? = some t ∧ t.cpu = some g

theorem Membership.mem_iff {ths : List Thread} {g ti : Nat} {l : List Nat} {t : Thread}
    (h : Membership ths g l) (ht : ths[ti]? = some t) : ti ∈ l ↔ t.cpu = some g := by
  rw [h.mem, ht]
  exact ⟨fun ⟨_, hu, hc⟩ => by cases hu; exact hc, fun hc => ⟨t, rfl, hc⟩⟩

theorem boundOf_perm_onCpu {ths : List Thread} {g : Nat} {l : List Nat} (h : Membership ths g l) :
    (boundOf ths l).Perm (onCpu ths g) := by
  apply filterMap_perm_filter (fun t => t.cpu == some g) ths l h.nodup
  intro i; rw [h.mem]; simp

/-- what `cpu_update` is given against what the specification speaks of: the listed threads of a
    table that agrees (in what is read) with `ths2` on the list, and the threads of `ths2` bound to `g` -/
theorem boundOf_sameKeys {ths ths2 : List Thread} {g : Nat} {l : List Nat}
    (hagree : ∀ i ∈ l, (ths[i]?).map Thread.key = (ths2[i]?).map Thread.key)
    (hm : Membership ths2 g l) : SameKeys (boundOf ths l) (onCpu ths2 g) := by
  unfold SameKeys
  rw [boundOf_key_congr l hagree]
  exact (boundOf_perm_onCpu hm).map _

end Ovni.Emu
