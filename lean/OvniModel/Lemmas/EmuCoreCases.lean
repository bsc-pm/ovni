import OvniModel.Emu.Core
import OvniModel.Emu.TaskHook
import OvniModel.Emu.MarkEmu
import OvniModel.Lemmas.ExceptLemmas

/-
  Inversion lemmas for the handlers of `Emu/Core.lean` and the two hooks: what a
  successful call is made of.  An invariant of the handlers is proved by
  `obtain … := f_cases h` and one lemma per case, without unfolding the handler.

  The handlers are `do` blocks: a bind is taken apart by `bind_ok`, a guard
  (`if c then throw x`; rest) by `gate_eq_ok`, a lookup (`let some a := o | throw x`)
  by `thread_ok` / `cpu_ok` / `nat_ok`;
  `if c then throw x; let a ← y; pure (k a)` in one step by `guard_bind_ok`.
-/
namespace Ovni.Emu

theorem ok_bind {α β} (x : α) (f : α → Except Err β) : (Except.ok x >>= f) = f x := rfl

/- A lookup that throws on `none`: the handlers' `let some a := o | throw err`.  One lemma per
   element type: the `match` is compiled to a matcher for that type, and unification does not
   unfold a matcher whose discriminant is a variable, so a lemma over `Option α` would not apply. -/

theorem thread_ok {β : Type} {o : Option Thread} {err : Err} {f : Thread → Except Err β} {b : β}
    (h : (match o with | some t => f t | _ => throw err) = Except.ok b) : ∃ t, o = some t ∧ f t = .ok b := by
  cases o with
  | none => cases h
  | some t => exact ⟨t, rfl, h⟩

theorem cpu_ok {β : Type} {o : Option Cpu} {err : Err} {f : Cpu → Except Err β} {b : β}
    (h : (match o with | some c => f c | _ => throw err) = Except.ok b) : ∃ c, o = some c ∧ f c = .ok b := by
  cases o with
  | none => cases h
  | some c => exact ⟨c, rfl, h⟩

theorem nat_ok {β : Type} {o : Option Nat} {err : Err} {f : Nat → Except Err β} {b : β}
    (h : (match o with | some n => f n | _ => throw err) = Except.ok b) : ∃ n, o = some n ∧ f n = .ok b := by
  cases o with
  | none => cases h
  | some n => exact ⟨n, rfl, h⟩

theorem Thread.setState_cases {t t' : Thread} {st : ThState} (h : t.setState st = .ok t') :
    t.cpu ≠ none ∧ ∃ cs ct, t.chState.set (.int st.code) = .ok cs ∧
      t.chTid.set (if st.isActive then .int t.tid else .null) = .ok ct ∧
      t' = { t with state := st, chState := cs, chTid := ct } := by
  obtain ⟨hc, h⟩ := gate_eq_ok.mp h
  obtain ⟨cs, hcs, h⟩ := bind_ok h
  obtain ⟨ct, hct, h⟩ := bind_ok h
  cases h
  exact ⟨by simpa using hc, cs, ct, hcs, hct, rfl⟩

theorem Thread.setCpu_cases {t t' : Thread} {ci : Nat} (h : t.setCpu ci = .ok t') :
    t.cpu = none ∧ ∃ c, t.chCpu.set (.int ci) = .ok c ∧ t' = { t with cpu := some ci, chCpu := c } := by
  obtain ⟨hg, r⟩ := guard_bind_ok h
  exact ⟨by simpa using hg, r⟩

theorem Thread.unsetCpu_cases {t t' : Thread} (h : t.unsetCpu = .ok t') :
    t.cpu ≠ none ∧ ∃ c, t.chCpu.set .null = .ok c ∧ t' = { t with cpu := none, chCpu := c } := by
  obtain ⟨hg, r⟩ := guard_bind_ok h
  exact ⟨by simpa using hg, r⟩

theorem Thread.migrateCpu_cases {t t' : Thread} {ci : Nat} (h : t.migrateCpu ci = .ok t') :
    t.cpu ≠ none ∧ ∃ c, t.chCpu.set (.int ci) = .ok c ∧ t' = { t with cpu := some ci, chCpu := c } := by
  obtain ⟨hg, r⟩ := guard_bind_ok h
  exact ⟨by simpa using hg, r⟩

theorem cpuUpdate_cases {ths : List Thread} {c c' : Cpu} (h : cpuUpdate ths c = .ok c') :
    c'.gindex = c.gindex ∧ c'.threads = c.threads ∧
    (∃ v, c.chTid.set v = .ok c'.chTid) ∧ (∃ v, c.chPid.set v = .ok c'.chPid) ∧
    (∃ v, c.chNrun.set v = .ok c'.chNrun) ∧ (∃ v, c.chThact.set v = .ok c'.chThact) ∧
    ∃ v, c.chThrun.set v = .ok c'.chThrun ∧
      (v = .null ∨ ∃ g t, g ∈ c.threads ∧ ths[g]? = some t ∧ v = .int t.gindex) := by
  unfold cpuUpdate at h
  extract_lets bound running active gact at h
  obtain ⟨_, h⟩ := gate_eq_ok.mp h
  have hrun : ∀ t ∈ running, ∃ g, g ∈ c.threads ∧ ths[g]? = some t := fun t ht =>
    List.mem_filterMap.mp (List.mem_filter.mp ht).1
  revert h hrun
  rcases running with _ | ⟨t, _ | ⟨t2, r⟩⟩ <;> intro h hrun
  all_goals
    obtain ⟨chTid, hTid, h⟩ := bind_ok h
    obtain ⟨chPid, hPid, h⟩ := bind_ok h
    obtain ⟨chThrun, hThrun, h⟩ := bind_ok h
    obtain ⟨chNrun, hNrun, h⟩ := bind_ok h
    obtain ⟨chThact, hThact, h⟩ := bind_ok h
    cases h
    refine ⟨rfl, rfl, ⟨_, hTid⟩, ⟨_, hPid⟩, ⟨_, hNrun⟩, ⟨_, hThact⟩, _, hThrun, ?_⟩
  · exact .inl rfl
  · obtain ⟨g, hg, hgt⟩ := hrun t (List.mem_singleton.mpr rfl)
    exact .inr ⟨g, t, hg, hgt, rfl⟩
  · exact .inl rfl

theorem cpuAddThread_cases {e e' : Emu} {ci ti : Nat} (h : cpuAddThread e ci ti = .ok e') :
    ∃ c c', e.cpus[ci]? = some c ∧ c.threads.contains ti = false ∧
      cpuUpdate e.threads { c with threads := c.threads ++ [ti] } = .ok c' ∧ e' = e.setCpu c' := by
  unfold cpuAddThread at h
  obtain ⟨c, hc, h⟩ := cpu_ok h
  obtain ⟨hin, c', hu, rfl⟩ := guard_bind_ok h
  exact ⟨c, c', hc, by simpa using hin, hu, rfl⟩

theorem cpuRemoveThread_cases {e e' : Emu} {ci ti : Nat} (h : cpuRemoveThread e ci ti = .ok e') :
    ∃ c c', e.cpus[ci]? = some c ∧ c.threads.contains ti = true ∧
      cpuUpdate e.threads { c with threads := c.threads.erase ti } = .ok c' ∧ e' = e.setCpu c' := by
  unfold cpuRemoveThread at h
  obtain ⟨c, hc, h⟩ := cpu_ok h
  obtain ⟨hin, c', hu, rfl⟩ := guard_bind_ok h
  exact ⟨c, c', hc, by simpa using hin, hu, rfl⟩

theorem cpuRefresh_cases {e e' : Emu} {ci : Nat} (h : cpuRefresh e ci = .ok e') :
    ∃ c c', e.cpus[ci]? = some c ∧ cpuUpdate e.threads c = .ok c' ∧ e' = e.setCpu c' := by
  unfold cpuRefresh at h
  obtain ⟨c, hc, h⟩ := cpu_ok h
  obtain ⟨c', hu, h⟩ := bind_ok h
  cases h
  exact ⟨c, c', hc, hu, rfl⟩

theorem preThreadExecute_cases {e e' : Emu} {ti : Nat} {p : List Nat} (h : preThreadExecute e ti p = .ok e') :
    ∃ t ci t1 t2, e.threads[ti]? = some t ∧ t.state ≠ .running ∧ ¬ p.length < 4 ∧
      loomGetCpu e t.loom (i32At p 0) = some ci ∧ t.setCpu ci = .ok t1 ∧ t1.setState .running = .ok t2 ∧
      cpuAddThread (e.setThread t2) ci ti = .ok e' := by
  unfold preThreadExecute at h
  obtain ⟨t, ht, h⟩ := thread_ok h
  obtain ⟨hst, h⟩ := gate_eq_ok.mp h
  obtain ⟨hlen, h⟩ := gate_eq_ok.mp h
  obtain ⟨ci, hci, h⟩ := nat_ok h
  obtain ⟨t1, h1, h⟩ := bind_ok h
  obtain ⟨t2, h2, h⟩ := bind_ok h
  exact ⟨t, ci, t1, t2, ht, hst, hlen, hci, h1, h2, h⟩

theorem preThreadEnd_cases {e e' : Emu} {ti : Nat} (h : preThreadEnd e ti = .ok e') :
    ∃ t t1 ci e1 t2, e.threads[ti]? = some t ∧ (t.state = .running ∨ t.state = .cooling) ∧
      t.setState .dead = .ok t1 ∧ t1.cpu = some ci ∧ cpuRemoveThread (e.setThread t1) ci ti = .ok e1 ∧
      t1.unsetCpu = .ok t2 ∧ e' = e1.setThread t2 := by
  unfold preThreadEnd at h
  obtain ⟨t, ht, h⟩ := thread_ok h
  obtain ⟨hst, h⟩ := gate_eq_ok.mp h
  obtain ⟨t1, h1, h⟩ := bind_ok h
  obtain ⟨ci, hci, h⟩ := nat_ok h
  obtain ⟨e1, hrm, h⟩ := bind_ok h
  obtain ⟨t2, h2, h⟩ := bind_ok h
  cases h
  refine ⟨t, t1, ci, e1, t2, ht, ?_, h1, hci, hrm, h2, rfl⟩
  cases hs : t.state <;> simp [hs] at hst ⊢

theorem preThreadChange_cases {e e' : Emu} {ti : Nat} {ok : ThState → Bool} {st : ThState}
    (h : preThreadChange e ti ok st = .ok e') :
    ∃ t t1 ci, e.threads[ti]? = some t ∧ ok t.state = true ∧ t.setState st = .ok t1 ∧ t1.cpu = some ci ∧
      cpuRefresh (e.setThread t1) ci = .ok e' := by
  unfold preThreadChange at h
  obtain ⟨t, ht, h⟩ := thread_ok h
  obtain ⟨hst, h⟩ := gate_eq_ok.mp h
  obtain ⟨t1, h1, h⟩ := bind_ok h
  obtain ⟨ci, hci, h⟩ := nat_ok h
  exact ⟨t, t1, ci, ht, by simpa using hst, h1, hci, h⟩

/-- Which handler ran, not with which guard and target state: the four `preThreadChange` calls
    are given as `∃ ok st`. -/
theorem preThread_cases {e e' : Emu} {ti v : Nat} {p : List Nat} (h : preThread e ti v p = .ok e') :
    e' = e ∨ preThreadExecute e ti p = .ok e' ∨ preThreadEnd e ti = .ok e' ∨
      ∃ ok st, preThreadChange e ti ok st = .ok e' := by
  unfold preThread at h
  rcases ite_eq_iff.mp h with ⟨_, h⟩ | ⟨_, h⟩
  · cases h; exact .inl rfl
  rcases ite_eq_iff.mp h with ⟨_, h⟩ | ⟨_, h⟩
  · exact .inr (.inl h)
  rcases ite_eq_iff.mp h with ⟨_, h⟩ | ⟨_, h⟩
  · exact .inr (.inr (.inl h))
  rcases ite_eq_iff.mp h with ⟨_, h⟩ | ⟨_, h⟩
  · exact .inr (.inr (.inr ⟨_, _, h⟩))
  rcases ite_eq_iff.mp h with ⟨_, h⟩ | ⟨_, h⟩
  · exact .inr (.inr (.inr ⟨_, _, h⟩))
  rcases ite_eq_iff.mp h with ⟨_, h⟩ | ⟨_, h⟩
  · exact .inr (.inr (.inr ⟨_, _, h⟩))
  rcases ite_eq_iff.mp h with ⟨_, h⟩ | ⟨_, h⟩
  · exact .inr (.inr (.inr ⟨_, _, h⟩))
  · cases h

theorem migrate_cases {e e' : Emu} {ti fr to : Nat} (h : migrate e ti fr to = .ok e') :
    ∃ e1 e2 t t1, cpuRemoveThread e fr ti = .ok e1 ∧ cpuAddThread e1 to ti = .ok e2 ∧
      e2.threads[ti]? = some t ∧ t.migrateCpu to = .ok t1 ∧ e' = e2.setThread t1 := by
  unfold migrate at h
  obtain ⟨e1, hrm, h⟩ := bind_ok h
  obtain ⟨e2, hadd, h⟩ := bind_ok h
  obtain ⟨t, ht, h⟩ := thread_ok h
  obtain ⟨t1, h1, h⟩ := bind_ok h
  cases h
  exact ⟨e1, e2, t, t1, hrm, hadd, ht, h1, rfl⟩

theorem preAffinitySet_cases {e e' : Emu} {ti : Nat} {p : List Nat} (h : preAffinitySet e ti p = .ok e') :
    ∃ t cur ci, e.threads[ti]? = some t ∧ t.cpu = some cur ∧ t.state.isActive = true ∧ p.length = 4 ∧
      loomGetCpu e t.loom (i32At p 0) = some ci ∧
      (cur = ci ∧ e' = e ∨ cur ≠ ci ∧ migrate e ti cur ci = .ok e') := by
  unfold preAffinitySet at h
  obtain ⟨t, ht, h⟩ := thread_ok h
  obtain ⟨cur, hcur, h⟩ := nat_ok h
  obtain ⟨hact, h⟩ := gate_eq_ok.mp h
  obtain ⟨hlen, h⟩ := gate_eq_ok.mp h
  obtain ⟨ci, hci, h⟩ := nat_ok h
  refine ⟨t, cur, ci, ht, hcur, by simpa using hact, by simpa using hlen, hci, ?_⟩
  rcases ite_eq_iff.mp h with ⟨hc, h⟩ | ⟨hc, h⟩
  · cases h; exact .inl ⟨hc, rfl⟩
  · exact .inr ⟨hc, h⟩

theorem preAffinityRemote_cases {e e' : Emu} {ti : Nat} {p : List Nat} (h : preAffinityRemote e ti p = .ok e') :
    ∃ t r cur ci, e.threads[ti]? = some t ∧ p.length = 8 ∧ findRemote e t (i32At p 1) = some r ∧
      r.state ≠ .dead ∧ r.state ≠ .unknown ∧ r.cpu = some cur ∧
      loomGetCpu e t.loom (i32At p 0) = some ci ∧ migrate e r.gindex cur ci = .ok e' := by
  unfold preAffinityRemote at h
  obtain ⟨t, ht, h⟩ := thread_ok h
  obtain ⟨hlen, h⟩ := gate_eq_ok.mp h
  obtain ⟨r, hr, h⟩ := thread_ok h
  obtain ⟨hd, h⟩ := gate_eq_ok.mp h
  obtain ⟨hu, h⟩ := gate_eq_ok.mp h
  obtain ⟨cur, hcur, h⟩ := nat_ok h
  obtain ⟨ci, hci, h⟩ := nat_ok h
  exact ⟨t, r, cur, ci, ht, by simpa using hlen, hr, hd, hu, hcur, hci, h⟩

theorem withChan_cases {e e' : Emu} {ti m i : Nat} {f : Chan → Except Err Chan}
    (h : withChan e ti m i f = .ok e') :
    ∃ t cs c c', e.threads[ti]? = some t ∧ t.getChans m = some cs ∧ cs[i]? = some c ∧ f c = .ok c' ∧
      e' = e.setThread (t.setChans m (cs.set i c')) := by
  unfold withChan at h
  obtain ⟨t, ht, h⟩ := thread_ok h
  cases hcs : t.getChans m with
  | none => rw [hcs] at h; cases h
  | some cs =>
    rw [hcs] at h
    dsimp -zeta only at h
    cases hc : cs[i]? with
    | none => rw [hc] at h; cases h
    | some c =>
      rw [hc] at h
      obtain ⟨c', hf, h⟩ := bind_ok h
      cases h
      exact ⟨t, cs, c, c', ht, hcs, hc, hf, rfl⟩

theorem preFlush_cases {e e' : Emu} {ti v : Nat} (h : preFlush e ti v = .ok e') :
    ∃ x, withChan e ti 79 0 (·.set x) = .ok e' := by
  unfold preFlush at h
  rcases ite_eq_iff.mp h with ⟨_, h⟩ | ⟨_, h⟩
  · exact ⟨_, h⟩
  rcases ite_eq_iff.mp h with ⟨_, h⟩ | ⟨_, h⟩
  · exact ⟨_, h⟩
  · cases h

theorem ovniEvent_cases {e e' : Emu} {ti c v : Nat} {p : List Nat}
    {mh : Emu → Nat → Nat → List Nat → Except Err Emu} (h : ovniEvent e ti c v p mh = .ok e') :
    (∃ t, e.threads[ti]? = some t ∧ t.outOfCpu = false) ∧
    (e' = e ∨ preThread e ti v p = .ok e' ∨ preAffinitySet e ti p = .ok e' ∨
      preAffinityRemote e ti p = .ok e' ∨ preFlush e ti v = .ok e' ∨ mh e ti v p = .ok e') := by
  unfold ovniEvent at h
  obtain ⟨t, ht, h⟩ := thread_ok h
  obtain ⟨ho, h⟩ := gate_eq_ok.mp h
  refine ⟨⟨t, ht, by simpa using ho⟩, ?_⟩
  dsimp only at h
  rcases ite_eq_iff.mp h with ⟨_, h⟩ | ⟨_, h⟩
  · exact .inr (.inl h)
  rcases ite_eq_iff.mp h with ⟨_, h⟩ | ⟨_, h⟩
  · rcases ite_eq_iff.mp h with ⟨_, h⟩ | ⟨_, h⟩
    · exact .inr (.inr (.inl h))
    rcases ite_eq_iff.mp h with ⟨_, h⟩ | ⟨_, h⟩
    · exact .inr (.inr (.inr (.inl h)))
    · cases h
  rcases ite_eq_iff.mp h with ⟨_, h⟩ | ⟨_, h⟩
  · cases h; exact .inl rfl
  rcases ite_eq_iff.mp h with ⟨_, h⟩ | ⟨_, h⟩
  · rcases ite_eq_iff.mp h with ⟨_, h⟩ | ⟨_, h⟩
    · cases h; exact .inl rfl
    · cases h
  rcases ite_eq_iff.mp h with ⟨_, h⟩ | ⟨_, h⟩
  · exact .inr (.inr (.inr (.inr (.inl h))))
  rcases ite_eq_iff.mp h with ⟨_, h⟩ | ⟨_, h⟩
  · cases h; exact .inl rfl
  rcases ite_eq_iff.mp h with ⟨_, h⟩ | ⟨_, h⟩
  · exact .inr (.inr (.inr (.inr (.inr h))))
  · cases h

/-- the channel operation a `TaskWr` stands for; `n` is `maxStack` -/
def wrOp (n : Nat) : TaskWr → Chan → Except Err Chan
  | .set _ v => (·.set v)
  | .push _ v => (Chan.push n · v)
  | .pop _ v => (·.pop v)

/-- A table event: the guards, the row, at most one channel operation (the
    row's action on the row's channel), then `is_out_of_cpu` if the model has a
    row for the event. -/
theorem tableEvent_cases {e e' : Emu} {ti c v : Nat} {m : ModelSpec} (h : tableEvent e ti m c v = .ok e') :
    ∃ t rc rv ch act st e1, e.threads[ti]? = some t ∧ stateGuard m t = .ok () ∧
      (∀ cs, m.cats = some cs → cs.contains c = true) ∧
      m.table.find? (fun r => r.1 == c && r.2.1 == v) = some (rc, rv, ch, act, st) ∧
      (act = 4 ∧ e1 = e ∨
        ∃ w, (act = 1 ∧ w = .push ch (.int st) ∨ act = 2 ∧ w = .pop ch (.int st) ∨ act = 3 ∧ w = .set ch (.int st)) ∧
          withChan e ti m.char ch (wrOp e.maxStack w) = .ok e1) ∧
      (m.outOfCpu.find? (fun r => r.1 == c && r.2.1 == v) = none ∧ e' = e1 ∨
        ∃ rc' rv' b t1, m.outOfCpu.find? (fun r => r.1 == c && r.2.1 == v) = some (rc', rv', b) ∧
          e1.threads[ti]? = some t1 ∧ e' = e1.setThread { t1 with outOfCpu := b }) := by
  unfold tableEvent at h
  obtain ⟨t, ht, h⟩ := thread_ok h
  obtain ⟨⟨⟩, hg, h⟩ := bind_ok h
  extract_lets jp2 jp at h
  have hcats : (∀ cs, m.cats = some cs → cs.contains c = true) ∧ jp () = .ok e' := by
    cases hcs : m.cats with
    | none => rw [hcs] at h; exact ⟨fun _ hq => (nomatch hq), h⟩
    | some cs =>
      rw [hcs] at h
      rcases ite_eq_iff.mp h with ⟨_, h⟩ | ⟨hc, h⟩
      · cases h
      · exact ⟨fun _ hq => (by cases hq; simpa using hc), h⟩
  obtain ⟨hcats, h⟩ := hcats
  dsimp -zeta only [jp] at h
  cases hrow : m.table.find? (fun r => r.1 == c && r.2.1 == v) with
  | none => rw [hrow] at h; cases h
  | some row =>
    obtain ⟨rc, rv, ch, act, st⟩ := row
    rw [hrow] at h
    dsimp only at h
    have hooc : ∀ e1, jp2 e1 = .ok e' →
        (m.outOfCpu.find? (fun r => r.1 == c && r.2.1 == v) = none ∧ e' = e1 ∨
          ∃ rc' rv' b t1, m.outOfCpu.find? (fun r => r.1 == c && r.2.1 == v) = some (rc', rv', b) ∧
            e1.threads[ti]? = some t1 ∧ e' = e1.setThread { t1 with outOfCpu := b }) := by
      intro e1 h
      dsimp only [jp2] at h
      cases hooc : m.outOfCpu.find? (fun r => r.1 == c && r.2.1 == v) with
      | none => rw [hooc] at h; cases h; exact .inl ⟨rfl, rfl⟩
      | some r =>
        obtain ⟨rc', rv', b⟩ := r
        rw [hooc] at h
        dsimp only at h
        cases ht1 : e1.threads[ti]? with
        | none => rw [ht1] at h; cases h
        | some t1 => rw [ht1] at h; cases h; exact .inr ⟨rc', rv', b, t1, rfl, rfl, rfl⟩
    have hop : ∃ e1, (act = 4 ∧ e1 = e ∨ ∃ w, (act = 1 ∧ w = .push ch (.int st) ∨ act = 2 ∧ w = .pop ch (.int st) ∨
        act = 3 ∧ w = .set ch (.int st)) ∧ withChan e ti m.char ch (wrOp e.maxStack w) = .ok e1) ∧
        jp2 e1 = .ok e' := by
      rcases ite_eq_iff.mp h with ⟨ha, h⟩ | ⟨_, h⟩
      · obtain ⟨e1, h1, h⟩ := bind_ok h
        exact ⟨e1, .inr ⟨_, .inl ⟨ha, rfl⟩, h1⟩, h⟩
      rcases ite_eq_iff.mp h with ⟨ha, h⟩ | ⟨_, h⟩
      · obtain ⟨e1, h1, h⟩ := bind_ok h
        exact ⟨e1, .inr ⟨_, .inr (.inl ⟨ha, rfl⟩), h1⟩, h⟩
      rcases ite_eq_iff.mp h with ⟨ha, h⟩ | ⟨_, h⟩
      · obtain ⟨e1, h1, h⟩ := bind_ok h
        exact ⟨e1, .inr ⟨_, .inr (.inr ⟨ha, rfl⟩), h1⟩, h⟩
      rcases ite_eq_iff.mp h with ⟨ha, h⟩ | ⟨_, h⟩
      · exact ⟨e, .inl ⟨ha, rfl⟩, h⟩
      · cases h
    obtain ⟨e1, h1, h⟩ := hop
    exact ⟨t, rc, rv, ch, act, st, e1, ht, hg, hcats, rfl, h1, hooc e1 h⟩

/-- Without `is_out_of_cpu` rows: all models but the kernel model. -/
theorem tableEvent_cases_noOoc {e e' : Emu} {ti c v : Nat} {m : ModelSpec} (hooc0 : m.outOfCpu = [])
    (h : tableEvent e ti m c v = .ok e') :
    ∃ rc rv ch act st, m.table.find? (fun r => r.1 == c && r.2.1 == v) = some (rc, rv, ch, act, st) ∧
      (act = 4 ∧ e' = e ∨
        ∃ w, (act = 1 ∧ w = .push ch (.int st) ∨ act = 2 ∧ w = .pop ch (.int st) ∨ act = 3 ∧ w = .set ch (.int st)) ∧
          withChan e ti m.char ch (wrOp e.maxStack w) = .ok e') := by
  obtain ⟨_, rc, rv, ch, act, st, e1, _, _, _, hrow, hop, hooc⟩ := tableEvent_cases h
  rw [hooc0, List.find?_nil] at hooc
  obtain ⟨_, rfl⟩ | ⟨_, _, _, _, hq, _⟩ := hooc
  · exact ⟨rc, rv, ch, act, st, hrow, hop⟩
  · cases hq

theorem findSpec_char {m : Nat} {spec : ModelSpec} (h : findSpec m = some spec) : spec.char = m := by
  unfold findSpec at h
  have := List.find?_some h
  exact eq_of_beq this

theorem modelEvent_cases {e e' : Emu} {ti m c v : Nat} {p : List Nat}
    {th mh : Emu → Nat → Nat → Nat → List Nat → Except Err Emu} (h : modelEvent e ti m c v p th mh = .ok e') :
    ∃ spec, findSpec m = some spec ∧ e.enabled.contains m = true ∧
      (m = 79 ∧ ovniEvent e ti c v p (fun e ti v p => mh e ti c v p) = .ok e' ∨
       m ≠ 79 ∧ spec.taskCats.contains c = true ∧
         (∃ t, e.threads[ti]? = some t ∧ stateGuard spec t = .ok ()) ∧ th e ti m c p = .ok e' ∨
       m ≠ 79 ∧ spec.taskCats.contains c = false ∧ tableEvent e ti spec c v = .ok e') := by
  unfold modelEvent at h
  cases hs : findSpec m with
  | none => rw [hs] at h; cases h
  | some spec =>
    rw [hs] at h
    obtain ⟨hen, h⟩ := gate_eq_ok.mp h
    refine ⟨spec, rfl, by simpa using hen, ?_⟩
    dsimp only at h
    rcases ite_eq_iff.mp h with ⟨h79, h⟩ | ⟨h79, h⟩
    · exact .inl ⟨h79, h⟩
    rcases ite_eq_iff.mp h with ⟨hcat, h⟩ | ⟨hcat, h⟩
    · obtain ⟨t, ht, h⟩ := thread_ok h
      obtain ⟨⟨⟩, hg, h⟩ := bind_ok h
      exact .inr (.inl ⟨h79, hcat, ⟨t, ht, hg⟩, h⟩)
    · exact .inr (.inr ⟨h79, by simpa using hcat, h⟩)

theorem applyWrites_cons (e : Emu) (ti mc : Nat) (w : TaskWr) (ws : List TaskWr) :
    applyWrites e ti mc (w :: ws) =
      withChan e ti mc w.chan (wrOp e.maxStack w) >>= fun e1 => applyWrites e1 ti mc ws := by
  conv => lhs; unfold applyWrites
  cases w <;> (dsimp only [wrOp, TaskWr.chan]; generalize withChan e ti mc _ _ = x; cases x <;> rfl)

theorem applyWrites_cons_ok {e e' : Emu} {ti mc : Nat} {w : TaskWr} {ws : List TaskWr}
    (h : applyWrites e ti mc (w :: ws) = .ok e') :
    ∃ e1, withChan e ti mc w.chan (wrOp e.maxStack w) = .ok e1 ∧ applyWrites e1 ti mc ws = .ok e' :=
  bind_ok (applyWrites_cons e ti mc w ws ▸ h)

/-- Only the three events of `pre_task` / `pre_type` pass the hook: the two that
    create write nothing, a state event (only of the hook's own thread) performs
    `taskWrites`. -/
theorem taskHook_cases {m : Ovni.Task.Model} {P : Ovni.Task.ProcInfo} {ε : Ovni.Task.Emu} {ev : Ovni.Task.Ev}
    {e e' : Emu} {ti mc a : Nat} {p : List Nat} (h : taskHook m P ε ev e ti mc a p = .ok e') :
    (∃ ε', Ovni.Task.Emu.step m P ε ev = .ok ε') ∧
    (((∃ ty hh f, ev = .typeCreate ty hh f) ∨ (∃ par t ty, ev = .taskCreate par t ty)) ∧ e' = e ∨
     ∃ tv t bp sys', ev = .task ti tv t bp ∧ Ovni.Task.updateTaskState m ε.sys ti tv t bp = .ok sys' ∧
       applyWrites e ti mc (taskWrites m P tv
         (Ovni.Task.expand tv (ε.sys.runningT ti).isSome (sys'.runningT ti).isSome) (sys'.runningT ti)) = .ok e') := by
  unfold taskHook at h
  cases hst : Ovni.Task.Emu.step m P ε ev with
  | error _ => rw [hst] at h; cases h
  | ok ε' =>
    rw [hst] at h
    refine ⟨⟨ε', rfl⟩, ?_⟩
    cases ev with
    | typeCreate ty hh f => cases h; exact .inl ⟨.inl ⟨ty, hh, f, rfl⟩, rfl⟩
    | taskCreate par t ty => cases h; exact .inl ⟨.inr ⟨par, t, ty, rfl⟩, rfl⟩
    | ssPush _ _ => cases h
    | ssPop _ _ => cases h
    | task th tv t bp =>
      dsimp only at h
      rcases ite_eq_iff.mp h with ⟨_, h⟩ | ⟨hth, h⟩
      · cases h
      have hth : th = ti := Classical.byContradiction hth
      subst hth
      cases hsys : Ovni.Task.updateTaskState m ε.sys th tv t bp with
      | error _ => rw [hsys] at h; cases h
      | ok sys' => rw [hsys] at h; exact .inr ⟨tv, t, bp, sys', rfl, hsys, h⟩

theorem markEvent_cases {tab : List MarkType} {e e' : Emu} {ti v : Nat} {p : List Nat}
    (h : markEvent tab e ti v p = .ok e') :
    p.length = 12 ∧ i64At p 0 ≠ 0 ∧ ∃ w, tab.findIdx? (·.type == i32At p 2) = some w.chan ∧
      withChan e ti markGroup w.chan (wrOp e.maxStack w) = .ok e' := by
  unfold markEvent at h
  obtain ⟨hlen, h⟩ := gate_eq_ok.mp h
  dsimp only at h
  cases hidx : tab.findIdx? (·.type == i32At p 2) with
  | none => rw [hidx] at h; cases h
  | some idx =>
    rw [hidx] at h
    obtain ⟨hval, h⟩ := gate_eq_ok.mp h
    refine ⟨Classical.not_not.mp hlen, hval, ?_⟩
    rcases ite_eq_iff.mp h with ⟨_, h⟩ | ⟨_, h⟩
    · exact ⟨.push idx _, rfl, h⟩
    rcases ite_eq_iff.mp h with ⟨_, h⟩ | ⟨_, h⟩
    · exact ⟨.pop idx _, rfl, h⟩
    rcases ite_eq_iff.mp h with ⟨_, h⟩ | ⟨_, h⟩
    · exact ⟨.set idx _, rfl, h⟩
    · cases h

end Ovni.Emu
