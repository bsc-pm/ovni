import OvniModel.Lemmas.EmuCoreSpec

/-
  Histories.  `emuStep` is the emulator part of `stepEv` (handlers, then flush);
  every accepted thread or affinity event of the ovni model takes a well-formed
  state to a well-formed state.
-/
namespace Ovni.Emu

/-- an event of the ovni model: thread index, category ('H' = 72, 'A' = 65), value, payload -/
abbrev OEv := Nat × Nat × Nat × List Nat

section
variable (th mh : Emu → Nat → Nat → Nat → List Nat → Except Err Emu)

def emuStep (e : Emu) (ev : OEv) : Except Err Emu :=
  match modelEvent e ev.1 79 ev.2.1 ev.2.2.1 ev.2.2.2 th mh with
  | .ok e1 => .ok e1.flushAll
  | .error err => .error err

theorem emuStep_ok_iff (e : Emu) (ev : OEv) (e' : Emu) :
    emuStep th mh e ev = .ok e' ↔
      ∃ e1, modelEvent e ev.1 79 ev.2.1 ev.2.2.1 ev.2.2.2 th mh = .ok e1 ∧ e' = e1.flushAll := by
  unfold emuStep
  cases modelEvent e ev.1 79 ev.2.1 ev.2.2.1 ev.2.2.2 th mh with
  | error err => exact ⟨fun h => (nomatch h), fun ⟨_, h, _⟩ => (nomatch h)⟩
  | ok e1 => exact ⟨fun h => ⟨e1, rfl, (Except.ok.inj h).symm⟩, fun ⟨_, h, h'⟩ => by cases h; rw [h']⟩

theorem stepEv_ok_iff {e : Emu} {ti m c v : Nat} {p : List Nat} {e' : Emu} {rs : List PrvRec} :
    stepEv e ti m c v p th mh = .ok (e', rs) ↔
      ∃ e1, modelEvent e ti m c v p th mh = .ok e1 ∧ records e e1 = .ok rs ∧ e' = e1.flushAll := by
  unfold stepEv
  constructor
  · intro h
    obtain ⟨e1, h1, h⟩ := bind_ok h
    obtain ⟨rs', h2, h⟩ := bind_ok h
    cases h
    exact ⟨e1, h1, h2, rfl⟩
  · rintro ⟨e1, h1, h2, rfl⟩
    rw [h1, ok_bind, h2, ok_bind]; rfl

theorem stepEv_emuStep {e : Emu} {ev : OEv} {e' : Emu} {rs : List PrvRec}
    (h : stepEv e ev.1 79 ev.2.1 ev.2.2.1 ev.2.2.2 th mh = .ok (e', rs)) : emuStep th mh e ev = .ok e' := by
  obtain ⟨e1, h1, _, h3⟩ := (stepEv_ok_iff th mh).mp h
  exact (emuStep_ok_iff th mh e ev e').mpr ⟨e1, h1, h3⟩

/-- thread life-cycle events OH{x,c,p,w,r,e} -/
def IsThreadEv (ev : OEv) : Prop := ev.2.1 = 72 ∧ ev.2.2.1 ∈ [120, 99, 112, 119, 114, 101]
/-- affinity events OAs / OAr -/
def IsAffinityEv (ev : OEv) : Prop := ev.2.1 = 65 ∧ (ev.2.2.1 = 115 ∨ ev.2.2.1 = 114)

/-- An accepted thread or affinity event assigns one thread `tj` (the event's own, for OAr the remote
    one) a logical value `x`, which may be its old value: an OAs to the CPU it already has. -/
theorem emuStep_sound {e e' : Emu} (h : WF e) (hen : e.enabled.contains 79 = true) {ev : OEv}
    (hk : IsThreadEv ev ∨ IsAffinityEv ev) (hs : emuStep th mh e ev = .ok e') :
    ∃ tj x, StepOK e tj x e' := by
  obtain ⟨e1, hm, rfl⟩ := (emuStep_ok_iff th mh e ev e').mp hs
  obtain ⟨ti, c, v, payload⟩ := ev
  obtain ⟨t, ht⟩ := modelEvent_ovni_thread th mh hm
  have ho := (h.th ti t ht).inCpu
  rw [modelEvent_ovni_eq th mh hen] at hm
  rcases hk with ⟨hc, hv⟩ | ⟨hc, hv⟩
  · simp only at hc hv hm; subst hc
    rw [ovniEvent_OH ht ho] at hm
    -- `preThread_verdict` wants the target CPU before `v = 120` is known: name it by what `loomGetCpu`
    -- returns, a default otherwise
    have hx : v = 120 → 4 ≤ payload.length ∧
        loomGetCpu e t.loom (i32At payload 0) =
          some ((loomGetCpu e t.loom (i32At payload 0)).getD 0) := by
      intro hv'; subst hv'
      obtain ⟨t', ci, _, _, ht', _, h1, h2, _⟩ :=
        preThreadExecute_cases (show preThreadExecute e ti payload = .ok e1 from hm)
      rw [ht] at ht'; cases ht'
      exact ⟨Nat.le_of_not_lt h1, by rw [h2]; rfl⟩
    obtain ⟨y, _, hy, _⟩ := (preThread_verdict h ht hv hx).ok hm
    exact ⟨ti, y, hy⟩
  · simp only at hc hv hm; subst hc
    rcases hv with rfl | rfl
    · rw [ovniEvent_OAs ht ho] at hm
      obtain ⟨t', _, ci, ht', _, _, h1, h2, _⟩ := preAffinitySet_cases hm
      rw [ht] at ht'; cases ht'
      obtain ⟨y, _, hy, _⟩ := (preAffinitySet_verdict h ht h1 h2).ok hm
      exact ⟨ti, y, hy⟩
    · rw [ovniEvent_OAr ht ho] at hm
      obtain ⟨t', r, _, ci, ht', h1, h2, _, _, _, h3, _⟩ := preAffinityRemote_cases hm
      rw [ht] at ht'; cases ht'
      obtain ⟨y, _, hy, _⟩ := (preAffinityRemote_verdict h ht h1 h2 h3).ok hm
      exact ⟨r.gindex, y, hy⟩

def emuRun (e : Emu) : List OEv → Except Err Emu
  | [] => .ok e
  | ev :: rest =>
    match emuStep th mh e ev with
    | .ok e' => emuRun e' rest
    | .error err => .error err

theorem emuRun_wf {e : Emu} (h : WF e) (hen : e.enabled.contains 79 = true) :
    ∀ (hist : List OEv) {e' : Emu}, (∀ ev ∈ hist, IsThreadEv ev ∨ IsAffinityEv ev) →
      emuRun th mh e hist = .ok e' → WF e' ∧ SameStatic e e'
  | [], e', _, hr => by
    have : e = e' := by unfold emuRun at hr; injection hr
    subst this; exact ⟨h, SameStatic.refl e⟩
  | ev :: rest, e', hk, hr => by
    unfold emuRun at hr
    cases hs : emuStep th mh e ev with
    | error err => rw [hs] at hr; cases hr
    | ok e2 =>
      rw [hs] at hr
      obtain ⟨tj, x, hso⟩ := emuStep_sound th mh h hen (hk ev List.mem_cons_self) hs
      have hen2 : e2.enabled.contains 79 = true := by rw [hso.static.enabled]; exact hen
      obtain ⟨hw, hst⟩ := emuRun_wf hso.wf hen2 rest (fun ev' h' => hk ev' (List.mem_cons_of_mem _ h')) hr
      exact ⟨hw, hso.static.trans hst⟩
end

end Ovni.Emu
