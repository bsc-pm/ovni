import OvniModel.Lemmas.EmuCore
import OvniModel.Emu.Emit

/-
  The Paraver records of a step.  `records` is `collect` over one call of `emit` per cell of the
  two .prv files (`records_eq`, `cells`): three raw channels and one view per model channel on
  every thread and CPU row.  A cell yields a record iff its value moved, and fails only on a
  forbidden 0; what `records` contains, when it succeeds and how it fails are read off the list
  of cells.  `records_split`: system rows and model rows apart.
-/
namespace Ovni.Emu
open Ovni.Generated

def okVal : Except Err (List PrvRec) → List PrvRec
  | .ok r => r
  | .error _ => []

/-- the records `emitView` gives for the registered channels, tagged with the registration index.
    It stands here, in the file of `okVal` and behind it, because its term names the matcher of
    `okVal` for the split on `.ok` / `.error` (Lean reuses a matcher within one file only); used from
    `Lemmas/EmitLines` on. -/
def Bay.viewLinesT (b : Bay) (regs : List PrvReg) (bF : Bay) : List (Nat × PrvRec) :=
  (List.range regs.length).flatMap fun j =>
    match regs[j]? with
    | some r =>
      (match emitView r.file r.row r.type r.flags (b.chan r.chan).cur (bF.chan r.chan).cur with
       | .ok m => m.map fun l => (j, l)
       | .error _ => [])
    | none => []

theorem collect_cons (x : Except Err (List PrvRec)) (xs : List (Except Err (List PrvRec))) :
    collect (x :: xs) =
      match x with
      | .error e => .error e
      | .ok r => match collect xs with
        | .error e => .error e
        | .ok rs => .ok (r ++ rs) := by
  cases x <;> rfl

theorem collect_spec : ∀ l : List (Except Err (List PrvRec)),
    ((∀ x ∈ l, ∃ r, x = .ok r) ∧ collect l = .ok (l.flatMap okVal)) ∨
    (∃ err, collect l = .error err ∧ .error err ∈ l)
  | [] => .inl ⟨fun _ h => (nomatch h), rfl⟩
  | .error err :: _ => .inr ⟨err, rfl, List.mem_cons_self⟩
  | .ok r :: l => by
    rcases collect_spec l with ⟨hall, h⟩ | ⟨err, h, hm⟩
    · refine .inl ⟨fun x hx => ?_, by rw [collect_cons, h]; rfl⟩
      rcases List.mem_cons.mp hx with rfl | hx
      · exact ⟨r, rfl⟩
      · exact hall x hx
    · exact .inr ⟨err, by rw [collect_cons, h], List.mem_cons_of_mem _ hm⟩

theorem collect_ok_iff {l : List (Except Err (List PrvRec))} {rs : List PrvRec} :
    collect l = .ok rs ↔ (∀ x ∈ l, ∃ r, x = .ok r) ∧ rs = l.flatMap okVal := by
  rcases collect_spec l with ⟨hall, hc⟩ | ⟨err, hc, hm⟩
  · rw [hc]
    exact ⟨fun h => ⟨hall, (Except.ok.inj h).symm⟩, fun h => h.2 ▸ rfl⟩
  · rw [hc]
    refine ⟨fun h => (nomatch h), fun h => ?_⟩
    obtain ⟨r, hr⟩ := h.1 _ hm
    cases hr

theorem collect_error {l : List (Except Err (List PrvRec))} {err : Err} (h : collect l = .error err) :
    ∃ x ∈ l, x = .error err := by
  rcases collect_spec l with ⟨_, hc⟩ | ⟨e', hc, hm⟩
  · cases hc.symm.trans h
  · cases hc.symm.trans h
    exact ⟨_, hm, rfl⟩

theorem collect_error_iff {l : List (Except Err (List PrvRec))} :
    (∃ e, collect l = .error e) ↔ ∃ x ∈ l, ∃ e, x = .error e := by
  constructor
  · rintro ⟨e, h⟩
    exact (collect_error h).imp fun _ hx => ⟨hx.1, e, hx.2⟩
  · rintro ⟨x, hx, e, rfl⟩
    cases h : collect l with
    | error e' => exact ⟨e', rfl⟩
    | ok rs => obtain ⟨r, hr⟩ := (collect_ok_iff.mp h).1 _ hx; cases hr

theorem collect_append (a b : List (Except Err (List PrvRec))) :
    collect (a ++ b) =
      match collect a with
      | .error e => .error e
      | .ok x => match collect b with
        | .error e => .error e
        | .ok y => .ok (x ++ y) := by
  induction a with
  | nil => rw [List.nil_append, collect]; cases collect b <;> rfl
  | cons x a ih =>
    rw [List.cons_append, collect_cons, collect_cons, ih]
    cases x <;> cases collect a <;> cases collect b <;> simp

/-- rows collected one by one: `records` is `collect` over `collect`s -/
theorem collect_collect {α} (F : α → List (Except Err (List PrvRec))) : ∀ (rows : List α),
    collect (rows.map fun r => collect (F r)) = collect (rows.flatMap F)
  | [] => rfl
  | r :: rows => by
    rw [List.map_cons, List.flatMap_cons, collect_append, ← collect_collect F rows, collect_cons]

theorem collect_perm_append {l a b : List (Except Err (List PrvRec))} (hp : l.Perm (a ++ b)) :
    (∀ rs, collect l = .ok rs → ∃ s v, collect a = .ok s ∧ collect b = .ok v ∧ rs.Perm (s ++ v)) ∧
    (∀ s v, collect a = .ok s → collect b = .ok v → ∃ rs, collect l = .ok rs ∧ rs.Perm (s ++ v)) ∧
    ((∃ e, collect l = .error e) ↔ ((∃ e, collect a = .error e) ∨ (∃ e, collect b = .error e))) := by
  have hall : (∀ x ∈ l, ∃ r, x = .ok r) ↔ (∀ x ∈ a, ∃ r, x = .ok r) ∧ (∀ x ∈ b, ∃ r, x = .ok r) := by
    simp only [hp.mem_iff, List.mem_append]
    exact ⟨fun h => ⟨fun x hx => h x (Or.inl hx), fun x hx => h x (Or.inr hx)⟩,
      fun h x hx => hx.elim (h.1 x) (h.2 x)⟩
  have hperm : (l.flatMap okVal).Perm (a.flatMap okVal ++ b.flatMap okVal) := by
    rw [← List.flatMap_append]; exact List.Perm.flatMap_right _ hp
  refine ⟨fun rs h => ?_, fun s v hs hv => ?_, ?_⟩
  · obtain ⟨h1, rfl⟩ := collect_ok_iff.mp h
    obtain ⟨ha, hb⟩ := hall.mp h1
    exact ⟨_, _, collect_ok_iff.mpr ⟨ha, rfl⟩, collect_ok_iff.mpr ⟨hb, rfl⟩, hperm⟩
  · obtain ⟨ha, rfl⟩ := collect_ok_iff.mp hs
    obtain ⟨hb, rfl⟩ := collect_ok_iff.mp hv
    exact ⟨_, collect_ok_iff.mpr ⟨hall.mpr ⟨ha, hb⟩, rfl⟩, hperm⟩
  · simp only [collect_error_iff, hp.mem_iff, List.mem_append]
    constructor
    · rintro ⟨x, hx | hx, h⟩
      · exact Or.inl ⟨x, hx, h⟩
      · exact Or.inr ⟨x, hx, h⟩
    · rintro (⟨x, hx, h⟩ | ⟨x, hx, h⟩)
      · exact ⟨x, Or.inl hx, h⟩
      · exact ⟨x, Or.inr hx, h⟩

/-- One call of `emit` (pv/prv.c): the cell of the .prv file, the flags of its type, whether its
    value moved in this step, and the value it has now. -/
structure Cell where
  file : Nat
  row : Nat
  type : Nat
  flags : Nat
  moved : Bool
  val : Value

def Cell.emit (c : Cell) : Except Err (List PrvRec) :=
  if c.moved then (prvValue c.flags c.val).map fun v => [⟨c.file, c.row, c.type, v⟩] else .ok []

theorem emitRaw_eq (file row type flags : Nat) (c : Chan) :
    emitRaw file row type flags c = Cell.emit ⟨file, row, type, flags, c.dirty, c.cur⟩ := by
  unfold emitRaw Cell.emit
  split
  · cases prvValue flags c.cur <;> rfl
  · rfl

theorem emitView_eq (file row type flags : Nat) (old new : Value) :
    emitView file row type flags old new = Cell.emit ⟨file, row, type, flags, old != new, new⟩ := by
  unfold emitView Cell.emit
  by_cases h : old = new
  · simp [h]; rfl
  · simp only [h, if_false, bne_iff_ne, ne_eq, not_false_eq_true, if_true]
    cases prvValue flags new <;> rfl

/-- `emit` accepts the value: not an integer 0 (after PRV_NEXT) on a type without PRV_ZERO -/
def prvOk (flags : Nat) (v : Value) : Bool :=
  match prvValue flags v with
  | .ok _ => true
  | .error _ => false

theorem prvOk_iff {flags : Nat} {v : Value} : prvOk flags v = true ↔ ∃ x, prvValue flags v = .ok x := by
  unfold prvOk
  cases prvValue flags v with
  | ok x => exact ⟨fun _ => ⟨x, rfl⟩, fun _ => rfl⟩
  | error err =>
    constructor
    · intro h; cases h
    · rintro ⟨x, hx⟩; cases hx

theorem prvOk_null (flags : Nat) : prvOk flags .null = true := rfl

theorem prvValue_error {flags : Nat} {v : Value} {err : Err} (h : prvValue flags v = .error err) :
    err = .prvZero := by
  unfold prvValue at h
  cases v with
  | null => cases h
  | int i =>
    simp only at h
    repeat' split at h
    all_goals first | (injection h with h; exact h.symm) | cases h

theorem Cell.emit_cases (c : Cell) :
    (c.moved = false ∧ c.emit = .ok []) ∨
    (c.moved = true ∧ ∃ v, prvValue c.flags c.val = .ok v ∧ c.emit = .ok [⟨c.file, c.row, c.type, v⟩]) ∨
    (c.moved = true ∧ prvValue c.flags c.val = .error .prvZero ∧ c.emit = .error .prvZero) := by
  unfold Cell.emit
  cases c.moved with
  | false => exact .inl ⟨rfl, rfl⟩
  | true =>
    cases hv : prvValue c.flags c.val with
    | ok v => exact .inr (.inl ⟨rfl, v, rfl, rfl⟩)
    | error err => cases prvValue_error hv; exact .inr (.inr ⟨rfl, rfl, rfl⟩)

theorem cells_mem {cs : List Cell} {rs : List PrvRec} (h : collect (cs.map Cell.emit) = .ok rs) (r : PrvRec) :
    r ∈ rs ↔ ∃ c ∈ cs, c.moved = true ∧ prvValue c.flags c.val = .ok r.value ∧
      r.file = c.file ∧ r.row = c.row ∧ r.type = c.type := by
  obtain ⟨hall, rfl⟩ := collect_ok_iff.mp h
  rw [List.flatMap_map, List.mem_flatMap]
  refine exists_congr fun c => and_congr_right fun hc => ?_
  show r ∈ okVal c.emit ↔ _
  obtain ⟨l, hl⟩ := hall _ (List.mem_map.mpr ⟨c, hc, rfl⟩)
  rcases c.emit_cases with ⟨hm, he⟩ | ⟨hm, v, hv, he⟩ | ⟨_, _, he⟩
  · rw [he, hm]; exact ⟨fun h => (nomatch h), fun h => (nomatch h.1)⟩
  · rw [he, hv, hm]
    simp only [okVal, List.mem_singleton, true_and, Except.ok.injEq]
    exact ⟨fun h => h ▸ ⟨rfl, rfl, rfl, rfl⟩, fun ⟨h1, h2, h3, h4⟩ => by
      cases r; simp only at h1 h2 h3 h4; rw [h1, h2, h3, h4]⟩
  · rw [he] at hl; cases hl

theorem Cell.emit_ok_iff (c : Cell) :
    (∃ rs, c.emit = .ok rs) ↔ (c.moved = true → ∃ v, prvValue c.flags c.val = .ok v) := by
  rcases c.emit_cases with ⟨hm, he⟩ | ⟨_, v, hv, he⟩ | ⟨hm, hv, he⟩
  · exact ⟨fun _ h => (nomatch hm.symm.trans h), fun _ => ⟨_, he⟩⟩
  · exact ⟨fun _ _ => ⟨v, hv⟩, fun _ => ⟨_, he⟩⟩
  · refine ⟨fun ⟨_, h⟩ => (nomatch he.symm.trans h), fun h => ?_⟩
    obtain ⟨_, hv'⟩ := h hm
    cases hv.symm.trans hv'

theorem cells_ok_iff {cs : List Cell} :
    (∃ rs, collect (cs.map Cell.emit) = .ok rs) ↔
      ∀ c ∈ cs, c.moved = true → ∃ v, prvValue c.flags c.val = .ok v := by
  simp only [collect_ok_iff, exists_and_left, exists_eq, and_true, List.forall_mem_map, Cell.emit_ok_iff]

theorem Cell.emit_error {c : Cell} {err : Err} (h : c.emit = .error err) : err = .prvZero := by
  rcases c.emit_cases with ⟨_, he⟩ | ⟨_, _, _, he⟩ | ⟨_, _, he⟩ <;> cases he.symm.trans h
  rfl

theorem cells_error {cs : List Cell} {err : Err} (h : collect (cs.map Cell.emit) = .error err) :
    err = .prvZero := by
  obtain ⟨x, hx, rfl⟩ := collect_error h
  obtain ⟨c, _, hc⟩ := List.mem_map.mp hx
  exact c.emit_error hc

/-- One row of a .prv file, thread or CPU: the raw channels `(type, flags, channel)`, then one view
    per channel of every model. -/
def rowCells (file row : Nat) (raws : List (Nat × Nat × Chan)) (specs : List ModelSpec)
    (old new : ModelSpec → Nat → Value) : List Cell :=
  raws.map (fun x => ⟨file, row, x.1, x.2.1, x.2.2.dirty, x.2.2.cur⟩) ++
    specs.flatMap fun m => (List.range m.nch).map fun i =>
      ⟨file, row, m.pvtType.getD i 0, m.prvFlags.getD i 0, old m i != new m i, new m i⟩

def thRaws (t : Thread) : List (Nat × Nat × Chan) :=
  [(prvThreadCpu, prvNext, t.chCpu), (prvThreadTid, 0, t.chTid), (prvThreadState, prvSkipDup, t.chState)]

theorem thRaws_assign (t : Thread) (x : ThState × Option Nat) :
    thRaws (t.assign x) = [(prvThreadCpu, prvNext, t.chCpu.setv (cpuVal x.2)),
      (prvThreadTid, 0, t.chTid.setv (tidVal x.1 t.tid)), (prvThreadState, prvSkipDup, t.chState.setv (stateVal x.1))] := rfl

def cpuRaws (c : Cpu) : List (Nat × Nat × Chan) :=
  [(prvCpuPid, 0, c.chPid), (prvCpuTid, 0, c.chTid), (prvCpuNrun, prvZero, c.chNrun)]

def thCells (specs : List ModelSpec) (told t : Thread) : List Cell :=
  rowCells 0 (t.gindex + 1) (thRaws t) specs (thView told) (thView t)

def cpuCells (specs : List ModelSpec) (old new : Emu) (cold c : Cpu) : List Cell :=
  rowCells 1 (c.gindex + 1) (cpuRaws c) specs (cpuView old cold) (cpuView new c)

def cells (old new : Emu) : List Cell :=
  new.threads.flatMap (fun t => thCells new.specs (old.threads.getD t.gindex t) t) ++
    new.cpus.flatMap (fun c => cpuCells new.specs old new (old.cpus.getD c.gindex c) c)

theorem rowCells_emit (file row : Nat) (raws : List (Nat × Nat × Chan)) (specs : List ModelSpec)
    (old new : ModelSpec → Nat → Value) :
    (rowCells file row raws specs old new).map Cell.emit =
      raws.map (fun x => emitRaw file row x.1 x.2.1 x.2.2) ++
        specs.flatMap fun m => (List.range m.nch).map fun i =>
          emitView file row (m.pvtType.getD i 0) (m.prvFlags.getD i 0) (old m i) (new m i) := by
  simp only [rowCells, List.map_append, List.map_map, List.map_flatMap, emitRaw_eq, emitView_eq]
  rfl

theorem threadRecords_eq (specs : List ModelSpec) (told t : Thread) :
    threadRecords specs told t = collect (thSysList t ++ thViewList specs told t) := rfl

theorem cpuRecords_eq (specs : List ModelSpec) (old new : Emu) (cold c : Cpu) :
    cpuRecords specs old new cold c = collect (cpuSysList c ++ cpuViewList specs old new cold c) := rfl

theorem records_flat (old new : Emu) :
    records old new = collect
      (new.threads.flatMap (fun t => thSysList t ++ thViewList new.specs (old.threads.getD t.gindex t) t) ++
       new.cpus.flatMap (fun c => cpuSysList c ++ cpuViewList new.specs old new (old.cpus.getD c.gindex c) c)) := by
  show collect (new.threads.map (fun t => threadRecords new.specs _ t) ++
    new.cpus.map (fun c => cpuRecords new.specs old new _ c)) = _
  simp only [threadRecords_eq, cpuRecords_eq]
  rw [collect_append, collect_collect, collect_collect, ← collect_append]

theorem records_eq (old new : Emu) : records old new = collect ((cells old new).map Cell.emit) := by
  rw [records_flat, cells, List.map_append, List.map_flatMap, List.map_flatMap]
  simp only [thCells, cpuCells, rowCells_emit]
  rfl

/-- `records` = system rows + model rows, as multisets. -/
theorem records_split (old new : Emu) :
    (∀ rs, records old new = .ok rs → ∃ s v, sysRecords new = .ok s ∧ viewRecords old new = .ok v ∧
      rs.Perm (s ++ v)) ∧
    (∀ s v, sysRecords new = .ok s → viewRecords old new = .ok v → ∃ rs, records old new = .ok rs ∧
      rs.Perm (s ++ v)) ∧
    ((∃ e, records old new = .error e) ↔ ((∃ e, sysRecords new = .error e) ∨ (∃ e, viewRecords old new = .error e))) := by
  rw [records_flat]
  exact collect_perm_append
    (((flatMap_append_perm _ _ new.threads).append (flatMap_append_perm _ _ new.cpus)).trans (perm_shuffle _ _ _ _))

theorem mem_rowCells {file row : Nat} {raws : List (Nat × Nat × Chan)} {specs : List ModelSpec}
    {old new : ModelSpec → Nat → Value} {c : Cell} :
    c ∈ rowCells file row raws specs old new ↔
      (∃ x ∈ raws, c = ⟨file, row, x.1, x.2.1, x.2.2.dirty, x.2.2.cur⟩) ∨
      ∃ m ∈ specs, ∃ i < m.nch,
        c = ⟨file, row, m.pvtType.getD i 0, m.prvFlags.getD i 0, old m i != new m i, new m i⟩ := by
  simp only [rowCells, List.mem_append, List.mem_map, List.mem_flatMap, List.mem_range, eq_comm]

theorem mem_cells {old new : Emu} {c : Cell} :
    c ∈ cells old new ↔
      (∃ t ∈ new.threads, c ∈ thCells new.specs (old.threads.getD t.gindex t) t) ∨
      ∃ k ∈ new.cpus, c ∈ cpuCells new.specs old new (old.cpus.getD k.gindex k) k := by
  simp only [cells, List.mem_append, List.mem_flatMap]

/-- `records` fails only with "forbidden value 0" (`emit` on a type without PRV_ZERO) -/
theorem records_error {old new : Emu} {err : Err} (h : records old new = .error err) : err = .prvZero :=
  cells_error (records_eq old new ▸ h)

/-- Where a record of a step comes from: a raw channel of a thread or CPU row, whose value it shows, or
    a model view of that row. -/
theorem records_mem {old new : Emu} {out : List PrvRec} (h : records old new = .ok out) {r : PrvRec}
    (hr : r ∈ out) :
    (∃ t ∈ new.threads, r.file = 0 ∧ r.row = t.gindex + 1 ∧
      ((∃ x ∈ thRaws t, r.type = x.1 ∧ prvValue x.2.1 x.2.2.cur = .ok r.value) ∨
       ∃ m ∈ new.specs, ∃ i < m.nch, r.type = m.pvtType.getD i 0)) ∨
    (∃ c ∈ new.cpus, r.file = 1 ∧ r.row = c.gindex + 1 ∧
      ((∃ x ∈ cpuRaws c, r.type = x.1 ∧ prvValue x.2.1 x.2.2.cur = .ok r.value) ∨
       ∃ m ∈ new.specs, ∃ i < m.nch, r.type = m.pvtType.getD i 0)) := by
  obtain ⟨c, hc, _, hv, hf, hw, hty⟩ := (cells_mem (records_eq old new ▸ h) r).mp hr
  rcases mem_cells.mp hc with ⟨t, ht, hc⟩ | ⟨k, hk, hc⟩
  · refine .inl ⟨t, ht, ?_⟩
    rcases mem_rowCells.mp hc with ⟨x, hx, rfl⟩ | ⟨m, hm, i, hi, rfl⟩
    · exact ⟨hf, hw, .inl ⟨x, hx, hty, hv⟩⟩
    · exact ⟨hf, hw, .inr ⟨m, hm, i, hi, hty⟩⟩
  · refine .inr ⟨k, hk, ?_⟩
    rcases mem_rowCells.mp hc with ⟨x, hx, rfl⟩ | ⟨m, hm, i, hi, rfl⟩
    · exact ⟨hf, hw, .inl ⟨x, hx, hty, hv⟩⟩
    · exact ⟨hf, hw, .inr ⟨m, hm, i, hi, hty⟩⟩

theorem records_raw {old new : Emu} {rs : List PrvRec} (h : records old new = .ok rs) {file row : Nat}
    {raws : List (Nat × Nat × Chan)} {specs : List ModelSpec} {o n : ModelSpec → Nat → Value}
    (hsub : ∀ c ∈ rowCells file row raws specs o n, c ∈ cells old new)
    {x : Nat × Nat × Chan} (hx : x ∈ raws) (hd : x.2.2.dirty = true) :
    ∃ v, prvValue x.2.1 x.2.2.cur = .ok v ∧ (⟨file, row, x.1, v⟩ : PrvRec) ∈ rs := by
  have h' : collect ((cells old new).map Cell.emit) = .ok rs := records_eq old new ▸ h
  have hc := hsub _ (mem_rowCells.mpr (.inl ⟨x, hx, rfl⟩))
  obtain ⟨v, hv⟩ := cells_ok_iff.mp ⟨rs, h'⟩ _ hc hd
  exact ⟨v, hv, (cells_mem h' _).mpr ⟨_, hc, hd, hv, rfl, rfl, rfl⟩⟩

theorem records_thread {old new : Emu} {rs : List PrvRec} (h : records old new = .ok rs) {t : Thread}
    (ht : t ∈ new.threads) {x : Nat × Nat × Chan} (hx : x ∈ thRaws t) (hd : x.2.2.dirty = true) :
    ∃ v, prvValue x.2.1 x.2.2.cur = .ok v ∧ (⟨0, t.gindex + 1, x.1, v⟩ : PrvRec) ∈ rs :=
  records_raw h (fun _ hc => mem_cells.mpr (.inl ⟨t, ht, hc⟩)) hx hd

theorem records_cpu {old new : Emu} {rs : List PrvRec} (h : records old new = .ok rs) {c : Cpu}
    (hc : c ∈ new.cpus) {x : Nat × Nat × Chan} (hx : x ∈ cpuRaws c) (hd : x.2.2.dirty = true) :
    ∃ v, prvValue x.2.1 x.2.2.cur = .ok v ∧ (⟨1, c.gindex + 1, x.1, v⟩ : PrvRec) ∈ rs :=
  records_raw h (fun _ hk => mem_cells.mpr (.inr ⟨c, hc, hk⟩)) hx hd

/-- the state channel: the state's code (nothing, shown as 0 = unknown, before the first execute) -/
theorem prvValue_state (s : ThState) : prvValue prvSkipDup (stateVal s) = .ok s.code := by
  cases s <;> rfl

/-- `PRV_NEXT`: a natural number is shown as its successor, never 0 -/
theorem prvValue_next (n : Nat) : prvValue prvNext (.int n) = .ok ((n : Int) + 1) := by
  unfold prvValue
  have : ¬ ((n : Int) + 1 = 0) := by omega
  simp [prvNext, prvZero, this]

/-- without flags: the integer itself, which must not be 0 -/
theorem prvValue_plain {i : Int} (h : i ≠ 0) : prvValue 0 (.int i) = .ok i := by
  unfold prvValue
  simp [prvNext, prvZero, h]

theorem prvValue_zero_int {i v : Int} (h : prvValue 0 (.int i) = .ok v) : v = i := by
  by_cases hi : i = 0
  · subst hi; cases h
  · rw [prvValue_plain hi] at h; exact (Except.ok.inj h).symm

theorem prvValue_tid {s : ThState} {tid v : Int} (h : prvValue 0 (tidVal s tid) = .ok v) :
    v = if s = .running ∨ s = .cooling ∨ s = .warming then tid else 0 := by
  cases s <;> first | exact prvValue_zero_int h | exact (Except.ok.inj h).symm

end Ovni.Emu
