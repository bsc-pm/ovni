import OvniModel.Lemmas.EmuCoreSteps

/-
  The logical state (state, cpu) of the threads; the static part of the emulator and what is a
  function of it (`SameStatic`: physical CPUs, `loom_get_cpu`, the lint predicate); the outcome
  of every handler of the ovni model in those terms (`Outcome`, `Verdict`), and which handler
  `model_event` calls; at the end `finish` as a predicate.
-/
namespace Ovni.Emu

abbrev LState := List (ThState × Option Nat)

def absOf (ths : List Thread) : LState := ths.map (fun t => (t.state, t.cpu))

def runCount (s : LState) (g : Nat) : Nat := (s.filter (fun x => x.1 = .running && x.2 == some g)).length

def Emu.phys (e : Emu) (g : Nat) : Prop := ∃ c, e.cpus[g]? = some c ∧ c.virt = false

def NoOversub (phys : Nat → Prop) (s : LState) : Prop := ∀ g, phys g → runCount s g ≤ 1

theorem runCount_absOf (ths : List Thread) (g : Nat) :
    runCount (absOf ths) g = (runOf (onCpu ths g)).length := by
  unfold runCount absOf runOf onCpu
  rw [List.filter_map, List.length_map, List.filter_filter]
  rfl

theorem runCount_set {s : LState} {ti : Nat} {old new : ThState × Option Nat} (h : s[ti]? = some old) (g : Nat) :
    runCount (s.set ti new) g + (if (old.1 = .running ∧ old.2 = some g) then 1 else 0) =
      runCount s g + (if (new.1 = .running ∧ new.2 = some g) then 1 else 0) := by
  have := count_set (fun x : ThState × Option Nat => decide (x.1 = .running) && (x.2 == some g)) new s ti old h
  unfold runCount
  simp only [Bool.and_eq_true, decide_eq_true_eq, beq_iff_eq] at this
  exact this

theorem absOf_set (ths : List Thread) (ti : Nat) (t : Thread) :
    absOf (ths.set ti t) = (absOf ths).set ti (t.state, t.cpu) := by
  unfold absOf; rw [List.map_set]

theorem absOf_getElem? {ths : List Thread} {i : Nat} {t : Thread} (h : ths[i]? = some t) :
    (absOf ths)[i]? = some (t.state, t.cpu) := by
  unfold absOf; rw [List.getElem?_map, h]; rfl

theorem absOf_map_flush (ths : List Thread) : absOf (ths.map Thread.flush) = absOf ths := by
  unfold absOf; rw [List.map_map]; rfl

theorem noOversub_of_wf {e : Emu} (h : WF e) : NoOversub e.phys (absOf e.threads) := by
  rintro g ⟨c, hc, hv⟩
  rw [runCount_absOf]
  exact (h.cpu g c hc).phys hv

/- The static part: what OH* / OA* events never change.  Of a CPU the hierarchy, of a thread its
   identities, its `outOfCpu` flag and the contents of its model channels, of the emulator the enabled models, the lint
   flag and the run-time channel groups. -/

def Cpu.static (c : Cpu) : Nat × Nat × Int × Bool := (c.gindex, c.loom, c.index, c.virt)
def Thread.static (t : Thread) : Nat × Int × Int × Nat × Bool × List (Nat × List (List Value)) :=
  (t.gindex, t.tid, t.pid, t.loom, t.outOfCpu, t.mch.map (fun x => (x.1, x.2.map Chan.vals)))

theorem Thread.assign_static (t : Thread) (x : ThState × Option Nat) : (t.assign x).static = t.static := rfl
theorem Cpu.withVals_static (c : Cpu) (b : List Thread) : (c.withVals b).static = c.static := rfl

structure SameStatic (e e' : Emu) : Prop where
  cpus : e'.cpus.map Cpu.static = e.cpus.map Cpu.static
  threads : e'.threads.map Thread.static = e.threads.map Thread.static
  enabled : e'.enabled = e.enabled
  lint : e'.lint = e.lint
  extra : e'.extra = e.extra

theorem SameStatic.refl (e : Emu) : SameStatic e e := ⟨rfl, rfl, rfl, rfl, rfl⟩

theorem SameStatic.trans {a b c : Emu} (h1 : SameStatic a b) (h2 : SameStatic b c) : SameStatic a c :=
  ⟨h2.cpus.trans h1.cpus, h2.threads.trans h1.threads, h2.enabled.trans h1.enabled, h2.lint.trans h1.lint,
    h2.extra.trans h1.extra⟩

theorem SameStatic.symm {e e' : Emu} (h : SameStatic e e') : SameStatic e' e :=
  ⟨h.cpus.symm, h.threads.symm, h.enabled.symm, h.lint.symm, h.extra.symm⟩

theorem SameStatic.thread {e e' : Emu} (h : SameStatic e e') {ti : Nat} {t' : Thread}
    (ht : e'.threads[ti]? = some t') : ∃ t, e.threads[ti]? = some t ∧ t'.static = t.static :=
  getElem?_of_map_eq h.threads ht

theorem static_loom {t t' : Thread} (h : t'.static = t.static) : t'.loom = t.loom :=
  congrArg (·.2.2.2.1) h

theorem static_tid {t t' : Thread} (h : t'.static = t.static) : t'.tid = t.tid :=
  congrArg (·.2.1) h

theorem static_pid {t t' : Thread} (h : t'.static = t.static) : t'.pid = t.pid :=
  congrArg (·.2.2.1) h

theorem Thread.flush_static (t : Thread) : t.flush.static = t.static := by
  unfold Thread.static Thread.flush
  simp only [List.map_map]
  congr 6
  funext x
  simp only [Function.comp, List.map_map]
  congr 1
  apply List.map_congr_left
  intro c _
  exact Chan.flush_vals c

theorem SameStatic.flushAll (e : Emu) : SameStatic e e.flushAll := by
  rw [Emu.flushAll_eq]
  refine ⟨?_, ?_, rfl, rfl, rfl⟩
  · show (e.cpus.map Cpu.flush).map Cpu.static = _
    rw [List.map_map]; rfl
  · show (e.threads.map Thread.flush).map Thread.static = _
    rw [List.map_map]
    apply List.map_congr_left
    intro t _; exact Thread.flush_static t

theorem SameStatic.of_step {e : Emu} {ti : Nat} {t t' : Thread} (ht : e.threads[ti]? = some t)
    (hs : t'.static = t.static) (cpus' : List Cpu) (hc : cpus'.map Cpu.static = e.cpus.map Cpu.static) :
    SameStatic e ({ e with threads := e.threads.set ti t', cpus := cpus' } : Emu) :=
  ⟨hc, map_set_same Thread.static ht hs, rfl, rfl, rfl⟩

theorem SameStatic.phys {e e' : Emu} (h : SameStatic e e') (g : Nat) : e'.phys g ↔ e.phys g := by
  have key : ∀ (a b : Emu), a.cpus.map Cpu.static = b.cpus.map Cpu.static → a.phys g → b.phys g := by
    rintro a b hab ⟨c, hc, hv⟩
    obtain ⟨c', hb, hs⟩ := getElem?_of_map_eq hab hc
    exact ⟨c', hb, (congrArg (·.2.2.2) hs).symm.trans hv⟩
  exact ⟨key e' e h.cpus, key e e' h.cpus.symm⟩

theorem static_vals {t t' : Thread} (h : t'.static = t.static) (m : Nat) :
    (t'.getChans m).map (·.map Chan.vals) = (t.getChans m).map (·.map Chan.vals) := by
  have key : ∀ u : Thread, (u.getChans m).map (·.map Chan.vals) =
      ((u.static.2.2.2.2.2).find? (·.1 == m)).map (·.2) := by
    intro u
    unfold Thread.getChans Thread.static
    rw [List.find?_map, show ((fun x : Nat × List (List Value) => x.1 == m) ∘
      fun x : Nat × List Chan => (x.1, x.2.map Chan.vals)) = (fun x : Nat × List Chan => x.1 == m) from rfl]
    cases u.mch.find? (fun x => x.1 == m) <;> rfl
  rw [key, key, h]

theorem getD_map_vals (cs : List Chan) (i : Nat) : (cs.map Chan.vals).getD i [] = (cs.getD i {}).vals := by
  simp only [List.getD_eq_getElem?_getD, List.getElem?_map]
  cases cs[i]? <;> rfl

/-- the values of a model channel are all that `end_lint` and `emit` read of it -/
theorem static_chan_vals {t t' : Thread} (h : t'.static = t.static) (m i : Nat) :
    (t'.getChans m).map (fun cs => (cs.getD i {}).vals) = (t.getChans m).map (fun cs => (cs.getD i {}).vals) := by
  have := congrArg (Option.map (·.getD i [])) (static_vals h m)
  simpa only [Option.map_map, Function.comp_def, getD_map_vals] using this

theorem lintOpen_static {e e' : Emu} (h : SameStatic e e') : lintOpen e' = lintOpen e := by
  unfold lintOpen
  rw [h.enabled]
  congr 1
  funext spec
  congr 1
  cases spec.lintChan with
  | none => rfl
  | some i =>
    refine any_congr_map Thread.static (fun a b hab => ?_) h.threads
    have key : ∀ u : Thread, (match u.getChans spec.char with
        | some cs => decide ((cs.getD i {}).vals.length > 0)
        | none => false) =
        ((u.getChans spec.char).map fun cs => (cs.getD i {}).vals).elim false fun vs => decide (vs.length > 0) :=
      fun u => by cases u.getChans spec.char <;> rfl
    refine (key a).trans (Eq.trans ?_ (key b).symm)
    rw [static_chan_vals hab]

theorem find_static (cpus cpus' : List Cpu) (h : cpus'.map Cpu.static = cpus.map Cpu.static)
    (p : Nat × Nat × Int × Bool → Bool) :
    (cpus'.find? (fun c => p c.static)).map (·.gindex) = (cpus.find? (fun c => p c.static)).map (·.gindex) := by
  have key : ∀ l : List Cpu, (l.find? (fun c => p c.static)).map (·.gindex) =
      ((l.map Cpu.static).find? p).map (·.1) := by
    intro l
    rw [List.find?_map]
    show Option.map _ (l.find? (p ∘ Cpu.static)) = _
    cases l.find? (p ∘ Cpu.static) <;> rfl
  rw [key, key, h]

theorem loomGetCpu_static {e e' : Emu} (h : SameStatic e e') (loom : Nat) (index : Int) :
    loomGetCpu e' loom index = loomGetCpu e loom index := by
  unfold loomGetCpu
  by_cases hi : index = -1
  · simp only [hi, if_true]
    exact find_static e.cpus e'.cpus h.cpus (fun s => s.2.1 = loom && s.2.2.2)
  · simp only [hi, if_false]
    exact find_static e.cpus e'.cpus h.cpus (fun s => s.2.1 = loom && !s.2.2.2 && s.2.2.1 = index)

theorem loomGetCpu_some {e : Emu} (h : WF e) {loom : Nat} {index : Int} {ci : Nat}
    (hl : loomGetCpu e loom index = some ci) : ∃ c, e.cpus[ci]? = some c := by
  have key : ∀ p : Cpu → Bool, (e.cpus.find? p).map (·.gindex) = some ci → ∃ c, e.cpus[ci]? = some c := by
    intro p hf
    obtain ⟨c, hfind, rfl⟩ := Option.map_eq_some_iff.mp hf
    obtain ⟨j, hj⟩ := List.mem_iff_getElem?.mp (List.mem_of_find?_eq_some hfind)
    exact ⟨c, by rw [(h.cpu j c hj).gidx]; exact hj⟩
  unfold loomGetCpu at hl
  split at hl <;> exact key _ hl

structure StepOK (e : Emu) (ti : Nat) (x : ThState × Option Nat) (e' : Emu) : Prop where
  wf : WF e'
  abs : absOf e'.threads = (absOf e.threads).set ti x
  static : SameStatic e e'

theorem StepOK.noOversub {e e' : Emu} {ti : Nat} {x : ThState × Option Nat} (h : StepOK e ti x e') :
    NoOversub e.phys ((absOf e.threads).set ti x) := by
  intro g hg
  have := noOversub_of_wf h.wf g ((h.static.phys g).mpr hg)
  rw [h.abs] at this; exact this

theorem guard_true_not_noOversub {e : Emu} {ci : Nat} {c : Cpu} (hc : e.cpus[ci]? = some c)
    {thsX ths' : List Thread} {l : List Nat}
    (hag : ∀ i ∈ l, (thsX[i]?).map Thread.key = (ths'[i]?).map Thread.key)
    (hm : Membership ths' ci l) (hg : overGuard thsX l c.virt = true) :
    ¬ NoOversub e.phys (absOf ths') := by
  intro hno
  obtain ⟨hv, hlen⟩ := overGuard_eq_true_iff.mp hg
  have := hno ci ⟨c, hc, hv⟩
  rw [runCount_absOf, ← (boundOf_sameKeys hag hm).vals.1] at this
  omega

/-- the state before the flush: thread `ti` has been assigned `x`, every other thread is untouched -/
def Pre (e : Emu) (ti : Nat) (x : ThState × Option Nat) (e1 : Emu) : Prop :=
  ∃ t, e.threads[ti]? = some t ∧ e1.threads = e.threads.set ti (t.assign x)

theorem Pre.thread {e e1 : Emu} {ti : Nat} {x : ThState × Option Nat} (hp : Pre e ti x e1) {t : Thread}
    (ht : e.threads[ti]? = some t) : e1.threads[ti]? = some (t.assign x) := by
  obtain ⟨t0, ht0, hths⟩ := hp
  cases ht.symm.trans ht0
  rw [hths]; exact List.getElem?_set_self (List.getElem?_eq_some_iff.mp ht).1

/-- what every handler theorem states: acceptance is exactly "no physical CPU oversubscribed in
    the logical result", and an accepted step yields a well-formed state with that result -/
structure Outcome (e : Emu) (ti : Nat) (x : ThState × Option Nat) (r : Except Err Emu) : Prop where
  accept_iff : (∃ e1, r = .ok e1) ↔ NoOversub e.phys ((absOf e.threads).set ti x)
  ok : ∀ {e1}, r = .ok e1 → StepOK e ti x e1.flushAll ∧ Pre e ti x e1

/-- The one shape of the handler theorems: thread `ti` is assigned `x` and the CPUs are replaced by
    `cpus'`, each kept or updated (`CpuStep`), unless the guard `g` of a `cpu_update` fires, which it
    does only when `x` oversubscribes a physical CPU. -/
theorem outcome_step {e : Emu} (h : WF e) {ti : Nat} {t : Thread} (ht : e.threads[ti]? = some t)
    {x : ThState × Option Nat} {g : Bool} {cpus' : List Cpu} {r : Except Err Emu}
    (hr : r = if g then .error .oversub
      else .ok { e with threads := e.threads.set ti (t.assign x), cpus := cpus' })
    (hiff : x.2 = none ↔ (x.1 = .unknown ∨ x.1 = .dead)) (hlt : ∀ k, x.2 = some k → k < e.cpus.length)
    (hgt : g = true → ¬ NoOversub e.phys (absOf (e.threads.set ti (t.assign x))))
    (hst : cpus'.map Cpu.static = e.cpus.map Cpu.static)
    (hC : g = false → ∀ k c', cpus'[k]? = some c' →
      ∃ c, e.cpus[k]? = some c ∧ CpuStep e.threads ti t (t.assign x) k c c') :
    Outcome e ti x r := by
  have habs : absOf (e.threads.set ti (t.assign x)) = (absOf e.threads).set ti x := absOf_set ..
  cases g with
  | true =>
    simp only [if_true] at hr
    subst hr
    exact ⟨⟨fun ⟨_, he⟩ => (nomatch he), fun hn => absurd (habs ▸ hn) (hgt rfl)⟩, fun he => (nomatch he)⟩
  | false =>
    simp only [Bool.false_eq_true, if_false] at hr
    subst hr
    have hs : StepOK e ti x
        ({ e with threads := e.threads.set ti (t.assign x), cpus := cpus' } : Emu).flushAll := by
      refine ⟨WF.step h ht _ cpus' (by simpa using congrArg List.length hst)
        ((h.th ti t ht).assign_flush x hiff hlt) (hC rfl), ?_,
        (SameStatic.of_step ht (t.assign_static x) cpus' hst).trans (SameStatic.flushAll _)⟩
      rw [Emu.flushAll_eq]
      show absOf ((e.threads.set ti (t.assign x)).map Thread.flush) = _
      rw [absOf_map_flush, habs]
    refine ⟨⟨fun _ => hs.noOversub, fun _ => ⟨_, rfl⟩⟩, fun he => ?_⟩
    cases he; exact ⟨hs, t, ht, rfl⟩

/-- `cpu_update` on one CPU `ci`, the only one the thread is bound to before or after, over a list `l`
    that is the membership list of the final thread table -/
theorem outcome_upd {e : Emu} (h : WF e) {ti : Nat} {t : Thread} (ht : e.threads[ti]? = some t)
    {x : ThState × Option Nat}
    {ci : Nat} {c : Cpu} (hc : e.cpus[ci]? = some c) {l : List Nat} {thsX : List Thread} {r : Except Err Emu}
    (hr : r = if overGuard thsX l c.virt then .error .oversub
      else .ok { e with threads := e.threads.set ti (t.assign x),
                        cpus := e.cpus.set ci (({ c with threads := l } : Cpu).withVals (boundOf thsX l)) })
    (hiff : x.2 = none ↔ (x.1 = .unknown ∨ x.1 = .dead))
    (hag : ∀ i ∈ l, (thsX[i]?).map Thread.key = ((e.threads.set ti (t.assign x))[i]?).map Thread.key)
    (hm : Membership (e.threads.set ti (t.assign x)) ci l)
    (hold : t.cpu = none ∨ t.cpu = some ci) (hnew : x.2 = none ∨ x.2 = some ci) :
    Outcome e ti x r := by
  -- no other CPU is concerned
  have hoth : ∀ {o : Option Nat}, o = none ∨ o = some ci → ∀ g, g ≠ ci → o ≠ some g := by
    rintro o (rfl | rfl) g hg h'
    · cases h'
    · exact hg (Option.some.inj h').symm
  refine outcome_step h ht hr hiff (fun k hk => ?_) (guard_true_not_noOversub hc hag hm)
    (map_set_same Cpu.static hc (Cpu.withVals_static ..)) fun hg k c' hc' => ?_
  · by_cases hk' : k = ci
    · exact hk' ▸ (List.getElem?_eq_some_iff.mp hc).1
    · exact absurd hk (hoth hnew k hk')
  rcases getElem?_set_some hc' with ⟨rfl, rfl⟩ | ⟨hne, hc0⟩
  · exact ⟨c, hc, CpuStep.update l thsX hag hm hg⟩
  · exact ⟨c', hc0, CpuStep.keep (hoth hold k hne) (hoth hnew k hne)⟩

theorem change_outcome {e : Emu} (h : WF e) {ti : Nat} {t : Thread} (ht : e.threads[ti]? = some t)
    (ok : ThState → Bool) (st : ThState) {ci : Nat} (hcpu : t.cpu = some ci) (hok : ok t.state = true)
    (hne : t.state ≠ st) (hl1 : st ≠ .unknown) (hl2 : st ≠ .dead) :
    Outcome e ti (st, some ci) (preThreadChange e ti ok st) := by
  obtain ⟨c, hc, _⟩ := h.cpu_lists ht hcpu
  exact outcome_upd h ht hc (preThreadChange_eq h ht ok st hcpu hc hok hne hl1)
    (by show some ci = none ↔ (st = .unknown ∨ st = .dead); simp [hl1, hl2])
    (fun _ _ => rfl) ((h.cpu ci c hc).mem.set_same ht hcpu.symm) (.inr hcpu) (.inr rfl)

theorem execute_outcome {e : Emu} (h : WF e) {ti : Nat} {t : Thread} (ht : e.threads[ti]? = some t)
    {payload : List Nat} {ci : Nat} (hlen : 4 ≤ payload.length)
    (hci : loomGetCpu e t.loom (i32At payload 0) = some ci) (hnone : t.cpu = none) :
    Outcome e ti (.running, some ci) (preThreadExecute e ti payload) := by
  obtain ⟨c, hc⟩ := loomGetCpu_some h hci
  exact outcome_upd h ht hc (preThreadExecute_eq h ht hlen hci hnone hc)
    (by show some ci = none ↔ (ThState.running = .unknown ∨ ThState.running = .dead); simp)
    (fun _ _ => rfl) ((h.cpu ci c hc).mem.set_add ht (by rw [hnone]; simp) rfl) (.inl hnone) (.inr rfl)

theorem end_outcome {e : Emu} (h : WF e) {ti : Nat} {t : Thread} (ht : e.threads[ti]? = some t)
    (hst : t.state = .running ∨ t.state = .cooling) :
    Outcome e ti (.dead, none) (preThreadEnd e ti) := by
  obtain ⟨ci, hcpu⟩ := (h.th ti t ht).cpu_isSome (by rcases hst with h' | h' <;> simp [h'])
    (by rcases hst with h' | h' <;> simp [h'])
  obtain ⟨c, hc, _⟩ := h.cpu_lists ht hcpu
  have hcp := h.cpu ci c hc
  -- `cpu_update` runs while the thread is dead but still bound; it is no longer in the list
  have hag : ∀ i ∈ c.threads.erase ti, ((e.threads.set ti (t.assign (.dead, some ci)))[i]?).map Thread.key =
      ((e.threads.set ti (t.assign (.dead, none)))[i]?).map Thread.key := by
    intro i hi
    have hne : ti ≠ i := by
      intro h'; subst h'
      exact ((hcp.mem.nodup.mem_erase_iff).mp hi).1 rfl
    rw [List.getElem?_set_ne hne, List.getElem?_set_ne hne]
  exact outcome_upd h ht hc (preThreadEnd_eq h ht hst hcpu hc)
    (by show (none : Option Nat) = none ↔ (ThState.dead = .unknown ∨ ThState.dead = .dead); simp)
    hag (hcp.mem.set_remove ht (t' := t.assign (.dead, none)) (fun h' => nomatch h')) (.inr hcpu) (.inl rfl)

theorem migrate_outcome {e : Emu} (h : WF e) {ti : Nat} {t : Thread} (ht : e.threads[ti]? = some t)
    {fr to : Nat} {ct : Cpu} (hcpu : t.cpu = some fr) (hne : fr ≠ to) (hct : e.cpus[to]? = some ct) :
    Outcome e ti (t.state, some to) (migrate e ti fr to) := by
  have hth := h.th ti t ht
  obtain ⟨cf, hcf, _⟩ := h.cpu_lists ht hcpu
  have hpf := h.cpu fr cf hcf
  have hpt := h.cpu to ct hct
  have hcl := migrate_eq h ht hcpu hne hcf hct
  -- both `cpu_update`s run before `thread_migrate_cpu`, which changes nothing they read
  have hag : ∀ i, (e.threads[i]?).map Thread.key =
      ((e.threads.set ti (t.assign (t.state, some to)))[i]?).map Thread.key :=
    key_agree_set (t' := t.assign (t.state, some to)) ht rfl
  have hmf := hpf.mem.set_remove ht (t' := t.assign (t.state, some to))
    (fun h' : some to = some fr => hne (Option.some.inj h').symm)
  have hmt := hpt.mem.set_add ht (t' := t.assign (t.state, some to))
    (by rw [hcpu]; intro h'; exact hne (Option.some.inj h')) rfl
  refine outcome_step h ht hcl
    (by have := hth.cpuIff; rw [hcpu] at this
        show some to = none ↔ (t.state = .unknown ∨ t.state = .dead); simpa using this)
    (fun k hk => Option.some.inj hk ▸ (List.getElem?_eq_some_iff.mp hct).1) (fun hg => ?_)
    ((map_set_same Cpu.static ((List.getElem?_set_ne hne).trans hct) (by rfl)).trans
      (map_set_same Cpu.static hcf (by rfl)))
    fun hg g c' hc' => ?_
  · rcases Bool.or_eq_true .. |>.mp hg with hg | hg
    · exact guard_true_not_noOversub hcf (fun i _ => hag i) hmf hg
    · exact guard_true_not_noOversub hct (fun i _ => hag i) hmt hg
  · rw [Bool.or_eq_false_iff] at hg
    rcases getElem?_set_some hc' with ⟨rfl, rfl⟩ | ⟨hne2, hold⟩
    · exact ⟨ct, hct, CpuStep.update _ e.threads (fun i _ => hag i) hmt hg.2⟩
    · rcases getElem?_set_some hold with ⟨rfl, rfl⟩ | ⟨hne1, hold1⟩
      · exact ⟨cf, hcf, CpuStep.update _ e.threads (fun i _ => hag i) hmf hg.1⟩
      · refine ⟨c', hold1, CpuStep.keep ?_ fun h' : some to = some g => hne2 (Option.some.inj h').symm⟩
        rw [hcpu]; intro h'; exact hne1 (Option.some.inj h').symm

/-- the model's transition table: what the guards of `preThread*` amount to under `WF`
    (the guards of OHx are `state ≠ running` and `cpu = none`; by `ThreadOK.cpuIff` that is `unknown ∨ dead`) -/
def modelNext (st : ThState) (v : Nat) : Option ThState :=
  if v = 120 then (if st = .unknown ∨ st = .dead then some .running else none)
  else if v = 101 then (if st = .running ∨ st = .cooling then some .dead else none)
  else if v = 112 then (if st = .running ∨ st = .cooling then some .paused else none)
  else if v = 114 then (if st = .paused ∨ st = .warming then some .running else none)
  else if v = 99 then (if st = .running then some .cooling else none)
  else if v = 119 then (if st = .paused then some .warming else none)
  else none

/-- the CPU a thread is bound to after OH`v` -/
def cpuAfter (v : Nat) (cur : Option Nat) (target : Nat) : Option Nat :=
  if v = 120 then some target else if v = 101 then none else cur

def Verdict (e : Emu) (ti : Nat) (x : Option (ThState × Option Nat)) (r : Except Err Emu) : Prop :=
  match x with
  | none => ∃ err, r = .error err
  | some x => Outcome e ti x r

/-- how a verdict is proved: where the specification has a guard, the handler yields the outcome when
    it holds and an error when it does not -/
theorem Verdict.guard {e : Emu} {ti : Nat} {r : Except Err Emu} {p : Prop} [Decidable p] {y : ThState × Option Nat}
    (hy : p → Outcome e ti y r) (hn : ¬ p → ∃ err, r = .error err) :
    Verdict e ti (if p then some y else none) r := by
  split
  · exact hy ‹_›
  · exact hn ‹_›

section
variable {e : Emu} {ti : Nat} {r : Except Err Emu} {p : Prop} [Decidable p] {y : ThState × Option Nat}
  (hv : Verdict e ti (if p then some y else none) r)
include hv

theorem Verdict.guard_accept_iff : (∃ e1, r = .ok e1) ↔ p ∧ NoOversub e.phys ((absOf e.threads).set ti y) := by
  split at hv
  · exact (Outcome.accept_iff hv).trans (and_iff_right ‹_›).symm
  · exact iff_of_false ((error_iff_not_ok r).mp hv) fun hp => ‹¬ p› hp.1

theorem Verdict.guard_ok {e1 : Emu} (hr : r = .ok e1) : StepOK e ti y e1.flushAll ∧ Pre e ti y e1 := by
  split at hv
  · exact Outcome.ok hv hr
  · exact absurd ⟨e1, hr⟩ ((error_iff_not_ok r).mp hv)
end

theorem Verdict.accept_iff {e : Emu} {ti : Nat} {x : Option (ThState × Option Nat)} {r : Except Err Emu}
    (hv : Verdict e ti x r) :
    (∃ e1, r = .ok e1) ↔ ∃ s', x.map ((absOf e.threads).set ti) = some s' ∧ NoOversub e.phys s' := by
  cases x with
  | none => exact iff_of_false ((error_iff_not_ok r).mp hv) fun ⟨_, h, _⟩ => nomatch h
  | some y => exact (Outcome.accept_iff hv).trans ⟨fun h => ⟨_, rfl, h⟩, fun ⟨_, h, hn⟩ => Option.some.inj h ▸ hn⟩

theorem Verdict.ok {e : Emu} {ti : Nat} {x : Option (ThState × Option Nat)} {r : Except Err Emu} {e1 : Emu}
    (hv : Verdict e ti x r) (hr : r = .ok e1) : ∃ y, x = some y ∧ StepOK e ti y e1.flushAll ∧ Pre e ti y e1 := by
  cases x with
  | none => exact absurd ⟨e1, hr⟩ ((error_iff_not_ok r).mp hv)
  | some y => exact ⟨y, rfl, Outcome.ok hv hr⟩

/-- pause / resume / cool / warm: `ok` is the guard of `preThread` for OH`v`, `st` the state it sets;
    `hmn` and `hca` say that the rows of `modelNext` and `cpuAfter` for this `v` are that guard and
    "keep the CPU" (instantiated with `v` = 99, 112, 119, 114 in `preThread_verdict`) -/
theorem change_verdict {e : Emu} (h : WF e) {ti : Nat} {t : Thread} (ht : e.threads[ti]? = some t)
    (ok : ThState → Bool) (st : ThState) {v ci : Nat}
    (hspec : ∀ s, ok s = true → s ≠ st ∧ s ≠ .unknown ∧ s ≠ .dead) (hl1 : st ≠ .unknown) (hl2 : st ≠ .dead)
    (hmn : ∀ s, modelNext s v = if ok s then some st else none) (hca : cpuAfter v t.cpu ci = t.cpu) :
    Verdict e ti ((modelNext t.state v).map fun st' => (st', cpuAfter v t.cpu ci))
      (preThreadChange e ti ok st) := by
  rw [hmn, hca, Option.map_if]
  refine Verdict.guard (fun hok => ?_) fun hok => ⟨_, preThreadChange_err ht ok st (Bool.eq_false_iff.mpr hok)⟩
  obtain ⟨h1, h2, h3⟩ := hspec _ hok
  obtain ⟨ci, hcpu⟩ := (h.th ti t ht).cpu_isSome h2 h3
  rw [hcpu]
  exact change_outcome h ht ok st hcpu hok h1 hl1 hl2

theorem preThread_verdict {e : Emu} (h : WF e) {ti : Nat} {t : Thread} (ht : e.threads[ti]? = some t)
    {v : Nat} (hv : v ∈ [120, 99, 112, 119, 114, 101]) {payload : List Nat} {ci : Nat}
    (hx : v = 120 → 4 ≤ payload.length ∧ loomGetCpu e t.loom (i32At payload 0) = some ci) :
    Verdict e ti ((modelNext t.state v).map fun st' => (st', cpuAfter v t.cpu ci))
      (preThread e ti v payload) := by
  have hth := h.th ti t ht
  simp only [List.mem_cons, List.not_mem_nil, or_false] at hv
  rcases hv with rfl | rfl | rfl | rfl | rfl | rfl
  · -- execute: legal exactly when the thread has no CPU
    obtain ⟨hlen, hci⟩ := hx rfl
    simp only [modelNext, cpuAfter, if_true, Option.map_if]
    exact Verdict.guard (r := preThreadExecute e ti payload)
      (fun hs => execute_outcome h ht hlen hci (hth.cpuIff.mpr hs))
      fun hs => preThreadExecute_err_of_cpu ht payload (mt hth.cpuIff.mp hs)
  · exact change_verdict h ht (fun s => s = .running) .cooling (by intro s; cases s <;> decide) (by decide)
      (by decide) (by intro s; cases s <;> rfl) rfl
  · exact change_verdict h ht (fun s => s = .running || s = .cooling) .paused (by intro s; cases s <;> decide)
      (by decide) (by decide) (by intro s; cases s <;> rfl) rfl
  · exact change_verdict h ht (fun s => s = .paused) .warming (by intro s; cases s <;> decide) (by decide)
      (by decide) (by intro s; cases s <;> rfl) rfl
  · exact change_verdict h ht (fun s => s = .paused || s = .warming) .running (by intro s; cases s <;> decide)
      (by decide) (by decide) (by intro s; cases s <;> rfl) rfl
  · simp only [modelNext, cpuAfter, Nat.reduceEqDiff, if_true, if_false, Option.map_if]
    exact Verdict.guard (r := preThreadEnd e ti) (end_outcome h ht)
      fun hs => ⟨_, preThreadEnd_err ht (fun h' => hs (Or.inl h')) (fun h' => hs (Or.inr h'))⟩

theorem outcome_noop {e : Emu} (h : WF e) {ti : Nat} {t : Thread} (ht : e.threads[ti]? = some t) :
    Outcome e ti (t.state, t.cpu) (.ok e) := by
  have habs : (absOf e.threads).set ti (t.state, t.cpu) = absOf e.threads :=
    List.set_eq_self (absOf_getElem? ht)
  have hs : StepOK e ti (t.state, t.cpu) e.flushAll := by
    refine ⟨wf_flushAll h, ?_, SameStatic.flushAll e⟩
    rw [habs, Emu.flushAll_eq]
    exact absOf_map_flush _
  have hth := h.th ti t ht
  refine ⟨⟨fun _ => hs.noOversub, fun _ => ⟨e, rfl⟩⟩, fun he1 => ?_⟩
  cases he1
  refine ⟨hs, t, ht, ?_⟩
  rw [hth.assign_self]
  exact (List.set_eq_self ht).symm

/-- OAs: the thread must be active; then it is bound to the named CPU -/
theorem preAffinitySet_verdict {e : Emu} (h : WF e) {ti : Nat} {t : Thread} (ht : e.threads[ti]? = some t)
    {payload : List Nat} {ci : Nat} (hlen : payload.length = 4)
    (hci : loomGetCpu e t.loom (i32At payload 0) = some ci) :
    Verdict e ti (if t.state.isActive then some (t.state, some ci) else none)
      (preAffinitySet e ti payload) := by
  have hth := h.th ti t ht
  unfold preAffinitySet
  simp only [ht]
  refine Verdict.guard (fun hact => ?_) fun hact => ?_
  · obtain ⟨cur, hcpu⟩ := hth.cpu_isSome (fun h' => by rw [h'] at hact; cases hact)
      (fun h' => by rw [h'] at hact; cases hact)
    have hl : ¬ payload.length ≠ 4 := by simp [hlen]
    simp only [hcpu, hact, Bool.not_true, Bool.false_eq_true, if_false, hl, hci]
    by_cases hsame : cur = ci
    · simp only [hsame, if_true]
      have := outcome_noop h ht
      rwa [hcpu, hsame] at this
    · simp only [hsame, if_false]
      obtain ⟨ct, hct⟩ := loomGetCpu_some h hci
      exact migrate_outcome h ht hcpu hsame hct
  · rw [Bool.eq_false_iff.mpr hact]
    cases t.cpu <;> exact ⟨_, rfl⟩

theorem findRemote_mem {e : Emu} {t r : Thread} {tid : Int} (h : findRemote e t tid = some r) :
    r ∈ e.threads := by
  unfold findRemote at h
  cases h1 : e.threads.find? (fun x => x.loom = t.loom && x.pid = t.pid && x.tid = tid) with
  | some x => simp only [h1] at h; cases h; exact List.mem_of_find?_eq_some h1
  | none => simp only [h1] at h; exact List.mem_of_find?_eq_some h

/-- OAr: the target thread must have started, not be dead and not be bound to the named CPU already
    (when both `cpu_update`s go through, `thread_migrate_cpu` writes the value the affinity channel
    has: `migrate_same_cpu_err`); it is then bound to the named CPU -/
theorem preAffinityRemote_verdict {e : Emu} (h : WF e) {ti : Nat} {t : Thread} (ht : e.threads[ti]? = some t)
    {payload : List Nat} {ci : Nat} {r : Thread} (hlen : payload.length = 8)
    (hr : findRemote e t (i32At payload 1) = some r)
    (hci : loomGetCpu e t.loom (i32At payload 0) = some ci) :
    Verdict e r.gindex
      (if r.state ≠ .dead ∧ r.state ≠ .unknown ∧ r.cpu ≠ some ci then some (r.state, some ci) else none)
      (preAffinityRemote e ti payload) := by
  have hrt := h.getElem?_of_mem (findRemote_mem hr)
  unfold preAffinityRemote
  have hl : ¬ payload.length ≠ 8 := by simp [hlen]
  simp only [ht, hl, if_false, hr]
  refine Verdict.guard (fun ⟨hd, hu, hdiff⟩ => ?_) fun hq => ?_
  · obtain ⟨cur, hcpu⟩ := (h.th _ r hrt).cpu_isSome hu hd
    simp only [hd, hu, if_false, hcpu, hci]
    obtain ⟨ct, hct⟩ := loomGetCpu_some h hci
    exact migrate_outcome h hrt hcpu (fun h' => hdiff (hcpu.trans (congrArg some h'))) hct
  · by_cases hd : r.state = .dead
    · simp only [hd, if_true]; exact ⟨_, rfl⟩
    by_cases hu : r.state = .unknown
    · simp only [hu, if_true]; exact ⟨_, rfl⟩
    have hsame : r.cpu = some ci := Decidable.by_contra fun h' => hq ⟨hd, hu, h'⟩
    simp only [hd, hu, if_false, hsame, hci]
    exact migrate_same_cpu_err h hrt hsame

/-- The model (like the implementation) rejects a remote affinity change whose target is the
    CPU the thread is already bound to, whatever the payload's length. -/
theorem preAffinityRemote_same_cpu_err {e : Emu} (h : WF e) {ti : Nat} {t : Thread}
    (ht : e.threads[ti]? = some t) {payload : List Nat} {ci : Nat} {r : Thread}
    (hr : findRemote e t (i32At payload 1) = some r)
    (hci : loomGetCpu e t.loom (i32At payload 0) = some ci) (hsame : r.cpu = some ci) :
    ∃ err, preAffinityRemote e ti payload = .error err := by
  by_cases hlen : payload.length = 8
  · exact (error_iff_not_ok _).mpr fun hacc =>
      ((preAffinityRemote_verdict h ht hlen hr hci).guard_accept_iff.mp hacc).1.2.2 hsame
  · unfold preAffinityRemote
    simp only [ht, ne_eq, hlen, not_false_eq_true, if_true]
    exact ⟨_, rfl⟩

/- Which handler `ovniEvent` calls for the events the specification speaks of: OH*, OAs, OAr. -/
section
variable {e : Emu} {ti : Nat} {t : Thread} (ht : e.threads[ti]? = some t) (ho : t.outOfCpu = false)
  (payload : List Nat) (mk : Emu → Nat → Nat → List Nat → Except Err Emu)
include ht ho

theorem ovniEvent_OH (v : Nat) : ovniEvent e ti 72 v payload mk = preThread e ti v payload := by
  unfold ovniEvent; simp only [ht, ho]; rfl

theorem ovniEvent_OAs : ovniEvent e ti 65 115 payload mk = preAffinitySet e ti payload := by
  unfold ovniEvent; simp only [ht, ho]; rfl

theorem ovniEvent_OAr : ovniEvent e ti 65 114 payload mk = preAffinityRemote e ti payload := by
  unfold ovniEvent; simp only [ht, ho]; rfl
end

section
variable (th mh : Emu → Nat → Nat → Nat → List Nat → Except Err Emu)

theorem modelEvent_ovni_eq {e : Emu} (hen : e.enabled.contains 79 = true) (ti c v : Nat) (payload : List Nat) :
    modelEvent e ti 79 c v payload th mh = ovniEvent e ti c v payload (fun e ti v p => mh e ti c v p) := by
  unfold modelEvent
  simp only [show findSpec 79 = some specOvni from rfl, hen]
  rfl

theorem modelEvent_ovni_thread {e e' : Emu} {ti c v : Nat} {payload : List Nat}
    (hm : modelEvent e ti 79 c v payload th mh = .ok e') : ∃ t, e.threads[ti]? = some t := by
  obtain ⟨_, _, _, ⟨_, hov⟩ | ⟨hne, _⟩ | ⟨hne, _⟩⟩ := modelEvent_cases hm
  · exact (ovniEvent_cases hov).1.imp fun _ h => h.1
  · exact absurd rfl hne
  · exact absurd rfl hne
end

theorem finish_ok_iff (e : Emu) :
    finish e = .ok () ↔ (∀ t ∈ e.threads, t.state = .dead) ∧ (e.lint && lintOpen e) = false := by
  unfold finish
  by_cases h1 : e.threads.any (fun t => t.state ≠ .dead) = true
  · simp only [h1, if_true]
    constructor
    · intro h; cases h
    · rintro ⟨h, _⟩
      rw [List.any_eq_true] at h1
      obtain ⟨t, ht, hd⟩ := h1
      simp [h t ht] at hd
  · simp only [h1]
    have hall : ∀ t ∈ e.threads, t.state = .dead := by
      intro t ht
      rw [List.any_eq_true] at h1
      by_cases hd : t.state = .dead
      · exact hd
      · exact absurd ⟨t, ht, by simp [hd]⟩ h1
    by_cases h2 : (e.lint && lintOpen e) = true
    · simp only [h2, if_true]
      constructor
      · intro h; cases h
      · rintro ⟨_, h⟩; cases h
    · simp only [h2]
      exact ⟨fun _ => ⟨hall, by simp at h2; simp⟩, fun _ => rfl⟩

end Ovni.Emu
