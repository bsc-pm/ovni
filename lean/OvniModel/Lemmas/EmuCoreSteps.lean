import OvniModel.Lemmas.EmuCoreWF
import OvniModel.Lemmas.EmuCoreCases

/-
  The handlers of cpu.c and ovni/event.c in closed form (`cpuRefresh_eq`, `preThreadExecute_eq`, …) on
  well-formed states.
-/
namespace Ovni.Emu

/-- the emulator after `cpu_update` of CPU `ci` (old value `c`) with thread list `l` -/
def Emu.updCpu (e : Emu) (ci : Nat) (c : Cpu) (l : List Nat) : Emu :=
  { e with cpus := e.cpus.set ci (({ c with threads := l } : Cpu).withVals (boundOf e.threads l)) }

theorem cpuUpdate_setCpu {e : Emu} {ci : Nat} {c : Cpu} (hg : c.gindex = ci) (h : CpuClean c) (l : List Nat) :
    (cpuUpdate e.threads { c with threads := l } >>= fun c' => pure (e.setCpu c')) =
      if overGuard e.threads l c.virt then .error .oversub else .ok (e.updCpu ci c l) := by
  rw [cpuUpdate_eq h e.threads l]
  unfold Emu.updCpu Emu.setCpu
  split
  · rfl
  · simp only [Cpu.withVals_gindex, hg]; rfl

theorem cpuRefresh_eq {e : Emu} {ci : Nat} {c : Cpu}
    (hc : e.cpus[ci]? = some c) (hg : c.gindex = ci) (h : CpuClean c) :
    cpuRefresh e ci =
      if overGuard e.threads c.threads c.virt then .error .oversub
      else .ok (e.updCpu ci c c.threads) := by
  unfold cpuRefresh
  simp only [hc]
  exact cpuUpdate_setCpu hg h c.threads

theorem cpuAddThread_eq {e : Emu} {ci : Nat} {c : Cpu}
    (hc : e.cpus[ci]? = some c) (hg : c.gindex = ci) (h : CpuClean c) (ti : Nat) :
    cpuAddThread e ci ti =
      if c.threads.contains ti then .error .cpuList
      else if overGuard e.threads (c.threads ++ [ti]) c.virt then .error .oversub
      else .ok (e.updCpu ci c (c.threads ++ [ti])) := by
  unfold cpuAddThread
  simp only [hc]
  split
  · rfl
  · exact cpuUpdate_setCpu hg h _

theorem cpuRemoveThread_eq {e : Emu} {ci : Nat} {c : Cpu}
    (hc : e.cpus[ci]? = some c) (hg : c.gindex = ci) (h : CpuClean c) (ti : Nat) :
    cpuRemoveThread e ci ti =
      if !c.threads.contains ti then .error .cpuList
      else if overGuard e.threads (c.threads.erase ti) c.virt then .error .oversub
      else .ok (e.updCpu ci c (c.threads.erase ti)) := by
  unfold cpuRemoveThread
  simp only [hc]
  split
  · rfl
  · exact cpuUpdate_setCpu hg h _

/-- `Emu.setThread` with the index given: `setThread` stores at `t.gindex`, which on a well-formed
    state is the thread's index (`ThreadOK.setThread_assign`) -/
def Emu.withThread (e : Emu) (ti : Nat) (t : Thread) : Emu := { e with threads := e.threads.set ti t }

theorem ThreadOK.setThread_assign {n ti : Nat} {t : Thread} (h : ThreadOK n ti t) (e : Emu)
    (x : ThState × Option Nat) : e.setThread (t.assign x) = e.withThread ti (t.assign x) := by
  unfold Emu.setThread Emu.withThread; rw [Thread.assign_gindex, h.gidx]

theorem Thread.setState_ok {n g : Nat} {t : Thread} (h : ThreadOK n g t) {ci : Nat} (hcpu : t.cpu = some ci)
    {st : ThState} (hne : t.state ≠ st) (hst : st ≠ .unknown) : t.setState st = .ok (t.assign (st, some ci)) := by
  have := Thread.setState_assign h.chState h.chTid t.cpu hst
  rw [h.assign_self, hcpu, if_neg hne] at this
  exact this

theorem preThreadChange_eq {e : Emu} (h : WF e) {ti : Nat} {t : Thread} (ht : e.threads[ti]? = some t)
    (ok : ThState → Bool) (st : ThState) {ci : Nat} {c : Cpu} (hcpu : t.cpu = some ci)
    (hc : e.cpus[ci]? = some c) (hok : ok t.state = true) (hne : t.state ≠ st) (hl1 : st ≠ .unknown) :
    preThreadChange e ti ok st =
      if overGuard (e.threads.set ti (t.assign (st, some ci))) c.threads c.virt then .error .oversub
      else .ok ((e.withThread ti (t.assign (st, some ci))).updCpu ci c c.threads) := by
  have hth := h.th ti t ht
  have hcp := h.cpu ci c hc
  unfold preThreadChange
  simp only [ht, hok, Thread.setState_ok hth hcpu hne hl1]
  show cpuRefresh (e.setThread (t.assign (st, some ci))) ci = _
  rw [hth.setThread_assign e]
  exact cpuRefresh_eq (e := e.withThread ti _) hc hcp.gidx hcp.vals.cpuClean

theorem preThreadExecute_eq {e : Emu} (h : WF e) {ti : Nat} {t : Thread} (ht : e.threads[ti]? = some t)
    {payload : List Nat} {ci : Nat} {c : Cpu} (hlen : 4 ≤ payload.length)
    (hci : loomGetCpu e t.loom (i32At payload 0) = some ci) (hnone : t.cpu = none)
    (hc : e.cpus[ci]? = some c) :
    preThreadExecute e ti payload =
      if overGuard (e.threads.set ti (t.assign (.running, some ci))) (c.threads ++ [ti]) c.virt then .error .oversub
      else .ok ((e.withThread ti (t.assign (.running, some ci))).updCpu ci c (c.threads ++ [ti])) := by
  have hth := h.th ti t ht
  have hcp := h.cpu ci c hc
  have hst : t.state ≠ .running := by
    rcases hth.cpuIff.mp hnone with h' | h' <;> rw [h'] <;> decide
  have hnotin : c.threads.contains ti = false := by
    simpa [hnone] using hcp.mem.mem_iff ht
  have h1 : t.setCpu ci = .ok (t.assign (t.state, some ci)) := by
    have := Thread.setCpu_assign hth.chCpu t.state ci
    rwa [hth.assign_self, hnone] at this
  have h2 : (t.assign (t.state, some ci)).setState .running = .ok (t.assign (.running, some ci)) := by
    rw [Thread.setState_assign hth.chState hth.chTid (some ci) (by decide), if_neg hst]; rfl
  unfold preThreadExecute
  simp only [ht, hst, show ¬ payload.length < 4 by omega, hci, h1]
  show ((t.assign (t.state, some ci)).setState .running >>= fun t2 => cpuAddThread (e.setThread t2) ci ti) = _
  rw [h2, ok_bind, hth.setThread_assign e,
    cpuAddThread_eq (e := e.withThread ti _) hc hcp.gidx hcp.vals.cpuClean ti, hnotin]
  rfl

theorem preThreadExecute_err_of_cpu {e : Emu} {ti : Nat} {t : Thread}
    (ht : e.threads[ti]? = some t) (payload : List Nat) (hsome : t.cpu ≠ none) :
    ∃ err, preThreadExecute e ti payload = .error err := by
  cases hres : preThreadExecute e ti payload with
  | error err => exact ⟨err, rfl⟩
  | ok e1 =>
    obtain ⟨t', _, _, _, ht', _, _, _, h1, _⟩ := preThreadExecute_cases hres
    rw [ht] at ht'; cases ht'
    exact absurd (Thread.setCpu_cases h1).1 hsome

theorem preThreadEnd_eq {e : Emu} (h : WF e) {ti : Nat} {t : Thread} (ht : e.threads[ti]? = some t)
    {ci : Nat} {c : Cpu} (hst : t.state = .running ∨ t.state = .cooling) (hcpu : t.cpu = some ci)
    (hc : e.cpus[ci]? = some c) :
    preThreadEnd e ti =
      if overGuard (e.threads.set ti (t.assign (.dead, some ci))) (c.threads.erase ti) c.virt then .error .oversub
      else .ok { (e.withThread ti (t.assign (.dead, some ci))).updCpu ci c (c.threads.erase ti) with
                 threads := e.threads.set ti (t.assign (.dead, none)) } := by
  have hth := h.th ti t ht
  have hcp := h.cpu ci c hc
  have hin : c.threads.contains ti = true := by
    simpa using (hcp.mem.mem_iff ht).mpr hcpu
  have hne : t.state ≠ .dead := by rcases hst with h' | h' <;> rw [h'] <;> decide
  have hg : ¬ ((t.state ≠ .running && t.state ≠ .cooling) = true) := by
    rcases hst with h' | h' <;> rw [h'] <;> decide
  have hu : (t.assign (.dead, some ci)).unsetCpu = .ok (t.assign (.dead, none)) := by
    have := Thread.unsetCpu_assign hth.chCpu .dead
    rwa [hcpu] at this
  unfold preThreadEnd
  simp only [ht, hg, Bool.false_eq_true, if_false, Thread.setState_ok hth hcpu hne (by decide)]
  show (cpuRemoveThread (e.setThread (t.assign (.dead, some ci))) ci ti >>= fun e1 =>
    (t.assign (.dead, some ci)).unsetCpu >>= fun t2 => pure (e1.setThread t2)) = _
  rw [hu, hth.setThread_assign e,
    cpuRemoveThread_eq (e := e.withThread ti _) hc hcp.gidx hcp.vals.cpuClean ti, hin]
  show ((if overGuard (e.threads.set ti (t.assign (.dead, some ci))) (c.threads.erase ti) c.virt = true then _ else _)
    >>= _) = _
  rw [guard_bind]
  congr 1
  show Except.ok (Emu.setThread _ _) = _
  rw [hth.setThread_assign]
  unfold Emu.withThread Emu.updCpu
  simp only [List.set_set]

theorem preThreadEnd_err {e : Emu} {ti : Nat} {t : Thread} (ht : e.threads[ti]? = some t)
    (h1 : t.state ≠ .running) (h2 : t.state ≠ .cooling) : preThreadEnd e ti = .error .state := by
  unfold preThreadEnd
  simp only [ht]
  have : (t.state ≠ .running && t.state ≠ .cooling) = true := by simp [h1, h2]
  simp only [this, if_true]; rfl

theorem preThreadChange_err {e : Emu} {ti : Nat} {t : Thread} (ht : e.threads[ti]? = some t)
    (ok : ThState → Bool) (st : ThState) (hok : ok t.state = false) :
    preThreadChange e ti ok st = .error .state := by
  unfold preThreadChange
  simp only [ht, hok]; rfl

theorem cpuAddThread_threads {e e' : Emu} {ci ti : Nat} (h : cpuAddThread e ci ti = .ok e') :
    e'.threads = e.threads := by
  obtain ⟨_, _, _, _, _, rfl⟩ := cpuAddThread_cases h
  rfl

theorem cpuRemoveThread_threads {e e' : Emu} {ci ti : Nat} (h : cpuRemoveThread e ci ti = .ok e') :
    e'.threads = e.threads := by
  obtain ⟨_, _, _, _, _, rfl⟩ := cpuRemoveThread_cases h
  rfl

/-- The implementation (and the model) reject a migration whose target is the thread's
    current CPU: when both `cpu_update`s go through, `thread_migrate_cpu` writes the value the
    affinity channel already has. -/
theorem migrate_same_cpu_err {e : Emu} (h : WF e) {ti : Nat} {t : Thread} (ht : e.threads[ti]? = some t)
    {ci : Nat} (hcpu : t.cpu = some ci) : ∃ err, migrate e ti ci ci = .error err := by
  cases hres : migrate e ti ci ci with
  | error err => exact ⟨err, rfl⟩
  | ok e' =>
    obtain ⟨e1, e2, t', t1, hrm, hadd, ht', hm, _⟩ := migrate_cases hres
    rw [cpuAddThread_threads hadd, cpuRemoveThread_threads hrm, ht] at ht'
    cases ht'
    have := Thread.migrateCpu_assign (h.th ti t ht).chCpu t.state ci
    rw [(h.th ti t ht).assign_self, hm, hcpu] at this
    simp at this

theorem migrate_eq {e : Emu} (h : WF e) {ti : Nat} {t : Thread} (ht : e.threads[ti]? = some t)
    {fr to : Nat} {cf ct : Cpu} (hcpu : t.cpu = some fr) (hne : fr ≠ to)
    (hcf : e.cpus[fr]? = some cf) (hct : e.cpus[to]? = some ct) :
    migrate e ti fr to =
      if overGuard e.threads (cf.threads.erase ti) cf.virt || overGuard e.threads (ct.threads ++ [ti]) ct.virt
      then .error .oversub
      else .ok (((e.updCpu fr cf (cf.threads.erase ti)).updCpu to ct (ct.threads ++ [ti])).withThread ti
        (t.assign (t.state, some to))) := by
  -- the two `cpu_update`s, each behind its guard
  rw [guard_or]
  have hth := h.th ti t ht
  have hpf := h.cpu fr cf hcf
  have hpt := h.cpu to ct hct
  have hin : cf.threads.contains ti = true := by
    simpa using (hpf.mem.mem_iff ht).mpr hcpu
  have hnotin : ct.threads.contains ti = false := by
    simpa [hcpu, hne] using hpt.mem.mem_iff ht
  unfold migrate
  rw [cpuRemoveThread_eq hcf hpf.gidx hpf.vals.cpuClean ti]
  simp only [hin, Bool.not_true, Bool.false_eq_true, if_false]
  rw [guard_bind]
  congr 1
  have hct1 : (e.updCpu fr cf (cf.threads.erase ti)).cpus[to]? = some ct := by
    show (e.cpus.set fr _)[to]? = some ct
    rw [List.getElem?_set_ne hne]; exact hct
  rw [cpuAddThread_eq (e := e.updCpu fr cf (cf.threads.erase ti)) hct1 hpt.gidx hpt.vals.cpuClean ti]
  simp only [hnotin, Bool.false_eq_true, if_false]
  show ((if overGuard e.threads (ct.threads ++ [ti]) ct.virt = true then _ else _) >>= _) = _
  rw [guard_bind]
  congr 1
  have hths : ((e.updCpu fr cf (cf.threads.erase ti)).updCpu to ct (ct.threads ++ [ti])).threads[ti]? = some t := ht
  have hm : t.migrateCpu to = .ok (t.assign (t.state, some to)) := by
    have := Thread.migrateCpu_assign hth.chCpu t.state to
    rwa [hth.assign_self, hcpu, if_neg (by simp), if_neg fun h' => hne (Option.some.inj h')] at this
  simp only [hths, hm, ok_bind]
  show Except.ok _ = Except.ok _
  rw [hth.setThread_assign]

end Ovni.Emu
