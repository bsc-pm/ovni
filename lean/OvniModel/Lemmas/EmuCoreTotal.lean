import OvniModel.Lemmas.EmuCoreHist
import OvniModel.Lemmas.EmuCoreRec

/-
  `records old new` succeeds whenever `new.flushAll` is well-formed and `new` satisfies `NoZeroIds`.

  `records` (pv/prv.c `emit`) fails only through `prvValue`: an integer 0 on a
  Paraver type without PRV_ZERO.  `NoZeroIds` is the side condition under which
  that cannot happen for the events of the ovni model that leave the model
  channels alone (OH*, OA*): non-zero TIDs and PIDs (the loader refuses 0) and
  no forbidden value among the raw model-channel values / CPU-mux defaults.
-/
namespace Ovni.Emu
open Ovni.Generated

theorem prvOk_plain {i : Int} (h : i ≠ 0) : prvOk 0 (.int i) = true :=
  prvOk_iff.mpr ⟨_, prvValue_plain h⟩

theorem prvOk_next (n : Nat) : prvOk prvNext (.int n) = true :=
  prvOk_iff.mpr ⟨_, prvValue_next n⟩

theorem prvOk_zero (v : Value) : prvOk prvZero v = true := by
  unfold prvOk prvValue
  cases v <;> simp [prvNext, prvZero]

theorem prvOk_state (s : ThState) : prvOk prvSkipDup (stateVal s) = true :=
  prvOk_iff.mpr ⟨_, prvValue_state s⟩

theorem prvOk_tid (s : ThState) {tid : Int} (h : tid ≠ 0) : prvOk 0 (tidVal s tid) = true := by
  rw [tidVal_eq]
  split
  · exact prvOk_plain h
  · rfl

theorem prvOk_cpu (c : Option Nat) : prvOk prvNext (cpuVal c) = true := by
  cases c with
  | none => rfl
  | some ci => exact prvOk_next ci

theorem prvOk_uniq {l : List Thread} {f : Thread → Int} (h : ∀ t ∈ l, f t ≠ 0) : prvOk 0 (uniq l f) = true := by
  unfold uniq
  rcases l with _ | ⟨t, _ | ⟨t', r⟩⟩
  · rfl
  · exact prvOk_plain (h t (List.mem_singleton.mpr rfl))
  · rfl

/-- the raw value of channel `i` of model `m` of a thread can be emitted with the channel's flags
    (`null` when the thread has no such channel) -/
def Thread.chanOk (t : Thread) (m : ModelSpec) (i : Nat) : Bool :=
  match t.getChans m.char with
  | none => true
  | some cs => prvOk (m.prvFlags.getD i 0) (cs.getD i {}).cur

def Thread.noZero (specs : List ModelSpec) (t : Thread) : Bool :=
  t.tid != 0 && t.pid != 0 && specs.all fun m => (List.range m.nch).all fun i => t.chanOk m i

def ModelSpec.defaultOk (m : ModelSpec) : Bool :=
  (List.range m.nch).all fun i =>
    match m.cpuDefault.find? (·.1 == i) with
    | some (_, v) => prvOk (m.prvFlags.getD i 0) (.int v)
    | none => true

/-- Side condition for total record emission (more than ids, despite the name): every thread has
    a non-zero TID and PID; the raw value every model channel (of the enabled models and the
    run-time groups) holds, and every CPU-mux default, is accepted by `emit` under the channel's
    flags. -/
def NoZeroIds (e : Emu) : Prop :=
  (∀ t ∈ e.threads, t.noZero e.specs = true) ∧ (∀ m ∈ e.specs, m.defaultOk = true)

instance (e : Emu) : Decidable (NoZeroIds e) := by unfold NoZeroIds; exact inferInstance

theorem Thread.noZero_iff {specs : List ModelSpec} {t : Thread} :
    t.noZero specs = true ↔ t.tid ≠ 0 ∧ t.pid ≠ 0 ∧ ∀ m ∈ specs, ∀ i, i < m.nch → t.chanOk m i = true := by
  unfold Thread.noZero
  simp only [Bool.and_eq_true, bne_iff_ne, ne_eq, List.all_eq_true, List.mem_range, and_assoc]

theorem thView_ok {specs : List ModelSpec} {t : Thread} (h : t.noZero specs = true) {m : ModelSpec}
    (hm : m ∈ specs) (i : Nat) (hi : i < m.nch) : prvOk (m.prvFlags.getD i 0) (thView t m i) = true := by
  have hc := (Thread.noZero_iff.mp h).2.2 m hm i hi
  unfold Thread.chanOk at hc
  unfold thView
  cases hg : t.getChans m.char with
  | none => rfl
  | some cs =>
    rw [hg] at hc
    simp only
    split
    · exact hc
    · rfl

theorem cpuSelected_mem {e : Emu} {c : Cpu} {t : Thread} (h : cpuSelected e c = some t) : t ∈ e.threads := by
  unfold cpuSelected at h
  split at h
  · split at h
    · cases h
    · exact List.mem_of_getElem? h
  · cases h

theorem cpuView_ok {e : Emu} (h : NoZeroIds e) (c : Cpu) {m : ModelSpec} (hm : m ∈ e.specs) (i : Nat)
    (hi : i < m.nch) : prvOk (m.prvFlags.getD i 0) (cpuView e c m i) = true := by
  unfold cpuView
  cases hs : cpuSelected e c with
  | none =>
    have hd := h.2 m hm
    unfold ModelSpec.defaultOk at hd
    rw [List.all_eq_true] at hd
    have := hd i (List.mem_range.mpr hi)
    simp only
    cases hf : m.cpuDefault.find? (·.1 == i) with
    | none => rfl
    | some x => rw [hf] at this; exact this
  | some t =>
    have hc := (Thread.noZero_iff.mp (h.1 t (cpuSelected_mem hs))).2.2 m hm i hi
    unfold Thread.chanOk at hc
    simp only
    cases hg : t.getChans m.char with
    | none => rfl
    | some cs => rw [hg] at hc; exact hc

/-- before the flush the three raw channels of every thread already show its logical state (that of
    its flushed form, which is a thread of the flushed state) -/
theorem wf_flush_thread {e : Emu} (hw : WF e.flushAll) {t : Thread} (ht : t ∈ e.threads) :
    (∃ i : Nat, e.flushAll.threads[i]? = some t.flush) ∧
    t.chState.cur = stateVal t.state ∧ t.chTid.cur = tidVal t.state t.tid ∧ t.chCpu.cur = cpuVal t.cpu := by
  obtain ⟨i, hi⟩ := List.mem_iff_getElem?.mp ht
  have hif : e.flushAll.threads[i]? = some t.flush := by rw [Emu.flushAll_threads_getElem?, hi]; rfl
  have hth := hw.th i t.flush hif
  exact ⟨⟨i, hif⟩, (Chan.flush_cur t.chState).symm.trans hth.chState.cur,
    (Chan.flush_cur t.chTid).symm.trans hth.chTid.cur,
    (Chan.flush_cur t.chCpu).symm.trans hth.chCpu.cur⟩

theorem CpuOK.view {ths : List Thread} {g : Nat} {c : Cpu} (h : CpuOK ths g c) :
    prvValue prvZero c.chNrun.cur = .ok (runOf (onCpu ths g)).length ∧
      c.chTid.cur = uniq (runOf (onCpu ths g)) (·.tid) ∧ c.chPid.cur = uniq (runOf (onCpu ths g)) (·.pid) := by
  obtain ⟨vn, hch, hn⟩ := h.vals
  refine ⟨?_, hch.tid.cur, hch.pid.cur⟩
  rw [hch.nrun.cur]
  rcases hn with rfl | ⟨rfl, h0⟩
  · rfl
  · rw [h0]; rfl

/-- `CpuOK.view` before the flush -/
theorem wf_flush_cpu {e : Emu} (hw : WF e.flushAll) {g : Nat} {c : Cpu} (hc : e.cpus[g]? = some c) :
    c.gindex = g ∧ prvValue prvZero c.chNrun.cur = .ok (runOf (onCpu e.flushAll.threads g)).length ∧
      c.chTid.cur = uniq (runOf (onCpu e.flushAll.threads g)) (·.tid) ∧
      c.chPid.cur = uniq (runOf (onCpu e.flushAll.threads g)) (·.pid) := by
  have hcp := hw.cpu g c.flush (by rw [Emu.flushAll_cpus_getElem?, hc]; rfl)
  have hv := hcp.view
  simp only [Cpu.flush, Chan.flush_cur] at hv
  exact ⟨hcp.gidx, hv⟩

theorem mem_runOf_onCpu {ths : List Thread} {g : Nat} {t : Thread} (h : t ∈ runOf (onCpu ths g)) : t ∈ ths := by
  unfold runOf onCpu at h
  exact (List.mem_filter.mp (List.mem_filter.mp h).1).1

theorem records_total_of_wf (old : Emu) {new : Emu} (hw : WF new.flushAll) (hz : NoZeroIds new) :
    ∃ rs, records old new = .ok rs := by
  rw [records_eq]
  refine cells_ok_iff.mpr fun c hc _ => prvOk_iff.mp ?_
  rcases mem_cells.mp hc with ⟨t, ht, hc⟩ | ⟨k, hk, hc⟩
  · obtain ⟨_, a, b, c'⟩ := wf_flush_thread hw ht
    have hn := hz.1 t ht
    rcases mem_rowCells.mp hc with ⟨x, hx, rfl⟩ | ⟨m, hm, i, hi, rfl⟩
    · simp only [thRaws, List.mem_cons, List.not_mem_nil, or_false] at hx
      rcases hx with rfl | rfl | rfl
      · simp only [c']; exact prvOk_cpu _
      · simp only [b]; exact prvOk_tid _ (Thread.noZero_iff.mp hn).1
      · simp only [a]; exact prvOk_state _
    · exact thView_ok hn hm i hi
  · obtain ⟨g, hg⟩ := List.mem_iff_getElem?.mp hk
    obtain ⟨_, _, b, a⟩ := wf_flush_cpu hw hg
    have hids : ∀ t ∈ runOf (onCpu new.flushAll.threads g), t.pid ≠ 0 ∧ t.tid ≠ 0 := by
      intro t ht
      obtain ⟨u, hu, rfl⟩ := List.mem_map.mp (Emu.flushAll_eq new ▸ mem_runOf_onCpu ht)
      have hid := Thread.noZero_iff.mp (hz.1 u hu)
      exact ⟨hid.2.1, hid.1⟩
    rcases mem_rowCells.mp hc with ⟨x, hx, rfl⟩ | ⟨m, hm, i, hi, rfl⟩
    · simp only [cpuRaws, List.mem_cons, List.not_mem_nil, or_false] at hx
      rcases hx with rfl | rfl | rfl
      · simp only [a]; exact prvOk_uniq fun t ht => (hids t ht).1
      · simp only [b]; exact prvOk_uniq fun t ht => (hids t ht).2
      · exact prvOk_zero _
    · exact cpuView_ok hz k hm i hi

theorem noZero_static {t t' : Thread} (h : t'.static = t.static) (specs : List ModelSpec) :
    t'.noZero specs = t.noZero specs := by
  have hc : ∀ m i, t'.chanOk m i = t.chanOk m i := by
    intro m i
    have key : ∀ u : Thread, u.chanOk m i =
        ((u.getChans m.char).map fun cs => (cs.getD i {}).vals).elim true fun vs =>
          prvOk (m.prvFlags.getD i 0) (match vs.getLast? with | some v => v | none => .null) :=
      fun u => by unfold Thread.chanOk; cases u.getChans m.char <;> rfl
    rw [key, key, static_chan_vals h]
  unfold Thread.noZero
  simp only [hc, static_tid h, static_pid h]

theorem SameStatic.specs {e e' : Emu} (h : SameStatic e e') : e'.specs = e.specs := by
  unfold Emu.specs; rw [h.enabled, h.extra]

theorem NoZeroIds.of_static {e e' : Emu} (h : SameStatic e e') (hz : NoZeroIds e) : NoZeroIds e' := by
  refine ⟨fun t ht => ?_, fun m hm => ?_⟩
  · have hk : t.static ∈ e.threads.map Thread.static := by
      rw [← h.threads]; exact List.mem_map.mpr ⟨t, ht, rfl⟩
    obtain ⟨u, hu, hus⟩ := List.mem_map.mp hk
    rw [noZero_static hus.symm, h.specs]
    exact hz.1 u hu
  · rw [h.specs] at hm; exact hz.2 m hm

theorem NoZeroIds.flushAll {e : Emu} (hz : NoZeroIds e) : NoZeroIds e.flushAll :=
  hz.of_static (SameStatic.flushAll e)

theorem NoZeroIds.of_flushAll {e : Emu} (hz : NoZeroIds e.flushAll) : NoZeroIds e :=
  hz.of_static (SameStatic.flushAll e).symm

def ModelSpec.initOk (m : ModelSpec) : Bool :=
  (List.range m.nch).all fun i =>
    match m.initVals.find? (·.1 == i) with
    | some (_, v) => prvOk (m.prvFlags.getD i 0) (.int v)
    | none => true

theorem allSpecs_initOk_defaultOk : ∀ m ∈ allSpecs, m.initOk = true ∧ m.defaultOk = true := by decide

theorem allSpecs_chars_nodup : (allSpecs.map (·.char)).Nodup := by decide

theorem freshChans_cur (m : ModelSpec) {i : Nat} (hi : i < m.nch) :
    (m.freshChans.getD i {}).cur =
      match m.initVals.find? (·.1 == i) with
      | some (_, v) => .int v
      | none => .null := by
  unfold ModelSpec.freshChans
  rw [List.getD_eq_getElem?_getD, List.getElem?_map, List.getElem?_range hi]
  simp only [Option.map_some, Option.getD_some]
  cases m.initVals.find? (·.1 == i) with
  | none => rfl
  | some y => rfl

theorem find_char_of_nodup : ∀ {specs : List ModelSpec}, (specs.map (·.char)).Nodup → ∀ {m : ModelSpec}, m ∈ specs →
    (specs.map fun s => (s.char, s.freshChans)).find? (·.1 == m.char) = some (m.char, m.freshChans)
  | [], _, m, hm => by cases hm
  | s :: rest, hnd, m, hm => by
    rw [List.map_cons, List.nodup_cons] at hnd
    rw [List.map_cons, List.find?_cons]
    rcases List.mem_cons.mp hm with rfl | hm'
    · simp
    · have hne : ¬ (s.char = m.char) := fun h => hnd.1 (h ▸ List.mem_map.mpr ⟨m, hm', rfl⟩)
      have hb : (s.char == m.char) = false := by simp [hne]
      simp only [hb]
      exact find_char_of_nodup hnd.2 hm'

/-- No TID / PID is 0, the channel groups have distinct ids, and the connect-time values and
    CPU-mux defaults of the run-time groups are accepted by `emit` (those of the eight models
    are: `allSpecs_initOk_defaultOk`). -/
theorem noZeroIds_mkEmu (threads : List (Int × Int × Nat)) (cpus : List (Nat × Int × Bool))
    (enabled : List Nat) (lint : Bool) (extra : List ModelSpec)
    (hid : ∀ x ∈ threads, x.1 ≠ 0 ∧ x.2.1 ≠ 0)
    (hx : ∀ m ∈ extra, m.initOk = true ∧ m.defaultOk = true)
    (hnd : ((allSpecs.filter (fun s => enabled.contains s.char) ++ extra).map (·.char)).Nodup) :
    NoZeroIds (mkEmu threads cpus enabled lint extra) := by
  have hspecs : (mkEmu threads cpus enabled lint extra).specs =
      allSpecs.filter (fun s => enabled.contains s.char) ++ extra := rfl
  have hok : ∀ m ∈ allSpecs.filter (fun s => enabled.contains s.char) ++ extra,
      m.initOk = true ∧ m.defaultOk = true := by
    intro m hm
    rcases List.mem_append.mp hm with hm | hm
    · exact allSpecs_initOk_defaultOk m (List.mem_filter.mp hm).1
    · exact hx m hm
  refine ⟨fun t ht => ?_, fun m hm => ?_⟩
  · rw [hspecs]
    obtain ⟨i, hi⟩ := List.mem_iff_getElem?.mp ht
    obtain ⟨x, hxi, rfl⟩ := mkEmu_thread threads cpus enabled lint extra hi
    obtain ⟨h1, h2⟩ := hid x (List.mem_of_getElem? hxi)
    refine Thread.noZero_iff.mpr ⟨h1, h2, fun m hm j hj => ?_⟩
    unfold Thread.chanOk Thread.getChans
    simp only [find_char_of_nodup hnd hm, Option.map_some]
    rw [freshChans_cur m hj]
    have hio := (hok m hm).1
    unfold ModelSpec.initOk at hio
    rw [List.all_eq_true] at hio
    have := hio j (List.mem_range.mpr hj)
    cases hf : m.initVals.find? (·.1 == j) with
    | none => rfl
    | some y => rw [hf] at this; exact this
  · rw [hspecs] at hm; exact (hok m hm).2

section
variable (th mh : Emu → Nat → Nat → Nat → List Nat → Except Err Emu)

theorem records_total_step {e e1 : Emu} (h : WF e) (hz : NoZeroIds e) (hen : e.enabled.contains 79 = true)
    {ev : OEv} (hk : IsThreadEv ev ∨ IsAffinityEv ev)
    (hm : modelEvent e ev.1 79 ev.2.1 ev.2.2.1 ev.2.2.2 th mh = .ok e1) :
    (∃ rs, records e e1 = .ok rs) ∧ NoZeroIds e1.flushAll := by
  have hs : emuStep th mh e ev = .ok e1.flushAll := (emuStep_ok_iff th mh e ev _).mpr ⟨e1, hm, rfl⟩
  obtain ⟨tj, x, hso⟩ := emuStep_sound th mh h hen hk hs
  have hz1 : NoZeroIds e1.flushAll := hz.of_static hso.static
  exact ⟨records_total_of_wf e hso.wf hz1.of_flushAll, hz1⟩

theorem stepEv_iff_emuStep {e : Emu} (h : WF e) (hz : NoZeroIds e) (hen : e.enabled.contains 79 = true)
    {ev : OEv} (hk : IsThreadEv ev ∨ IsAffinityEv ev) (e' : Emu) :
    (∃ rs, stepEv e ev.1 79 ev.2.1 ev.2.2.1 ev.2.2.2 th mh = .ok (e', rs)) ↔ emuStep th mh e ev = .ok e' := by
  constructor
  · rintro ⟨rs, hs⟩; exact stepEv_emuStep th mh hs
  · intro hs
    obtain ⟨e1, hm, he'⟩ := (emuStep_ok_iff th mh e ev e').mp hs
    obtain ⟨⟨rs, hrs⟩, _⟩ := records_total_step th mh h hz hen hk hm
    exact ⟨rs, (stepEv_ok_iff th mh).mpr ⟨e1, hm, hrs, he'⟩⟩

theorem stepEv_error_of_emuStep_ok {e e' : Emu} {ev : OEv} (hs : emuStep th mh e ev = .ok e') {err : Err}
    (hf : stepEv e ev.1 79 ev.2.1 ev.2.2.1 ev.2.2.2 th mh = .error err) : err = .prvZero := by
  obtain ⟨e1, hm, _⟩ := (emuStep_ok_iff th mh e ev e').mp hs
  unfold stepEv at hf
  rw [hm] at hf
  simp only [ok_bind] at hf
  cases hr : records e e1 with
  | error e2 =>
    rw [hr] at hf
    cases hf
    exact records_error hr
  | ok rs => rw [hr] at hf; cases hf
end

end Ovni.Emu
