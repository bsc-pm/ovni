import OvniModel.Lemmas.EmuCore

/-
  The invariant `WF` of the emulator between events: every channel flushed and showing the
  logical state (`ThreadOK`, `CpuValsOK`); `cpu ≠ none ↔ state ∈ {running, cooling, paused,
  warming}`; `ti ∈ c.threads ↔ t.cpu = some c.gindex`, no duplicates (`Membership`); indices
  consistent; at most one running thread per physical CPU.  `WF.step`: the one preservation
  theorem, for a step that rewrites one thread and updates or keeps each CPU (`CpuStep`).
-/
namespace Ovni.Emu

def Thread.flush (t : Thread) : Thread :=
  { t with chCpu := t.chCpu.flush, chTid := t.chTid.flush, chState := t.chState.flush,
           mch := t.mch.map fun x => (x.1, x.2.map Chan.flush) }

def Cpu.flush (c : Cpu) : Cpu :=
  { c with chNrun := c.chNrun.flush, chPid := c.chPid.flush, chTid := c.chTid.flush,
           chThrun := c.chThrun.flush, chThact := c.chThact.flush }

theorem Emu.flushAll_eq (e : Emu) :
    e.flushAll = { e with threads := e.threads.map Thread.flush, cpus := e.cpus.map Cpu.flush } := rfl

theorem Emu.flushAll_threads_getElem? (e : Emu) (i : Nat) :
    e.flushAll.threads[i]? = (e.threads[i]?).map Thread.flush := by
  rw [Emu.flushAll_eq]; exact List.getElem?_map

theorem Emu.flushAll_cpus_getElem? (e : Emu) (g : Nat) :
    e.flushAll.cpus[g]? = (e.cpus[g]?).map Cpu.flush := by
  rw [Emu.flushAll_eq]; exact List.getElem?_map

structure ThreadOK (ncpu g : Nat) (t : Thread) : Prop where
  gidx : t.gindex = g
  chState : ChanOK t.chState (stateVal t.state) false
  chTid : ChanOK t.chTid (tidVal t.state t.tid) true
  chCpu : ChanOK t.chCpu (cpuVal t.cpu) false
  cpuIff : t.cpu = none ↔ (t.state = .unknown ∨ t.state = .dead)
  cpuLt : ∀ ci, t.cpu = some ci → ci < ncpu
  inCpu : t.outOfCpu = false

/-- the running-threads channel holds the count; before the first `cpu_update` of the CPU it is
    still empty (Paraver shows 0 in both cases) -/
def NrunVal (w : Value) (n : Nat) : Prop := w = .int n ∨ (w = .null ∧ n = 0)

/-- the CPU's five channels hold the values `cpu_update` derives from the thread list `b` -/
def CpuValsOK (c : Cpu) (b : List Thread) : Prop :=
  ∃ vn, CpuChansOK c vn (uniq (runOf b) (·.pid)) (uniq (runOf b) (·.tid))
    (uniq (runOf b) (fun t => (t.gindex : Int))) (uniq (actOf b) (fun t => (t.gindex : Int))) ∧
    NrunVal vn (runOf b).length

theorem CpuValsOK.cpuClean {c : Cpu} {b : List Thread} (h : CpuValsOK c b) : CpuClean c := by
  obtain ⟨vn, h, _⟩ := h; exact ⟨_, _, _, _, _, h⟩

structure CpuOK (ths : List Thread) (g : Nat) (c : Cpu) : Prop where
  gidx : c.gindex = g
  mem : Membership ths g c.threads
  vals : CpuValsOK c (onCpu ths g)
  phys : c.virt = false → (runOf (onCpu ths g)).length ≤ 1

/-- Well-formed (flushed) emulator state: the invariant of C04 / C05. -/
structure WF (e : Emu) : Prop where
  th : ∀ i t, e.threads[i]? = some t → ThreadOK e.cpus.length i t
  cpu : ∀ g c, e.cpus[g]? = some c → CpuOK e.threads g c

theorem ThreadOK.flush {n g : Nat} {t : Thread} (h : ThreadOK n g t) : ThreadOK n g t.flush :=
  { gidx := h.gidx, chState := h.chState.flush, chTid := h.chTid.flush, chCpu := h.chCpu.flush,
    cpuIff := h.cpuIff, cpuLt := h.cpuLt, inCpu := h.inCpu }

theorem ThreadOK.assign_flush {n g : Nat} {t : Thread} (h : ThreadOK n g t) (x : ThState × Option Nat)
    (hiff : x.2 = none ↔ (x.1 = .unknown ∨ x.1 = .dead)) (hlt : ∀ ci, x.2 = some ci → ci < n) :
    ThreadOK n g (t.assign x).flush :=
  { gidx := h.gidx, chState := h.chState.setv_flush _, chTid := h.chTid.setv_flush _,
    chCpu := h.chCpu.setv_flush _, cpuIff := hiff, cpuLt := hlt, inCpu := h.inCpu }

theorem ThreadOK.assign_self {n g : Nat} {t : Thread} (h : ThreadOK n g t) : t.assign (t.state, t.cpu) = t := by
  unfold Thread.assign
  rw [h.chState.setv_same, h.chTid.setv_same, h.chCpu.setv_same]

theorem CpuChansOK.withVals_flush {c : Cpu} {vn vp vt vr va : Value} (h : CpuChansOK c vn vp vt vr va)
    (l : List Nat) (b : List Thread) : CpuValsOK (({ c with threads := l } : Cpu).withVals b).flush b :=
  ⟨_, { nrun := h.nrun.setv_flush _, pid := h.pid.setv_flush _, tid := h.tid.setv_flush _,
        thrun := h.thrun.setv_flush _, thact := h.thact.setv_flush _ }, Or.inl rfl⟩

theorem CpuValsOK.flush {c : Cpu} {b : List Thread} (h : CpuValsOK c b) : CpuValsOK c.flush b := by
  obtain ⟨vn, h, hn⟩ := h
  exact ⟨vn, { nrun := h.nrun.flush, pid := h.pid.flush, tid := h.tid.flush, thrun := h.thrun.flush,
               thact := h.thact.flush }, hn⟩

theorem CpuOK.flush {ths : List Thread} {g : Nat} {c : Cpu} (h : CpuOK ths g c) : CpuOK ths g c.flush :=
  { gidx := h.gidx, mem := h.mem, vals := h.vals.flush, phys := h.phys }

theorem onCpu_map_flush (ths : List Thread) (g : Nat) : SameKeys (onCpu ths g) (onCpu (ths.map Thread.flush) g) := by
  unfold SameKeys onCpu
  rw [List.filter_map, List.map_map]
  exact .refl _

theorem CpuValsOK.congr {c : Cpu} {b b' : List Thread} (h : SameKeys b b') (hv : CpuValsOK c b) : CpuValsOK c b' := by
  obtain ⟨e1, e2, e3, e4, e5⟩ := h.vals
  unfold CpuValsOK at hv ⊢
  rw [← e1, ← e2, ← e3, ← e4, ← e5]; exact hv

theorem Membership.map_flush {ths : List Thread} {g : Nat} {l : List Nat} (h : Membership ths g l) :
    Membership (ths.map Thread.flush) g l := by
  refine ⟨h.nodup, fun i => ?_⟩
  rw [h.mem, List.getElem?_map]
  constructor
  · rintro ⟨t, ht, hc⟩; exact ⟨t.flush, by simp [ht], hc⟩
  · rintro ⟨t, ht, hc⟩
    cases hth : ths[i]? with
    | none => simp [hth] at ht
    | some u => simp [hth] at ht; subst ht; exact ⟨u, rfl, hc⟩

theorem CpuOK.map_flush {ths : List Thread} {g : Nat} {c : Cpu} (h : CpuOK ths g c) :
    CpuOK (ths.map Thread.flush) g c := by
  have hk := onCpu_map_flush ths g
  exact ⟨h.gidx, h.mem.map_flush, h.vals.congr hk, fun hv => hk.vals.1 ▸ h.phys hv⟩

theorem WF.assemble (e : Emu) (ths' : List Thread) (cpus' : List Cpu)
    (hT : ∀ i t, ths'[i]? = some t → ThreadOK cpus'.length i t.flush)
    (hC : ∀ g c, cpus'[g]? = some c → CpuOK ths' g c.flush) :
    WF ({ e with threads := ths', cpus := cpus' } : Emu).flushAll := by
  rw [Emu.flushAll_eq]
  constructor
  · intro i t ht
    simp only [List.getElem?_map, List.length_map] at ht ⊢
    cases h : ths'[i]? with
    | none => simp [h] at ht
    | some u => simp [h] at ht; subst ht; exact hT i u h
  · intro g c hc
    simp only [List.getElem?_map] at hc ⊢
    cases h : cpus'[g]? with
    | none => simp [h] at hc
    | some u => simp [h] at hc; subst hc; exact (hC g u h).map_flush

theorem wf_flushAll {e : Emu} (h : WF e) : WF e.flushAll :=
  WF.assemble e e.threads e.cpus (fun i t ht => (h.th i t ht).flush) (fun g c hc => (h.cpu g c hc).flush)

theorem WF.getElem?_of_mem {e : Emu} (h : WF e) {r : Thread} (hr : r ∈ e.threads) :
    e.threads[r.gindex]? = some r := by
  obtain ⟨i, hi⟩ := List.mem_iff_getElem?.mp hr
  rw [(h.th i r hi).gidx]; exact hi

theorem ThreadOK.cpu_isSome {n g : Nat} {t : Thread} (h : ThreadOK n g t) (h1 : t.state ≠ .unknown)
    (h2 : t.state ≠ .dead) : ∃ ci, t.cpu = some ci :=
  Option.ne_none_iff_exists'.mp (mt h.cpuIff.mp fun h' => h'.elim h1 h2)

theorem WF.cpu_lists {e : Emu} (h : WF e) {ti : Nat} {t : Thread} (ht : e.threads[ti]? = some t) {ci : Nat}
    (hcpu : t.cpu = some ci) : ∃ c, e.cpus[ci]? = some c ∧ ti ∈ c.threads :=
  have hc := List.getElem?_eq_getElem ((h.th ti t ht).cpuLt ci hcpu)
  ⟨_, hc, ((h.cpu ci _ hc).mem.mem_iff ht).mpr hcpu⟩

/-- an accepted `cpu_update` over the list `l`, evaluated against thread table `ths`, leaves the CPU
    well-formed w.r.t. the final thread table `ths2` -/
theorem CpuOK.of_update {c : Cpu} (hcl : CpuClean c)
    {ths ths2 : List Thread} {g : Nat} (hg : c.gindex = g) {l : List Nat}
    (hagree : ∀ i ∈ l, (ths[i]?).map Thread.key = (ths2[i]?).map Thread.key)
    (hm : Membership ths2 g l)
    (hguard : overGuard ths l c.virt = false) :
    CpuOK ths2 g (({ c with threads := l } : Cpu).withVals (boundOf ths l)).flush := by
  obtain ⟨vn, vp, vt, vr, va, hch⟩ := hcl
  refine ⟨hg, hm, ?_, fun hv => ?_⟩
  · rw [(boundOf_sameKeys hagree hm).withVals]; exact hch.withVals_flush l _
  · rw [← (boundOf_sameKeys hagree hm).vals.1]; exact Nat.le_of_not_lt fun hlt =>
      Bool.false_ne_true (hguard.symm.trans (overGuard_eq_true_iff.mpr ⟨hv, hlt⟩))

theorem onCpu_set_other {ths : List Thread} {ti g : Nat} {t t' : Thread} (ht : ths[ti]? = some t)
    (h1 : t.cpu ≠ some g) (h2 : t'.cpu ≠ some g) : onCpu (ths.set ti t') g = onCpu ths g := by
  unfold onCpu
  exact filter_set_irrelevant _ t' ths ti t ht (by simpa using h1) (by simpa using h2)

theorem Membership.set {ths : List Thread} {ti g : Nat} {t t' : Thread} {l l' : List Nat}
    (h : Membership ths g l) (ht : ths[ti]? = some t) (hnd : l'.Nodup)
    (hmem : ∀ i, i ∈ l' ↔ if i = ti then t'.cpu = some g else i ∈ l) : Membership (ths.set ti t') g l' := by
  refine ⟨hnd, fun i => ?_⟩
  rw [hmem]
  by_cases hi : i = ti
  · subst hi
    rw [if_pos rfl, List.getElem?_set_self (List.getElem?_eq_some_iff.mp ht).1]
    exact ⟨fun hc => ⟨t', rfl, hc⟩, fun ⟨_, hu, hc⟩ => by cases hu; exact hc⟩
  · rw [if_neg hi, List.getElem?_set_ne (Ne.symm hi), h.mem]

theorem Membership.set_other {ths : List Thread} {ti g : Nat} {t t' : Thread} {l : List Nat}
    (h : Membership ths g l) (ht : ths[ti]? = some t) (h1 : t.cpu ≠ some g) (h2 : t'.cpu ≠ some g) :
    Membership (ths.set ti t') g l :=
  h.set ht h.nodup fun i => by
    split
    · next hi => exact hi ▸ ⟨fun hin => absurd ((h.mem_iff ht).mp hin) h1, fun hc => absurd hc h2⟩
    · rfl

theorem Membership.set_same {ths : List Thread} {ti g : Nat} {t t' : Thread} {l : List Nat}
    (h : Membership ths g l) (ht : ths[ti]? = some t) (hc : t'.cpu = t.cpu) :
    Membership (ths.set ti t') g l :=
  h.set ht h.nodup fun i => by
    split
    · next hi => rw [hi, hc]; exact h.mem_iff ht
    · rfl

theorem Membership.set_add {ths : List Thread} {ti g : Nat} {t t' : Thread} {l : List Nat}
    (h : Membership ths g l) (ht : ths[ti]? = some t) (h1 : t.cpu ≠ some g) (h2 : t'.cpu = some g) :
    Membership (ths.set ti t') g (l ++ [ti]) := by
  have hnot : ti ∉ l := mt (h.mem_iff ht).mp h1
  refine h.set ht (List.nodup_append.mpr ⟨h.nodup, by simp, fun a ha b hb hab => ?_⟩) fun i => ?_
  · rw [List.mem_singleton] at hb
    exact hnot (hb ▸ hab ▸ ha)
  · rw [List.mem_append, List.mem_singleton]
    split
    · next hi => exact ⟨fun _ => h2, fun _ => .inr hi⟩
    · next hi => exact ⟨fun h' => h'.resolve_right hi, .inl⟩

theorem Membership.set_remove {ths : List Thread} {ti g : Nat} {t t' : Thread} {l : List Nat}
    (h : Membership ths g l) (ht : ths[ti]? = some t) (h2 : t'.cpu ≠ some g) :
    Membership (ths.set ti t') g (l.erase ti) :=
  h.set ht (h.nodup.erase ti) fun i => by
    rw [h.nodup.mem_erase_iff]
    split
    · next hi => exact ⟨fun h' => absurd hi h'.1, fun hc => absurd hc h2⟩
    · next hi => exact ⟨And.right, fun h' => ⟨hi, h'⟩⟩

theorem CpuOK.set_other {ths : List Thread} {ti g : Nat} {t t' : Thread} {c : Cpu}
    (h : CpuOK ths g c) (ht : ths[ti]? = some t) (h1 : t.cpu ≠ some g) (h2 : t'.cpu ≠ some g) :
    CpuOK (ths.set ti t') g c := by
  refine ⟨h.gidx, h.mem.set_other ht h1 h2, ?_, ?_⟩
  · rw [onCpu_set_other ht h1 h2]; exact h.vals
  · rw [onCpu_set_other ht h1 h2]; exact h.phys

/-- how a step may leave CPU `g`: untouched while the changed thread is not (and was not) bound to
    it, or rewritten by `cpu_update`, whose guard did not fire, over a list that is the membership list
    of the final table.
    `thsX` is the thread table `cpu_update` was evaluated against, which need not be the final one
    (end: the thread is dead but still bound; migrate: before `thread_migrate_cpu`): it only has to
    agree with the final table on what `cpu_update` reads of the listed threads. -/
inductive CpuStep (ths : List Thread) (ti : Nat) (t t' : Thread) (g : Nat) (c : Cpu) : Cpu → Prop where
  | keep : t.cpu ≠ some g → t'.cpu ≠ some g → CpuStep ths ti t t' g c c
  | update (l : List Nat) (thsX : List Thread) :
      (∀ i ∈ l, (thsX[i]?).map Thread.key = ((ths.set ti t')[i]?).map Thread.key) →
      Membership (ths.set ti t') g l →
      overGuard thsX l c.virt = false →
      CpuStep ths ti t t' g c (({ c with threads := l } : Cpu).withVals (boundOf thsX l))

theorem WF.step {e : Emu} (h : WF e) {ti : Nat} {t : Thread} (ht : e.threads[ti]? = some t)
    (t' : Thread) (cpus' : List Cpu) (hlen : cpus'.length = e.cpus.length)
    (hT : ThreadOK e.cpus.length ti t'.flush)
    (hC : ∀ g c', cpus'[g]? = some c' → ∃ c, e.cpus[g]? = some c ∧ CpuStep e.threads ti t t' g c c') :
    WF ({ e with threads := e.threads.set ti t', cpus := cpus' } : Emu).flushAll := by
  apply WF.assemble
  · intro i u hu
    rw [hlen]
    by_cases hi : ti = i
    · subst hi
      rw [List.getElem?_set_self (List.getElem?_eq_some_iff.mp ht).1] at hu
      cases hu; exact hT
    · rw [List.getElem?_set_ne hi] at hu
      exact (h.th i u hu).flush
  · intro g c' hc'
    obtain ⟨c, hc, hs⟩ := hC g c' hc'
    have hok := h.cpu g c hc
    cases hs with
    | keep h1 h2 => exact (hok.set_other ht h1 h2).flush
    | update l thsX hag hm hg => exact CpuOK.of_update hok.vals.cpuClean hok.gidx hag hm hg

theorem mkEmu_thread (threads : List (Int × Int × Nat)) (cpus : List (Nat × Int × Bool))
    (enabled : List Nat) (lint : Bool) (extra : List ModelSpec) {i : Nat} {t : Thread}
    (h : (mkEmu threads cpus enabled lint extra).threads[i]? = some t) :
    ∃ x, threads[i]? = some x ∧
      t = { gindex := i, tid := x.1, pid := x.2.1, loom := x.2.2,
            mch := (allSpecs.filter (fun s => enabled.contains s.char) ++ extra).map fun s =>
              (s.char, s.freshChans) } := by
  unfold mkEmu at h
  simp only [List.getElem?_mapIdx, Option.map_eq_some_iff] at h
  obtain ⟨x, hx, rfl⟩ := h
  exact ⟨x, hx, rfl⟩

theorem mkEmu_cpu (threads : List (Int × Int × Nat)) (cpus : List (Nat × Int × Bool))
    (enabled : List Nat) (lint : Bool) (extra : List ModelSpec) {g : Nat} {c : Cpu}
    (h : (mkEmu threads cpus enabled lint extra).cpus[g]? = some c) :
    ∃ x, cpus[g]? = some x ∧ c = { gindex := g, loom := x.1, index := x.2.1, virt := x.2.2 } := by
  unfold mkEmu at h
  simp only [List.getElem?_mapIdx, Option.map_eq_some_iff] at h
  obtain ⟨x, hx, rfl⟩ := h
  exact ⟨x, hx, rfl⟩

theorem onCpu_mkEmu (threads : List (Int × Int × Nat)) (cpus : List (Nat × Int × Bool))
    (enabled : List Nat) (lint : Bool) (extra : List ModelSpec) (g : Nat) :
    onCpu (mkEmu threads cpus enabled lint extra).threads g = [] := by
  unfold onCpu
  rw [List.filter_eq_nil_iff]
  intro t ht
  obtain ⟨i, hi⟩ := List.mem_iff_getElem?.mp ht
  obtain ⟨_, _, rfl⟩ := mkEmu_thread threads cpus enabled lint extra hi
  simp

theorem wf_mkEmu (threads : List (Int × Int × Nat)) (cpus : List (Nat × Int × Bool))
    (enabled : List Nat) (lint : Bool) (extra : List ModelSpec := []) :
    WF (mkEmu threads cpus enabled lint extra) := by
  constructor
  · intro i t ht
    obtain ⟨_, _, rfl⟩ := mkEmu_thread threads cpus enabled lint extra ht
    exact ⟨rfl, chanOK_default, chanOK_default_ign, chanOK_default, by simp, nofun, rfl⟩
  · intro g c hc
    have hon := onCpu_mkEmu threads cpus enabled lint extra g
    obtain ⟨_, _, rfl⟩ := mkEmu_cpu threads cpus enabled lint extra hc
    refine ⟨rfl, ⟨List.nodup_nil, fun i => ⟨nofun, ?_⟩⟩, ?_, ?_⟩
    · rintro ⟨t, ht, hcpu⟩
      obtain ⟨_, _, rfl⟩ := mkEmu_thread threads cpus enabled lint extra ht
      cases hcpu
    · rw [hon]
      exact ⟨.null, ⟨chanOK_default_ign, chanOK_default_ign, chanOK_default_ign, chanOK_default_ign,
        chanOK_default_ign⟩, Or.inr ⟨rfl, rfl⟩⟩
    · intro _; rw [hon]; exact Nat.zero_le _
end Ovni.Emu
