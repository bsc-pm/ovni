import OvniModel.Emu.EvSpec
import OvniModel.Lemmas.ListLemmas

/-! C18: `ev_spec_print` writes the description with the fields substituted whenever that text fits
    (`print_of_scans`: the scanner is run once, `scan_segs`, and the rest is about lists of events); on payloads
    of the declared shape the widths `printable` adds up bound it (`segText_of_segW`), so it is total there
    (`print_of_printable`).  What a successful `ev_spec_compile` and `model_evspec_init` have checked
    (`compile_ok_inv`, `evspecInit_ok_iff`). -/
namespace Ovni.Emu.EvSpec

/-- decimal digits that suffice for a value of `size` bytes: `256 ^ size < 10 ^ decW size` for the four sizes
    an argument can have (0 otherwise) -/
def decW : Nat → Nat
  | 1 => 3 | 2 => 5 | 4 => 10 | 8 => 20 | _ => 0

/-- an upper bound of the length of `renderNum cv t raw` for `raw < 256 ^ t.size` -/
def convWidth (cv : Conv) (t : ArgType) : Nat :=
  match cv with
  | .udec => decW t.size
  | .sdec => 1 + decW t.size
  | .hex _ hash => 2 * t.size + (if hash then 2 else 0)

/-- Upper bound of what a scanner event writes for any payload of the declared
    shape; `none` = the event may fail (unknown argument, format outside the
    modelled subset, field outside the payload). -/
def segW (s : Spec) : Seg → Option Nat
  | .open => some 0
  | .lit _ => some 1
  | .pct => some 1
  | .hole fmt name =>
    match s.findArg name with
    | none => none
    | some a =>
      if a.type == .str then
        (if fmt.getD a.type.defaultFmt == ofString "%s" && a.offset == s.payloadSize
          then some (MAX_LABEL - 1) else none)
      else if a.offset + a.type.size ≤ s.payloadSize then
        (convFor (fmt.getD a.type.defaultFmt) a.type).map (convWidth · a.type)
      else none

/-- `segW` as a scanner callback: the room left after the event, if it keeps a
    byte to spare -/
def roomAfter (s : Spec) (g : Seg) (l : Nat) : Except PrintErr Nat :=
  match segW s g with
  | some a => if a + 1 ≤ l then .ok (l - a) else .error .noSpaceArg
  | none => .error .badFormat

/-- Decidable sufficient condition for `print` to succeed on every payload of
    the declared shape with an output buffer of `outlen` bytes: one scan of the
    description that subtracts the widths from the room.  That the description is
    well formed (`segsOf` succeeds) need not be asked: a scan that succeeds with
    one callback succeeds with `collect` (`scan_segs`).  The first conjunct makes
    a payload of the declared shape non-empty when there are arguments, as
    `print`'s `noPayload` test asks. -/
def printable (s : Spec) (desc : Str) (outlen : Nat) : Bool :=
  (s.args.isEmpty || s.hasStr || 0 < s.payloadSize) && 0 < outlen &&
  (scan (roomAfter s) .text (cstr desc) (outlen - 1)).isOk

/-- The scanner depends on its callback only through the list of events it reports (`scan_segs`):
    running `f` over that list is what `scan f` does. -/
def runSegs {σ : Type} (f : Seg → σ → Except PrintErr σ) : List Seg → σ → Except PrintErr σ
  | [], s => .ok s
  | g :: r, s =>
    match f g s with
    | .error e => .error e
    | .ok s' => runSegs f r s'

/-- the callback of `segsOf`: `segsOf desc` is `scan collect .text (cstr desc) []` by definition -/
def collect : Seg → List Seg → Except PrintErr (List Seg) := fun g acc => .ok (acc ++ [g])

theorem digitsAux_eq {b : Nat} (hb : 1 < b) : ∀ (fuel n : Nat), n < fuel →
    (digitsAux b fuel n).map Nat.digitChar = Nat.toDigits b n := by
  intro fuel
  induction fuel with
  | zero => intro n h; omega
  | succ f ih =>
    intro n h
    unfold digitsAux
    split
    · rename_i hn; simp [Nat.toDigits_of_lt_base hn]
    · have hd : n / b < n := Nat.div_lt_self (by omega) hb
      rw [List.map_append, ih (n / b) (by omega), List.map_singleton, Nat.toDigits_of_base_le (n := n) hb (by omega)]

theorem digits_length_le {b : Nat} (hb : 1 < b) (k n : Nat) (hk : 0 < k) (h : n < b ^ k) :
    (digits b n).length ≤ k := by
  rw [← List.length_map (f := Nat.digitChar), digits, digitsAux_eq hb _ _ (Nat.lt_succ_self n)]
  exact (Nat.length_toDigits_le_iff hb hk).mpr h

theorem decStr_length_le (k n : Nat) (hk : 0 < k) (h : n < 10 ^ k) : (decStr n).length ≤ k := by
  rw [decStr, List.length_map]
  exact digits_length_le (by omega) k n hk h

theorem hexStr_length_le (up : Bool) (k n : Nat) (hk : 0 < k) (h : n < 16 ^ k) :
    (hexStr up n).length ≤ k := by
  rw [hexStr, List.length_map]
  exact digits_length_le (by omega) k n hk h

theorem leVal_lt (bs : Str) : leVal bs < 256 ^ bs.length := by
  induction bs with
  | nil => simp [leVal]
  | cons b r ih =>
    simp only [leVal, List.length_cons, Nat.pow_succ]
    have : b % 256 < 256 := Nat.mod_lt _ (by omega)
    omega

theorem renderNum_length_le (cv : Conv) (t : ArgType) (ht : t ≠ .str) (raw : Nat)
    (hraw : raw < 256 ^ t.size) : (renderNum cv t raw).length ≤ convWidth cv t := by
  have h16 : (256 : Nat) ^ t.size = 16 ^ (2 * t.size) := by
    rw [Nat.pow_mul]
  have h2 : (2 : Nat) ^ (8 * t.size) = 256 ^ t.size := by
    rw [Nat.pow_mul]
  have h10 : (256 : Nat) ^ t.size < 10 ^ decW t.size ∧ 0 < decW t.size ∧ 0 < t.size := by
    cases t <;> simp [ArgType.size, decW] at ht ⊢
  cases cv with
  | udec =>
    simp only [renderNum, convWidth]
    exact decStr_length_le _ _ h10.2.1 (by omega)
  | hex up hash =>
    simp only [renderNum, convWidth, List.length_append]
    have := hexStr_length_le up (2 * t.size) raw (by omega) (by omega)
    cases hash
    · simp; omega
    · by_cases hr : raw = 0
      · subst hr; simp; omega
      · simp [hr]; omega
  | sdec =>
    simp only [renderNum, convWidth]
    split
    · have := decStr_length_le _ raw h10.2.1 (by omega)
      omega
    · have := decStr_length_le _ (2 ^ (8 * t.size) - raw) h10.2.1 (by omega)
      simp only [List.length_cons]
      omega

/-- The scanner, started in mode `m` on `inp`, does not fail by itself and reports the events `segs`: whatever
    the callback, it is run over that list.  The callback decides nothing but its own state. -/
def Scans (m : Mode) (inp : Str) (segs : List Seg) : Prop :=
  ∀ {τ : Type} (g : Seg → τ → Except PrintErr τ) (t : τ), scan g m inp t = runSegs g segs t

/-- a scan that succeeds with some callback fixes the list of events -/
theorem scan_segs {σ : Type} (f : Seg → σ → Except PrintErr σ) (inp : Str) :
    ∀ (m : Mode) (s s' : σ), scan f m inp s = .ok s' → ∃ segs, Scans m inp segs := by
  -- where the scanner reports `e` and goes on in mode `m` on `r`
  have report : ∀ {e : Seg} {m : Mode} {r : Str} {s s' : σ},
      (∀ s s', scan f m r s = .ok s' → ∃ segs, Scans m r segs) →
      (match f e s with
        | .error e => .error e
        | .ok s₁ => scan f m r s₁) = Except.ok s' →
      ∃ segs, ∀ {τ : Type} (g : Seg → τ → Except PrintErr τ) (t : τ),
        (match g e t with
          | .error e => .error e
          | .ok t₁ => scan g m r t₁) = runSegs g segs t := by
    intro e m r s s' ih h
    cases hf : f e s with
    | error _ => rw [hf] at h; cases h
    | ok s₁ =>
      rw [hf] at h
      obtain ⟨segs, hs⟩ := ih _ _ h
      refine ⟨e :: segs, fun g t => ?_⟩
      simp only [runSegs]
      cases g e t with
      | error _ => rfl
      | ok t₁ => exact hs g t₁
  induction inp with
  | nil =>
    intro m s s' h
    cases m <;> simp only [scan, reduceCtorEq] at h
    exact ⟨[], fun g t => by simp [scan, runSegs]⟩
  | cons c r ih =>
    intro m s s' h
    unfold Scans
    cases m with
    | text =>
      by_cases hc : (c == 37) = true <;> simp only [scan, hc] at h ⊢ <;>
        exact report (ih _) h
    | afterPct =>
      by_cases hc : (c == 37) = true
      · simp only [scan, hc] at h ⊢
        exact report (ih _) h
      · by_cases hc2 : (c == 123) = true <;> simp only [scan, hc, hc2] at h ⊢ <;>
          exact ih _ _ _ h
    | inFmt a =>
      by_cases hc : (c == 123) = true
      · simp only [scan, hc] at h ⊢
        exact ih _ _ _ h
      · by_cases hc2 : 1 + a.length ≥ 63
        · simp only [scan, hc, hc2] at h
          cases h
        · simp only [scan, hc, hc2] at h ⊢
          exact ih _ _ _ h
    | inName fm a =>
      by_cases hc : (c == 125) = true
      · by_cases hc2 : a.isEmpty = true
        · simp only [scan, hc, hc2] at h
          cases h
        · simp only [scan, hc, hc2] at h ⊢
          exact report (ih _) h
      · by_cases hc2 : (!isAlnum c) = true
        · simp only [scan, hc, hc2] at h
          cases h
        · by_cases hc3 : a.length ≥ 63
          · simp only [scan, hc, hc2, hc3] at h
            cases h
          · simp only [scan, hc, hc2, hc3] at h ⊢
            exact ih _ _ _ h

theorem runSegs_collect (segs : List Seg) : ∀ acc, runSegs collect segs acc = .ok (acc ++ segs) := by
  induction segs with
  | nil => intro acc; simp [runSegs]
  | cons g r ih => intro acc; simp [runSegs, collect, ih]

theorem Scans.segsOf {desc : Str} {segs : List Seg} (h : Scans .text (cstr desc) segs) :
    segsOf desc = .ok segs := by
  unfold EvSpec.segsOf
  rw [show (fun g acc => Except.ok (acc ++ [g])) = collect from rfl, h, runSegs_collect]
  rfl

theorem emit_of_segText {s : Spec} {p : Str} {g : Seg} {txt : Str} (h : segText s p g = some txt) (o : Str)
    {l : Nat} (hl : txt.length < l) : emit s p g (o, l) = .ok (o ++ txt, l - txt.length) := by
  have hl0 : (l == 0) = false := by simp; omega
  cases g with
  | hole fmt name =>
    simp only [segText, fieldText] at h
    cases hfa : s.findArg name with
    | none => simp [hfa] at h
    | some a =>
      cases hf : formatArg a (fmt.getD a.type.defaultFmt) p with
      | error e => simp [hfa, hf] at h
      | ok t =>
        simp only [hfa, hf, Option.some.injEq] at h
        subst h
        simp only [emit, hfa, hf, if_neg (Nat.not_le.mpr hl)]
  | _ => cases h; simp [emit, hl0]

theorem runSegs_emit {s : Spec} {p : Str} : ∀ (segs : List Seg) (txt o : Str) (l : Nat),
    joinTexts s p segs = some txt → (segs = [] ∨ txt.length < l) →
      runSegs (emit s p) segs (o, l) = .ok (o ++ txt, l - txt.length)
  | [], _, o, l, h, _ => by cases h; simp [runSegs]
  | g :: r, txt, o, l, h, hl => by
    simp only [joinTexts] at h
    cases ht : segText s p g with
    | none => simp [ht] at h
    | some a =>
      cases hb : joinTexts s p r with
      | none => simp [ht, hb] at h
      | some b =>
        simp only [ht, hb, Option.some.injEq] at h
        subst h
        have hl : a.length + b.length < l := by simpa using hl
        rw [runSegs, emit_of_segText ht o (by omega)]
        simp only
        rw [runSegs_emit r b _ _ hb (.inr (by omega)), List.append_assoc, List.length_append, Nat.sub_sub]

/-- `ev_spec_print` on a description that scans to `segs`: when its checks of the payload pass and the text of
    the events leaves a byte to spare in the buffer (beside the final NUL), that text is what it writes.
    Widths and `Shape` play no part in this. -/
theorem print_of_scans {s : Spec} {desc p : Str} {outlen : Nat} {segs : List Seg} {txt : Str}
    (hs : Scans .text (cstr desc) segs) (hj : joinTexts s p segs = some txt)
    (hout : 0 < outlen) (hroom : segs = [] ∨ txt.length < outlen - 1)
    (hpay : s.args.isEmpty = false → p.isEmpty = false ∧ s.payloadSize ≤ p.length) :
    print s desc p outlen = .ok txt := by
  have h1 : (outlen == 0) = false := by simp; omega
  have h2 : (!s.args.isEmpty && p.isEmpty) = false ∧
      (!s.args.isEmpty && decide (p.length < s.payloadSize)) = false := by
    cases ha : s.args.isEmpty with
    | true => simp
    | false => simp [(hpay ha).1]; exact (hpay ha).2
  simp only [print, h1, h2, Bool.false_eq_true, if_false]
  rw [hs, runSegs_emit _ _ _ _ hj hroom]
  rfl

theorem shape_length {s : Spec} {p : Str} (hp : Shape s p) :
    s.payloadSize ≤ p.length ∧ (s.hasStr = true → s.payloadSize < p.length) := by
  unfold Shape at hp
  split at hp
  · obtain ⟨lbl, h1, _⟩ := hp; omega
  · rename_i h; exact ⟨by omega, fun hs => absurd hs h⟩

/-- The bound `segW` gives for an event is a bound of the text that stands for it on a payload of the declared
    shape: a string argument must be the last field and is at most a label long, a numeric one is bounded by
    `convWidth`. -/
theorem segText_of_segW {s : Spec} {p : Str} (hp : Shape s p) {g : Seg} {w : Nat} (hw : segW s g = some w) :
    ∃ txt, segText s p g = some txt ∧ txt.length ≤ w := by
  cases g with
  | hole fmt name =>
    simp only [segW] at hw
    simp only [segText, fieldText]
    cases hfa : s.findArg name with
    | none => simp [hfa] at hw
    | some a =>
      simp only [hfa] at hw ⊢
      have hlen := (shape_length hp).1
      by_cases hstr : (a.type == ArgType.str) = true
      · rw [if_pos hstr] at hw
        split at hw
        · rename_i hc
          simp only [Bool.and_eq_true, beq_iff_eq] at hc
          cases hw
          have hhas : s.hasStr = true :=
            List.any_eq_true.mpr ⟨a, List.mem_of_find?_eq_some hfa, hstr⟩
          unfold Shape at hp
          rw [if_pos hhas] at hp
          obtain ⟨lbl, h1, h2, h3, h4⟩ := hp
          refine ⟨lbl, ?_, by unfold MAX_LABEL at *; omega⟩
          have h0 : (lbl ++ [0]).contains 0 = true := by simp
          simp only [formatArg, if_pos hstr, hc.2, h2, h0, hc.1, Bool.not_true, Bool.false_eq_true, if_false,
            beq_self_eq_true, if_true]
          rw [(takeWhile_dropWhile_stop (r := [0]) (fun b hb => by simpa using h3 b hb) (by simp)).1]
        · cases hw
      · rw [if_neg hstr] at hw
        split at hw
        · cases hcv : convFor (fmt.getD a.type.defaultFmt) a.type with
          | none => rw [hcv] at hw; cases hw
          | some cv =>
            rw [hcv] at hw
            cases hw
            refine ⟨renderNum cv a.type (leVal ((p.drop a.offset).take a.type.size)), ?_, ?_⟩
            · simp only [formatArg, if_neg hstr, if_neg (show ¬ a.offset + a.type.size > p.length by omega), hcv]
            · refine renderNum_length_le _ _ (fun h => hstr (by simp [h])) _ ?_
              have h1 := leVal_lt ((p.drop a.offset).take a.type.size)
              rwa [show ((p.drop a.offset).take a.type.size).length = a.type.size by
                rw [List.length_take, List.length_drop]; omega] at h1
        · cases hw
  | _ => cases hw; exact ⟨_, rfl, by simp⟩

/-- the widths `roomAfter` subtracts cover the text of the events -/
theorem joinTexts_of_room {s : Spec} {p : Str} (hp : Shape s p) : ∀ (segs : List Seg) (l1 l2 : Nat),
    runSegs (roomAfter s) segs l1 = .ok l2 →
      ∃ txt, joinTexts s p segs = some txt ∧ (segs = [] ∨ txt.length < l1)
  | [], _, _, _ => ⟨[], rfl, .inl rfl⟩
  | g :: r, l1, l2, h => by
    simp only [runSegs, roomAfter] at h
    cases hg : segW s g with
    | none => simp [hg] at h
    | some a =>
      by_cases ha : a + 1 ≤ l1
      · simp only [hg, if_pos ha] at h
        obtain ⟨t, ht, hlen⟩ := segText_of_segW hp hg
        obtain ⟨b, hb, hr⟩ := joinTexts_of_room hp r _ _ h
        refine ⟨t ++ b, by simp only [joinTexts, ht, hb], .inr ?_⟩
        rcases hr with rfl | hr
        · cases hb; simp; omega
        · simp; omega
      · simp [hg, if_neg ha] at h

/-- `ev_spec_print` is total on payloads of the declared shape and writes exactly the description
    with the fields substituted. -/
theorem print_of_printable (s : Spec) (desc p : Str) (outlen : Nat)
    (hpr : printable s desc outlen = true) (hp : Shape s p) :
    ∃ out, print s desc p outlen = .ok out ∧ substitute s desc p = some out := by
  simp only [printable, Bool.and_eq_true, decide_eq_true_eq] at hpr
  obtain ⟨⟨hne, hout⟩, hroom⟩ := hpr
  have hlen := shape_length hp
  cases hl2 : scan (roomAfter s) .text (cstr desc) (outlen - 1) with
  | error e => rw [hl2] at hroom; cases hroom
  | ok l2 =>
    obtain ⟨segs, hs⟩ := scan_segs _ _ _ _ _ hl2
    rw [hs] at hl2
    obtain ⟨txt, hj, hr⟩ := joinTexts_of_room hp segs _ _ hl2
    refine ⟨txt, print_of_scans hs hj hout hr fun ha => ⟨?_, hlen.1⟩, by unfold substitute; rw [hs.segsOf]; exact hj⟩
    -- a declaration with arguments has a `str` argument or a positive payload size: the payload is not empty
    rw [ha] at hne
    simp only [Bool.false_or, Bool.or_eq_true, decide_eq_true_eq] at hne
    have hpos : 0 < p.length :=
      hne.elim (fun h => Nat.zero_lt_of_lt (hlen.2 h)) (fun h => Nat.lt_of_lt_of_le h hlen.1)
    cases p with
    | cons _ _ => rfl
    | nil => cases hpos

theorem runningOffsets_snoc (l : List Nat) (x : Nat) : ∀ b,
    runningOffsets b (l ++ [x]) = runningOffsets b l ++ [b + l.sum] := by
  induction l with
  | nil => intro b; simp [runningOffsets]
  | cons y l ih => intro b; simp [runningOffsets, ih, Nat.add_assoc]

/-- the arguments parsed so far start at `base`, follow one another without gaps and end at `st.2` -/
def Laid (base : Nat) (st : List Arg × Nat) : Prop :=
  st.1.map (·.offset) = runningOffsets base (st.1.map (·.type.size)) ∧
  (∀ a ∈ st.1, a.size = a.type.size) ∧ st.2 = base + (st.1.map (·.type.size)).sum

theorem parseArg_laid {base : Nat} {st st' : List Arg × Nat} {tok : Str} (hl : Laid base st)
    (h : parseArg st tok = .ok st') : Laid base st' := by
  obtain ⟨h1, h2, h3⟩ := hl
  unfold parseArg at h
  repeat' split at h
  all_goals first | cases h | skip
  refine ⟨?_, ?_, ?_⟩
  · simp [runningOffsets_snoc, h1, h3]
  · intro a ha
    rcases List.mem_append.mp ha with ha | ha
    · exact h2 a ha
    · simp at ha; subst ha; rfl
  · simp [h3, Nat.add_assoc]

theorem parseArgList_laid {base : Nat} : ∀ (toks : List Str) {st st' : List Arg × Nat}, Laid base st →
    parseArgList toks st = .ok st' → Laid base st'
  | [], _, _, hl, h => by cases h; exact hl
  | tok :: r, st, st', hl, h => by
    unfold parseArgList at h
    split at h
    · cases h
    · rename_i st1 h1
      exact parseArgList_laid r (parseArg_laid hl h1) h

/-- What a successful `ev_spec_compile` has seen: the three bytes `m c v` first, and either no arguments or
    an argument list that `parse_args` accepts. -/
theorem compile_ok_inv {sig : Str} {s : Spec} (h : compile sig = .ok s) :
    ∃ next, cstr sig = s.m :: s.c :: s.v :: next ∧
      ((s.jumbo = false ∧ s.args = [] ∧ s.payloadSize = 0) ∨
        ∃ rest, parseArgs s.jumbo rest = .ok (s.args, s.payloadSize)) := by
  unfold compile at h
  dsimp only at h
  split at h
  · cases h
  · unfold parseSignature at h
    split at h
    · rename_i m c v next heq
      rw [heq]
      split at h
      · cases h
      · dsimp only at h
        split at h
        · split at h <;> cases h
          exact ⟨_, rfl, Or.inl ⟨rfl, rfl, rfl⟩⟩
        · split at h
          · cases h
          · split at h
            · cases h
            · rename_i rest _ _ _ args psize hargs
              split at h <;> cases h
              exact ⟨_, rfl, Or.inr ⟨rest, hargs⟩⟩
    · cases h

/-- `parse_args` lays the fields out in declaration order without gaps, whatever the signature -/
theorem compile_layoutOk {sig : Str} {s : Spec} (h : compile sig = .ok s) : layoutOk s = true := by
  obtain ⟨_, _, ⟨hj, ha, hp⟩ | ⟨rest, hargs⟩⟩ := compile_ok_inv h
  · simp [layoutOk, hj, ha, hp, runningOffsets]
  · obtain ⟨h1, h2, h3⟩ := parseArgList_laid _ (base := if s.jumbo then 4 else 0) (st := ([], _))
      ⟨rfl, nofun, rfl⟩ hargs
    simp only [layoutOk, Bool.and_eq_true, beq_iff_eq, List.all_eq_true]
    exact ⟨⟨h1, h2⟩, h3⟩

/-- every declaration compiled, without the checks of `model_evspec_init` -/
def compileAll : List (Str × Str) → Option (List Decl)
  | [] => some []
  | (sig, desc) :: r =>
    match compile sig, compileAll r with
    | .ok s, some ds => some ((s, desc) :: ds)
    | _, _ => none

theorem compileAll_cons {sig desc : Str} {r : List (Str × Str)} {ss : List Decl} :
    compileAll ((sig, desc) :: r) = some ss ↔
      ∃ s ss', compile sig = .ok s ∧ compileAll r = some ss' ∧ ss = (s, desc) :: ss' := by
  simp only [compileAll]
  cases compile sig <;> cases compileAll r <;> simp [eq_comm]

theorem initLoop_cons {ch : Nat} {sig desc : Str} {r : List (Str × Str)} {acc : List Decl} {i : Nat} {ds : List Decl} :
    initLoop ch ((sig, desc) :: r) acc i = .ok ds ↔
      ∃ s, compile sig = .ok s ∧ s.mcv ∉ acc.map (·.1.mcv) ∧ s.m = ch ∧
        initLoop ch r ((s, desc) :: acc) (i + 1) = .ok ds := by
  rw [initLoop]
  cases compile sig with
  | error e => simp
  | ok s =>
    have hany : acc.any (fun d => d.1.mcv == s.mcv) = decide (s.mcv ∈ acc.map (·.1.mcv)) := by
      rw [Bool.eq_iff_iff, List.any_eq_true, decide_eq_true_eq, List.mem_map]
      simp only [beq_iff_eq]
    simp only [hany, Except.ok.injEq, exists_eq_left']
    by_cases hd : s.mcv ∈ acc.map (·.1.mcv) <;> by_cases hm : s.m = ch <;> simp [hd, hm]

/-- What a successful `model_evspec_init` loop returns: the declarations it was entered with, then every
    entry of the list compiled, all of the model's character, no MCV twice and none that was there before. -/
theorem initLoop_ok_iff (ch : Nat) (l : List (Str × Str)) :
    ∀ (acc : List Decl) (i : Nat) (ds : List Decl),
      initLoop ch l acc i = .ok ds ↔
        ∃ ss, compileAll l = some ss ∧ ds = acc.reverse ++ ss ∧ (∀ d ∈ ss, d.1.m = ch) ∧
          (ss.map (·.1.mcv)).Nodup ∧ ∀ d ∈ ss, d.1.mcv ∉ acc.map (·.1.mcv) := by
  induction l with
  | nil =>
    intro acc i ds
    rw [initLoop, Except.ok.injEq]
    exact ⟨fun h => ⟨[], rfl, by rw [List.append_nil, h], nofun, List.nodup_nil, nofun⟩,
      fun ⟨_, h, he, _⟩ => by cases h; rw [he, List.append_nil]⟩
  | cons q r ih =>
    obtain ⟨sig, desc⟩ := q
    intro acc i ds
    rw [initLoop_cons]
    constructor
    · rintro ⟨s, hs, hf, hm, h⟩
      obtain ⟨ss, hss, rfl, hch, hn, hd⟩ := (ih _ _ _).mp h
      refine ⟨(s, desc) :: ss, compileAll_cons.mpr ⟨s, ss, hs, hss, rfl⟩, by simp,
        List.forall_mem_cons.mpr ⟨hm, hch⟩, List.nodup_cons.mpr ⟨fun hmem => ?_, hn⟩,
        List.forall_mem_cons.mpr ⟨hf, fun d h hmem => hd d h (List.mem_cons_of_mem _ hmem)⟩⟩
      obtain ⟨d, hd', he⟩ := List.mem_map.mp hmem
      exact hd d hd' (he ▸ List.mem_cons_self)
    · rintro ⟨_, hss, rfl, hch, hn, hd⟩
      obtain ⟨s, ss, hs, hss', rfl⟩ := compileAll_cons.mp hss
      have hn := List.nodup_cons.mp hn
      refine ⟨s, hs, hd _ List.mem_cons_self, hch _ List.mem_cons_self, (ih _ _ _).mpr ⟨ss, hss', by simp,
        fun d h => hch d (List.mem_cons_of_mem _ h), hn.2, fun d h hmem => ?_⟩⟩
      rcases List.mem_cons.mp hmem with he | hmem
      · exact hn.1 (he ▸ List.mem_map_of_mem h)
      · exact hd d (List.mem_cons_of_mem _ h) hmem

theorem evspecInit_ok_iff {ch : Nat} {evl : List (Str × Str)} {ds : List Decl} :
    evspecInit ch evl = .ok ds ↔
      evl.isEmpty = false ∧ compileAll evl = some ds ∧ (∀ d ∈ ds, d.1.m = ch) ∧ (ds.map (·.1.mcv)).Nodup := by
  unfold evspecInit
  cases evl.isEmpty
  · simp only [Bool.false_eq_true, if_false, true_and, initLoop_ok_iff, List.reverse_nil, List.nil_append,
      List.map_nil, List.not_mem_nil, not_false_eq_true, implies_true, and_true]
    exact ⟨fun ⟨_, hss, he, h⟩ => he ▸ ⟨hss, h⟩, fun ⟨hss, h⟩ => ⟨ds, hss, rfl, h⟩⟩
  · simp

theorem compileAll_mem {l : List (Str × Str)} {ss : List Decl} (h : compileAll l = some ss) :
    ∀ p ∈ l, ∃ s, compile p.1 = .ok s ∧ (s, p.2) ∈ ss := by
  induction l generalizing ss with
  | nil => intro p hp; cases hp
  | cons q r ih =>
    obtain ⟨s, ss', hs, hss', rfl⟩ := compileAll_cons.mp h
    intro p hp
    rcases List.mem_cons.mp hp with rfl | hp
    · exact ⟨s, hs, List.mem_cons_self⟩
    · obtain ⟨s', h1, h2⟩ := ih hss' p hp
      exact ⟨s', h1, List.mem_cons_of_mem _ h2⟩

theorem compileAll_compiled {l : List (Str × Str)} {ss : List Decl} (h : compileAll l = some ss) :
    ∀ d ∈ ss, ∃ sig, compile sig = .ok d.1 := by
  induction l generalizing ss with
  | nil => cases h; nofun
  | cons q r ih =>
    obtain ⟨s, ss', hs, hss', rfl⟩ := compileAll_cons.mp h
    intro d hd
    rcases List.mem_cons.mp hd with rfl | hd
    · exact ⟨_, hs⟩
    · exact ih hss' d hd

theorem compileAll_layoutOk {l : List (Str × Str)} {ss : List Decl} (h : compileAll l = some ss) :
    ∀ d ∈ ss, layoutOk d.1 = true := fun d hd =>
  let ⟨_, hsig⟩ := compileAll_compiled h d hd
  compile_layoutOk hsig

/-- the model, category and value bytes a signature starts with -/
def sigMcv (sig : Str) : Nat × Nat × Nat :=
  match cstr sig with
  | m :: c :: v :: _ => (m, c, v)
  | _ => (0, 0, 0)

theorem compile_mcv {sig : Str} {s : Spec} (h : compile sig = .ok s) : s.mcv = sigMcv sig := by
  obtain ⟨next, hc, _⟩ := compile_ok_inv h
  simp only [sigMcv, hc, Spec.mcv]

theorem compileAll_mcv {l : List (Str × Str)} {ss : List Decl} (h : compileAll l = some ss) :
    ss.map (·.1.mcv) = l.map (sigMcv ·.1) := by
  induction l generalizing ss with
  | nil => cases h; rfl
  | cons q r ih =>
    obtain ⟨s, ss', hs, hss', rfl⟩ := compileAll_cons.mp h
    simp [compile_mcv hs, ih hss']

end Ovni.Emu.EvSpec
