/-! Taking apart a successful `Except` computation: one lemma per shape a `do` block unfolds to
    (`x >>= f`, a guard `if c then throw e else …`, an early exit `if c then pure a else …`).
    No model is involved. -/
namespace Ovni

theorem ite_eq_iff {α : Sort _} {c : Prop} [Decidable c] {a b x : α} :
    (if c then a else b) = x ↔ c ∧ a = x ∨ ¬ c ∧ b = x := by
  by_cases hc : c <;> simp [hc]

theorem bind_ok_iff {ε α β : Type} {x : Except ε α} {f : α → Except ε β} {b : β} :
    (x >>= f) = .ok b ↔ ∃ a, x = .ok a ∧ f a = .ok b := by
  cases x <;> simp [bind, Except.bind]

theorem bind_ok {ε α β : Type} {x : Except ε α} {f : α → Except ε β} {b : β} (h : (x >>= f) = .ok b) :
    ∃ a, x = .ok a ∧ f a = .ok b :=
  bind_ok_iff.mp h

theorem map_ok_iff {ε α β : Type} {x : Except ε α} {f : α → β} {b : β} :
    x.map f = .ok b ↔ ∃ a, x = .ok a ∧ b = f a := by
  cases x <;> simp [Except.map, eq_comm]

theorem gate_eq_ok {ε α : Type} {c : Prop} [Decidable c] {e : ε} {x : Except ε α} {a : α} :
    (if c then .error e else x) = .ok a ↔ ¬ c ∧ x = .ok a := by
  by_cases h : c <;> simp [h]

theorem exit_eq_ok {ε α : Type} {c : Prop} [Decidable c] {x : Except ε α} {a' a : α} :
    (if c then .ok a' else x) = .ok a ↔ (c ∧ a' = a) ∨ (¬ c ∧ x = .ok a) := by
  by_cases h : c <;> simp [h]

theorem guard_bind {ε α β : Type} (g : Prop) [Decidable g] (err : ε) (a : α) (f : α → Except ε β) :
    ((if g then .error err else .ok a) >>= f) = if g then .error err else f a := by
  split <;> rfl

/-- Two guards with the same error, tested in one `if`. -/
theorem guard_or {α : Sort _} (a b : Bool) (x y : α) :
    (if a || b then x else y) = if a then x else if b then x else y := by
  cases a <;> cases b <;> rfl

theorem guard_bind_ok {ε α β : Type} {g : Prop} [Decidable g] {err : ε} {x : Except ε α} {k : α → β} {b : β}
    (h : (do if g then throw err
             let a ← x
             pure (k a)) = Except.ok b) : ¬ g ∧ ∃ a, x = .ok a ∧ b = k a := by
  obtain ⟨hg, h⟩ := gate_eq_ok.mp h
  obtain ⟨a, ha, h⟩ := bind_ok h
  cases h
  exact ⟨hg, a, ha, rfl⟩

theorem error_iff_not_ok {ε α} (r : Except ε α) : (∃ e, r = .error e) ↔ ¬ ∃ a, r = .ok a := by
  cases r with
  | error e => exact ⟨fun _ ⟨_, h⟩ => (nomatch h), fun _ => ⟨e, rfl⟩⟩
  | ok a => exact ⟨fun ⟨_, h⟩ => (nomatch h), fun h => absurd ⟨a, rfl⟩ h⟩

theorem error_of_ne_ok {ε : Type} {x : Except ε Unit} (h : x ≠ .ok ()) : ∃ e, x = .error e :=
  (error_iff_not_ok x).mpr fun ⟨(), hx⟩ => h hx

theorem toOption_eq_some {ε α : Type} {r : Except ε α} {a : α} (h : r.toOption = some a) : r = .ok a := by
  cases r with
  | error e => cases h
  | ok b => cases h; rfl

end Ovni
