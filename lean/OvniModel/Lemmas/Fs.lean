import OvniModel.Rt.Fs

/-! Helper lemmas for the file-system model (C09 C10): the finite map, the
    per-path effect of a call (`effect`), locality of `run`. -/
namespace Ovni.Rt.Fs

theorem Fs.get_del (fs : Fs) (p q : Path) :
    (fs.del p).get q = if q = p then none else fs.get q := by
  induction fs with
  | nil => simp [Fs.del, Fs.get]
  | cons e r ih =>
    obtain ⟨x, n⟩ := e
    by_cases hx : x = p <;> by_cases hq : q = p <;> simp_all [Fs.del, Fs.get]
    rintro rfl
    exact absurd rfl hq

theorem Fs.get_set (fs : Fs) (p q : Path) (n : Node) :
    (fs.set p n).get q = if q = p then some n else fs.get q := by
  simp only [Fs.set, Fs.get, Fs.get_del, eq_comm (a := p)]
  split <;> rfl

@[simp] theorem Fs.get_set_same (fs : Fs) (p : Path) (n : Node) : (fs.set p n).get p = some n := by
  rw [Fs.get_set, if_pos rfl]

theorem Fs.get_set_ne (fs : Fs) {p q : Path} (n : Node) (h : q ≠ p) : (fs.set p n).get q = fs.get q := by
  rw [Fs.get_set, if_neg h]

/-- Paths that are never a directory: nothing has them as parent. -/
def Path.isLeaf : Path → Bool
  | .file _ _ _ => true
  | .ghost _ => true
  | _ => false

theorem parent_ne_leaf {q : Path} (h : q.isLeaf = true) (x : Path) : x.parent ≠ some q := by
  cases x <;> simp only [Path.parent, ne_eq, Option.some.injEq, reduceCtorEq, not_false_eq_true] <;>
    (rintro rfl; cases h)

theorem hasChild_leaf (fs : Fs) {q : Path} (h : q.isLeaf = true) : fs.hasChild q = false := by
  simp only [Fs.hasChild, List.any_eq_false]
  intro e _
  simpa using parent_ne_leaf h e.1

theorem get_initAncs_leaf (n : Nat) {q : Path} (hq : q.isLeaf = true) : Fs.get (initAncs n) q = none := by
  induction n with
  | zero => rfl
  | succ n ih =>
    simp only [initAncs, Fs.get]
    rw [if_neg (by intro e; subst e; simp [Path.isLeaf] at hq)]
    exact ih

def flushedOf : Option Node → List Nat
  | some (.file disk _) => disk
  | _ => []

theorem Fs.flushed_eq (fs : Fs) (t : Nat) : fs.flushed t = flushedOf (fs.get (.ghost t)) := by
  unfold Fs.flushed flushedOf
  split <;> simp_all

def addDisk (d : List Nat) : Option Node → Option Node
  | some (.file a b) => some (.file (a ++ d) b)
  | o => o

def addPend (d : List Nat) : Option Node → Option Node
  | some (.file a b) => some (.file a (b ++ d))
  | o => o

def flushPend : Option Node → Option Node
  | some (.file a b) => some (.file (a ++ b) [])
  | o => o

/-- What a successful call does to the entry of one (leaf) path, as a function
    of that entry alone. -/
def effect (op : FOp) (q : Path) (old : Option Node) : Option Node :=
  match op with
  | .mkdir p => if q = p then (if old.isSome then old else some .dir) else old
  | .openW r t => if q = .file r t .obs then (if old.isSome then old else some (.file [] [])) else old
  | .write r t d =>
    if q = .file r t .obs then addDisk d old
    else if q = .ghost t then some (.file (flushedOf old ++ d) [])
    else old
  | .fopenW p => if q = p then some (.file [] []) else old
  | .fputs p d => if q = p then addPend d old else old
  | .fwrite p d => if q = p then addPend d old else old
  | .fcloseW p => if q = p then flushPend old else old
  | .remove p => if q = p then none else old
  | .rmdir p => if q = p then none else old
  | _ => old

/-- The shape of `appendDisk` and of `fputs`, `fwrite`, `fcloseW` in `apply`, seen from `q`. -/
theorem Fs.get_update (fs : Fs) (p q : Path) (F : List Nat → List Nat → Node) :
    (match fs.get p with
      | some (.file a b) => fs.set p (F a b)
      | _ => fs).get q =
      if q = p then (match fs.get q with | some (.file a b) => some (F a b) | o => o) else fs.get q := by
  by_cases h : q = p
  · subst h
    rw [if_pos rfl]
    split <;> simp_all
  · rw [if_neg h]
    split
    · exact Fs.get_set_ne fs _ h
    · rfl

theorem Fs.get_create (fs : Fs) (p q : Path) (n : Node) :
    (if (fs.get p).isSome then fs else fs.set p n).get q =
      if q = p then (if (fs.get q).isSome then fs.get q else some n) else fs.get q := by
  by_cases h : q = p
  · subst h
    cases hg : fs.get q <;> simp [hg]
  · rw [if_neg h]
    split
    · rfl
    · exact Fs.get_set_ne fs _ h

theorem Fs.get_appendDisk (fs : Fs) (p q : Path) (d : List Nat) :
    (fs.appendDisk p d).get q = if q = p then addDisk d (fs.get q) else fs.get q :=
  Fs.get_update fs p q (fun a b => .file (a ++ d) b)

theorem get_apply (fs : Fs) (op : FOp) {q : Path} (hq : q.isLeaf = true) :
    (apply fs op).get q = effect op q (fs.get q) := by
  cases op
  case mkdir p => exact Fs.get_create fs p q _
  case openW r t => exact Fs.get_create fs _ q _
  case write r t d =>
    simp only [apply, effect, Fs.logFlushed]
    by_cases h1 : q = .file r t .obs
    · subst h1
      rw [if_pos rfl, Fs.get_set_ne _ _ (by simp), Fs.get_appendDisk, if_pos rfl]
    · rw [if_neg h1]
      by_cases h2 : q = .ghost t
      · subst h2
        rw [if_pos rfl, Fs.get_set_same, Fs.flushed_eq, Fs.get_appendDisk, if_neg (by simp)]
      · rw [if_neg h2, Fs.get_set_ne _ _ h2, Fs.get_appendDisk, if_neg h1]
  case fopenW p => exact Fs.get_set fs p q _
  case fputs p d => exact Fs.get_update fs p q (fun a b => .file a (b ++ d))
  case fwrite p d => exact Fs.get_update fs p q (fun a b => .file a (b ++ d))
  case fcloseW p => exact Fs.get_update fs p q (fun a b => .file (a ++ b) [])
  case remove p => exact Fs.get_del fs p q
  case rmdir p =>
    simp only [apply, effect]
    by_cases h : q = p
    · subst h
      rw [hasChild_leaf fs hq]; simp [Fs.get_del]
    · rw [if_neg h]; split
      · rfl
      · rw [Fs.get_del, if_neg h]
  all_goals rfl

def evolve (q : Path) (old : Option Node) (ops : List FOp) : Option Node :=
  ops.foldl (fun o op => effect op q o) old

theorem run_nil (s : Fs) : run s [] = s := rfl
theorem run_cons (s : Fs) (op : FOp) (r : List FOp) : run s (op :: r) = run (apply s op) r := rfl
theorem run_append (s : Fs) (a b : List FOp) : run s (a ++ b) = run (run s a) b := by
  simp [run, List.foldl_append]

theorem get_run (fs : Fs) (ops : List FOp) {q : Path} (hq : q.isLeaf = true) :
    (run fs ops).get q = evolve q (fs.get q) ops := by
  induction ops generalizing fs with
  | nil => rfl
  | cons op r ih =>
    simp only [run, evolve, List.foldl_cons] at ih ⊢
    rw [ih, get_apply fs op hq]

@[simp] theorem evolve_nil (q : Path) (o : Option Node) : evolve q o [] = o := rfl
@[simp] theorem evolve_cons (q : Path) (o : Option Node) (op : FOp) (r : List FOp) :
    evolve q o (op :: r) = evolve q (effect op q o) r := rfl
theorem evolve_append (q : Path) (o : Option Node) (a b : List FOp) :
    evolve q o (a ++ b) = evolve q (evolve q o a) b := by
  simp [evolve, List.foldl_append]

theorem ops_nil : ops [] = [] := rfl
theorem ops_cons (c : Call) (r : List Call) : ops (c :: r) = c.op :: ops r := rfl
theorem ops_append (a b : List Call) : ops (a ++ b) = ops a ++ ops b := by simp [ops]

def touch : FOp → List Path
  | .mkdir p => [p]
  | .openW r t => [.file r t .obs]
  | .write r t _ => [.file r t .obs, .ghost t]
  | .fopenW p => [p]
  | .fputs p _ => [p]
  | .fwrite p _ => [p]
  | .fcloseW p => [p]
  | .remove p => [p]
  | .rmdir p => [p]
  | _ => []

theorem effect_of_not_touch {op : FOp} {q : Path} (h : q ∉ touch op) (o : Option Node) :
    effect op q o = o := by
  cases op <;> simp_all [touch, effect]

theorem evolve_of_not_touch {ops : List FOp} {q : Path} (h : ∀ op ∈ ops, q ∉ touch op) (o : Option Node) :
    evolve q o ops = o := by
  induction ops generalizing o with
  | nil => rfl
  | cons op r ih =>
    rw [evolve_cons, effect_of_not_touch (h op (by simp)), ih (fun x hx => h x (by simp [hx]))]

end Ovni.Rt.Fs
