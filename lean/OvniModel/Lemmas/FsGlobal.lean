import OvniModel.Lemmas.FsView

/-! Which calls the run is made of, and whose files each of them can change:
    the calls of one thread leave the entries of every other thread alone. -/
namespace Ovni.Rt.Fs

/-- The calls thread τ makes, site by site (the directory-only calls are the
    same for every τ).  The opendir / readdir / closedir sites, which only the
    code before the fix (`Rt/FsOld`) reaches, have no case. -/
inductive CallOf (τ : Nat) : Call → Prop
  | mkdirPath (q : Path) : q.isLeaf = false → CallOf τ ⟨.mkdirPath, 0, .mkdir q⟩
  | statPath (q : Path) : CallOf τ ⟨.statPath, 0, .stat q⟩
  | openStream (r : Root) : CallOf τ ⟨.openStream, 0, .openW r τ⟩
  | writeStream (r : Root) (d : List Nat) : CallOf τ ⟨.writeStream, 0, .write r τ d⟩
  | storeFopen (r : Root) : CallOf τ ⟨.storeFopen, 0, .fopenW (.file r τ .json)⟩
  | storeFputs (r : Root) (d : List Nat) : CallOf τ ⟨.storeFputs, 0, .fputs (.file r τ .json) d⟩
  | storeFclose (r : Root) : CallOf τ ⟨.storeFclose, 0, .fcloseW (.file r τ .json)⟩
  | closeStream (r : Root) (last : Nat) : CallOf τ ⟨.closeStream, 0, .close r τ last⟩
  | moveFopenSrc (g : Nat) (n : FName) : CallOf τ ⟨.moveFopenSrc, g, .fopenR (.file .tmp τ n)⟩
  | moveFopenDst (g : Nat) (n : FName) : CallOf τ ⟨.moveFopenDst, g, .fopenW (.file .fin τ n)⟩
  | moveFread (g : Nat) (n : FName) (k : Nat) : CallOf τ ⟨.moveFread, g, .fread (.file .tmp τ n) k⟩
  | moveFwrite (g : Nat) (n : FName) (d : List Nat) : CallOf τ ⟨.moveFwrite, g, .fwrite (.file .fin τ n) d⟩
  | moveFcloseOut (g : Nat) (n : FName) : CallOf τ ⟨.moveFcloseOut, g, .fcloseW (.file .fin τ n)⟩
  | moveFcloseIn (g : Nat) (n : FName) : CallOf τ ⟨.moveFcloseIn, g, .fcloseR (.file .tmp τ n)⟩
  | moveRemove (g : Nat) (n : FName) : CallOf τ ⟨.moveRemove, g, .remove (.file .tmp τ n)⟩
  | cleanRmdir (q : Path) : q.isLeaf = false → CallOf τ ⟨.cleanRmdir, 0, .rmdir q⟩

theorem callOf_mkpath (τ : Nat) (comps : List (Path × Bool)) (h : (comps.all fun c => !c.1.isLeaf) = true) :
    ∀ c ∈ mkpathCalls comps, CallOf τ c := by
  intro c hc
  simp only [mkpathCalls, List.mem_flatMap] at hc
  obtain ⟨x, hx, hc⟩ := hc
  have hx : x.1.isLeaf = false := by simpa using List.all_eq_true.mp h x hx
  split at hc <;> simp only [List.mem_cons, List.not_mem_nil, or_false] at hc
  · rcases hc with rfl | rfl
    · exact .mkdirPath _ hx
    · exact .statPath _
  · subst hc; exact .mkdirPath _ hx

theorem ancComps_dir (n : Nat) : ((ancComps n).all fun c => !c.1.isLeaf) = true := by
  induction n with
  | zero => rfl
  | succ n ih => exact ih

theorem callOf_mkdirProc (τ nAnc : Nat) (r : Root) : ∀ c ∈ mkdirProcCalls nAnc r, CallOf τ c :=
  callOf_mkpath τ _ (by rw [List.all_append, ancComps_dir]; rfl)

theorem callOf_mkdirThread (τ nAnc : Nat) (r : Root) (tid : Nat) :
    ∀ c ∈ mkdirThreadCalls nAnc r tid, CallOf τ c :=
  callOf_mkpath τ _ (by rw [List.all_append, ancComps_dir]; rfl)

theorem callOf_procInit (τ : Nat) (p : Prog) : ∀ c ∈ procInitCalls p, CallOf τ c := by
  intro c hc
  unfold procInitCalls at hc
  split at hc
  · rcases List.mem_append.mp hc with h | h <;> exact callOf_mkdirProc τ _ _ c h
  · exact callOf_mkdirProc τ _ _ c hc

theorem callOf_procFini (τ : Nat) (p : Prog) : ∀ c ∈ procFiniCalls p, CallOf τ c := by
  intro c hc
  unfold procFiniCalls at hc
  split at hc
  · simp only [List.mem_cons, List.not_mem_nil, or_false] at hc
    rcases hc with rfl | rfl | rfl <;> exact .cleanRmdir _ rfl
  · cases hc

theorem callOf_store (r : Root) (τ : Nat) (js : List Nat) : ∀ c ∈ storeCalls r τ js, CallOf τ c := by
  intro c hc
  simp only [storeCalls, List.mem_cons, List.not_mem_nil, or_false] at hc
  rcases hc with rfl | rfl | rfl <;> constructor

theorem callOf_moveFile (g τ : Nat) (n : FName) (cnt : List Nat) : ∀ c ∈ moveFileCalls g τ n cnt, CallOf τ c := by
  intro c hc
  simp only [moveFileCalls, List.mem_append, List.mem_cons, List.not_mem_nil, or_false, List.mem_flatMap] at hc
  rcases hc with (((rfl | rfl) | ⟨b, _, rfl | rfl⟩) | rfl | rfl | rfl | rfl) <;> constructor

theorem callOf_thread (ser : Meta → List Nat) (p : Prog) (t : ThreadProg) :
    ∀ c ∈ threadCalls ser p t, CallOf t.tid c := by
  intro c hc
  simp only [threadCalls, threadInitCalls, List.mem_append] at hc
  rcases hc with ((((h | h) | h) | h) | h) | h
  · exact callOf_mkdirThread _ _ _ _ c h
  · split at h
    · exact callOf_mkdirThread _ _ _ _ c h
    · cases h
  · simp only [List.mem_cons, List.not_mem_nil, or_false] at h
    rcases h with rfl | rfl <;> constructor
  · exact callOf_store _ _ _ c h
  · obtain ⟨st, _, hc⟩ := List.mem_flatMap.mp h
    cases st with
    | io chunks =>
      obtain ⟨d, _, rfl⟩ := List.mem_map.mp hc
      constructor
    | attrFlush b => exact callOf_store _ _ _ c hc
  · split at h
    · simp only [threadFreeCalls, List.mem_append] at h
      rcases h with (h | h) | h
      · exact callOf_store _ _ _ c h
      · simp only [List.mem_cons, List.not_mem_nil, or_false] at h
        subst h; constructor
      · unfold relocCalls at h
        split at h
        · simp only [List.mem_append, List.mem_cons, List.not_mem_nil, or_false] at h
          rcases h with (h | h) | rfl
          · exact callOf_moveFile _ _ _ _ c h
          · exact callOf_moveFile _ _ _ _ c h
          · exact .cleanRmdir _ rfl
        · cases h
    · cases h

theorem callOf_calls (ser : Meta → List Nat) (p : Prog) : ∀ c ∈ calls ser p, ∃ τ, CallOf τ c := by
  intro c hc
  simp only [calls, List.mem_append, List.mem_flatMap] at hc
  rcases hc with (h | ⟨t, _, h⟩) | h
  · exact ⟨0, callOf_procInit 0 p c h⟩
  · exact ⟨t.tid, callOf_thread ser p t c h⟩
  · exact ⟨0, callOf_procFini 0 p c h⟩

def Own (τ : Nat) (op : FOp) : Prop := ∀ q ∈ touch op, q.isLeaf = false ∨ q ∈ tpaths τ

theorem file_mem_tpaths (r : Root) (τ : Nat) (n : FName) : Path.file r τ n ∈ tpaths τ := by
  cases r <;> cases n <;> simp [tpaths]

theorem own_of_callOf {τ : Nat} {c : Call} (h : CallOf τ c) : Own τ c.op := by
  intro q hq
  cases h <;> simp only [touch, List.mem_cons, List.not_mem_nil, or_false] at hq
  case mkdirPath h | cleanRmdir h => subst hq; exact Or.inl h
  case writeStream =>
    rcases hq with rfl | rfl
    · exact Or.inr (file_mem_tpaths _ _ _)
    · exact Or.inr (by simp [tpaths])
  all_goals subst hq; exact Or.inr (file_mem_tpaths _ _ _)

theorem tpaths_leaf {τ : Nat} {q : Path} (hq : q ∈ tpaths τ) : q.isLeaf = true := by
  simp only [tpaths, List.mem_cons, List.not_mem_nil, or_false] at hq
  rcases hq with rfl | rfl | rfl | rfl | rfl <;> rfl

theorem tpaths_tid {τ τ' : Nat} {q : Path} (h : q ∈ tpaths τ) (h' : q ∈ tpaths τ') : τ = τ' := by
  simp [tpaths] at h h'
  rcases h with rfl | rfl | rfl | rfl | rfl <;> simp at h' <;> exact h'

theorem foreign_of_own {τ τ' : Nat} {op : FOp} (h : Own τ' op) (hne : τ ≠ τ') : Foreign τ op := by
  intro q hq hmem
  rcases h q hmem with hl | hin
  · rw [tpaths_leaf hq] at hl; cases hl
  · exact hne (tpaths_tid hq hin)

/-- Calls that every thread makes alike change directories only. -/
theorem foreign_of_common {τ : Nat} {cs : List Call} (h : ∀ τ', ∀ c ∈ cs, CallOf τ' c) :
    ∀ op ∈ ops cs, Foreign τ op := by
  intro op hop
  obtain ⟨c, hc, rfl⟩ := List.mem_map.mp hop
  -- thread `τ + 1` makes the call too, and what it owns apart from directories is not `τ`'s
  exact foreign_of_own (own_of_callOf (h (τ + 1) c hc)) (Nat.ne_of_lt (Nat.lt_succ_self τ))

theorem foreign_mkdirThread (τ nAnc : Nat) (r : Root) (tid : Nat) :
    ∀ op ∈ ops (mkdirThreadCalls nAnc r tid), Foreign τ op :=
  foreign_of_common fun τ' => callOf_mkdirThread τ' nAnc r tid

theorem foreign_procInit (τ : Nat) (p : Prog) : ∀ op ∈ ops (procInitCalls p), Foreign τ op :=
  foreign_of_common fun τ' => callOf_procInit τ' p

theorem foreign_procFini (τ : Nat) (p : Prog) : ∀ op ∈ ops (procFiniCalls p), Foreign τ op :=
  foreign_of_common fun τ' => callOf_procFini τ' p

theorem foreign_thread (ser : Meta → List Nat) (p : Prog) (t : ThreadProg) {τ : Nat} (h : τ ≠ t.tid) :
    ∀ op ∈ ops (threadCalls ser p t), Foreign τ op := by
  intro op hop
  obtain ⟨c, hc, rfl⟩ := List.mem_map.mp hop
  exact foreign_of_own (own_of_callOf (callOf_thread ser p t c hc)) h

end Ovni.Rt.Fs
