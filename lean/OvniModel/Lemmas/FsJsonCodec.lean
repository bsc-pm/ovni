import OvniModel.Rt.Fs
import OvniModel.Props.Json

/-! The `Codec` that `Rt/Fs.lean` takes as a parameter (C09 / C10), instantiated with the parson
    model of `OvniModel/Json.lean`: its two hypotheses are `Props/Json.roundtrip` and
    `Props/Json.truncation_rejected`.  The abstract metadata `⟨finished, body⟩` is written as
    `{"version": 3, "ovni": {"body": "<decimal digits>", "finished": 1}}`
    (`finished` only when set, as `ovni_thread_free` does). -/
namespace Ovni.Rt.Fs
open Ovni.Json

def kVersion : List Nat := [118, 101, 114, 115, 105, 111, 110]      -- "version"
def kOvni : List Nat := [111, 118, 110, 105]                        -- "ovni"
def kBody : List Nat := [98, 111, 100, 121]                         -- "body"
def kFinished : List Nat := [102, 105, 110, 105, 115, 104, 101, 100] -- "finished"
def pBody : List Nat := kOvni ++ 46 :: kBody                        -- "ovni.body"
def pFinished : List Nat := kOvni ++ 46 :: kFinished                -- "ovni.finished"

def encodeMeta (m : Meta) : Json :=
  .object [(kVersion, .number 3 0),
           (kOvni, .object ((kBody, .string (natDec m.body)) ::
                            (if m.finished then [(kFinished, .number 1 0)] else [])))]

/-- what `thread_load_metadata` reads back (`json_object_dotget_number(meta, "ovni.finished") == 1`) -/
def decodeMeta (j : Json) : Option Meta :=
  match getStringFull (dotget j pBody) with
  | some s => some ⟨getNumber (dotget j pFinished) == (1, 0), digitsVal s⟩
  | none => none

theorem natDec_strOk (n : Nat) : strOk (natDec n) = true := by
  simp only [strOk, List.all_eq_true, decide_eq_true_eq]
  intro c hc
  have := natDec_digits n c hc
  simp [isDigit] at this
  omega

theorem encodeMeta_writable (m : Meta) : Writable (encodeMeta m) := by
  obtain ⟨f, b⟩ := m
  unfold Writable
  cases f <;>
    simp [encodeMeta, wr, wrMembers, keysNodup, keyOk, natDec_strOk, kVersion, kOvni, kBody, kFinished, maxNesting,
      pow2_53]

theorem decode_encode (m : Meta) : decodeMeta (encodeMeta m) = some m := by
  obtain ⟨f, b⟩ := m
  cases f <;>
    simp [decodeMeta, encodeMeta, dotget, dotgetSegs, Json.get?, assoc, getStringFull, getNumber, digitsVal_natDec,
      pBody, pFinished, kVersion, kOvni, kBody, kFinished, splitDots]

def jsonCodec : Codec where
  ser m := serializePretty (encodeMeta m)
  parse bytes := match parse bytes with | .ok j => decodeMeta j | _ => none
  parse_ser m := by
    simp only [Ovni.Props.Json.roundtrip _ (encodeMeta_writable m), decode_encode]
  parse_prefix m c hp hne := by
    simp only [Ovni.Props.Json.truncation_rejected _ (encodeMeta_writable m) rfl c hp hne]

end Ovni.Rt.Fs
