import OvniModel.Rt.FsSpec
import OvniModel.Lemmas.FsThread

/-! Any interleaving of the threads' calls: a thread's entries only see the
    thread's own calls, in order.  The sequential run is one interleaving. -/
namespace Ovni.Rt.Fs

theorem Shuffle.mem {ls : List (List FOp)} {L : List FOp} (h : Shuffle ls L) :
    ∀ op ∈ L, ∃ l ∈ ls, op ∈ l := by
  induction h with
  | done _ => intro op hop; cases hop
  | @take ls op L i rest hi _ ih =>
    intro x hx
    rcases List.mem_cons.mp hx with rfl | hx
    · exact ⟨_, List.mem_of_getElem? hi, by simp⟩
    · obtain ⟨l, hl, hxl⟩ := ih x hx
      rcases List.mem_or_eq_of_mem_set hl with h | rfl
      · exact ⟨l, h, hxl⟩
      · exact ⟨_, List.mem_of_getElem? hi, List.mem_cons_of_mem _ hxl⟩

/-- The frame rule for interleavings: what holds of a thread's entries along its own call list `T`
    holds along every interleaving of `T` with lists that leave those entries alone. -/
theorem Triple.shuffle {τ : Nat} {P I Q : View → Prop} {ls : List (List FOp)} {L T : List FOp} {j : Nat}
    (hT : Triple τ P T I Q) (h : Shuffle ls L) (hj : ls[j]? = some T)
    (hfor : ∀ i l, i ≠ j → ls[i]? = some l → ∀ op ∈ l, Foreign τ op) : Triple τ P L I Q := by
  intro v hP
  have hv := hT v hP
  clear hT hP
  induction h generalizing T v with
  | done hnil => rwa [hnil T (List.mem_of_getElem? hj)] at hv
  | @take ls op L i rest hi _ ih =>
    have hilt : i < ls.length := (List.getElem?_eq_some_iff.mp hi).1
    rw [valways_cons, vrun_cons]
    by_cases hij : i = j
    · subst hij
      cases hi.symm.trans hj
      rw [valways_cons, vrun_cons, and_assoc] at hv
      exact and_assoc.mpr ⟨hv.1, ih (by simp [hilt])
        (fun i' l hne hl => hfor i' l hne (by rwa [List.getElem?_set_ne (Ne.symm hne)] at hl)) _ hv.2⟩
    · rw [vstep_foreign (hfor i _ hij hi op (by simp))]
      have hfor' : ∀ i' l, i' ≠ j → (ls.set i rest)[i']? = some l → ∀ x ∈ l, Foreign τ x := by
        intro i' l hne hl
        by_cases hi' : i' = i
        · subst hi'
          simp only [List.getElem?_set, hilt, if_true, Option.some.injEq] at hl
          subst hl
          exact fun x hx => hfor i' _ hne hi x (List.mem_cons_of_mem _ hx)
        · exact hfor i' l hne (by rwa [List.getElem?_set_ne (Ne.symm hi')] at hl)
      have := ih (by rw [List.getElem?_set_ne hij]; exact hj) hfor' v hv
      exact ⟨⟨by simpa using this.1 0, this.1⟩, this.2⟩

/-- A thread's entries along any schedule of the process: `thread_inv`, framed by `ovni_proc_init`
    and `ovni_proc_fini` (directories only) and by the other threads' calls. -/
theorem thread_sched (C : Codec) (p : Prog) (L : List FOp) (hL : Schedule C.ser p L) (hwf : WellFormed p)
    (t : ThreadProg) (ht : t ∈ p.threads) :
    Triple t.tid (· = View.empty) L (TInv C t) (fun v => TInv C t v ∧ (t.free = true → v = doneView C t)) := by
  obtain ⟨body, hsh, rfl⟩ := hL
  obtain ⟨j, hjlt, hj⟩ := List.getElem_of_mem ht
  have hown : (p.threads.map fun t => ops (threadCalls C.ser p t))[j]? = some (ops (threadCalls C.ser p t)) := by
    simp [List.getElem?_map, List.getElem?_eq_getElem hjlt, hj]
  have hfor : ∀ i l, i ≠ j → (p.threads.map fun t => ops (threadCalls C.ser p t))[i]? = some l →
      ∀ op ∈ l, Foreign t.tid op := by
    intro i l hne hl
    simp only [List.getElem?_map, Option.map_eq_some_iff] at hl
    obtain ⟨t', ht', rfl⟩ := hl
    obtain ⟨hilt, hti⟩ := List.getElem?_eq_some_iff.mp ht'
    apply foreign_thread
    intro e
    refine hne ((List.getElem_inj (h₀ := by simpa using hilt) (h₁ := by simpa using hjlt) hwf).mp ?_)
    simp [hti, hj, e]
  exact ((Triple.idle _ (foreign_procInit _ p) (tinv_empty C t)).seq
    ((thread_inv C p t).and_inv.shuffle hsh hown hfor)).seq (Triple.foreign (foreign_procFini _ p) fun _ => And.left)

theorem view_of_stranger_sched (ser : Meta → List Nat) (p : Prog) (L : List FOp) (hL : Schedule ser p L)
    (τ : Nat) (h : ∀ t ∈ p.threads, τ ≠ t.tid) (k : Nat) : viewOf (crashStateS p L k) τ = View.empty := by
  obtain ⟨body, hsh, rfl⟩ := hL
  unfold crashStateS
  rw [viewOf_run, viewOf_init]
  apply vrun_foreign
  intro op hop
  have hop := List.mem_of_mem_take hop
  simp only [List.mem_append] at hop
  rcases hop with (h1 | h2) | h3
  · exact foreign_procInit τ p op h1
  · obtain ⟨l, hl, hopl⟩ := hsh.mem op h2
    simp only [List.mem_map] at hl
    obtain ⟨t, ht, rfl⟩ := hl
    exact foreign_thread ser p t (h t ht) op hopl
  · exact foreign_procFini τ p op h3

theorem Shuffle.cons_nil {ls : List (List FOp)} {L : List FOp} (h : Shuffle ls L) : Shuffle ([] :: ls) L := by
  induction h with
  | done hnil => exact .done (by simpa using hnil)
  | take i rest hi _ ih => exact .take (i + 1) rest hi ih

theorem Shuffle.append_head (l : List FOp) {ls : List (List FOp)} {L : List FOp} (h : Shuffle ([] :: ls) L) :
    Shuffle (l :: ls) (l ++ L) := by
  induction l with
  | nil => exact h
  | cons op l ih => exact .take 0 l rfl ih

theorem shuffle_flatten (ls : List (List FOp)) : Shuffle ls ls.flatten := by
  induction ls with
  | nil => exact .done (by simp)
  | cons l r ih => exact ih.cons_nil.append_head l

theorem schedule_sequential (ser : Meta → List Nat) (p : Prog) : Schedule ser p (ops (calls ser p)) := by
  refine ⟨ops (p.threads.flatMap (threadCalls ser p)), ?_, by simp [calls, ops]⟩
  have e : ops (p.threads.flatMap (threadCalls ser p)) = (p.threads.map fun t => ops (threadCalls ser p t)).flatten := by
    simp only [ops, List.flatMap, List.map_flatten, List.map_map]; rfl
  rw [e]
  exact shuffle_flatten _

theorem crashState_eq (C : Codec) (p : Prog) (k : Nat) : crashState C p k = crashStateS p (ops (calls C.ser p)) k := by
  simp only [crashState, crashStateS, ops, List.map_take]

theorem tinv_at_crash_sched (C : Codec) (p : Prog) (L : List FOp) (hL : Schedule C.ser p L) (hwf : WellFormed p)
    (t : ThreadProg) (ht : t ∈ p.threads) (k : Nat) :
    TInv C t (viewOf (crashStateS p L k) t.tid) := by
  rw [crashStateS, viewOf_run, viewOf_init]
  exact (thread_sched C p L hL hwf t ht _ rfl).1 k

/-- Every stream, a thread's or nobody's, is `Safe` in both trees at every point of every schedule. -/
theorem safe_at_crash_sched (C : Codec) (p : Prog) (L : List FOp) (hL : Schedule C.ser p L) (hwf : WellFormed p)
    (τ : Nat) (r : Root) (k : Nat) : Safe (viewOf (crashStateS p L k) τ) r := by
  by_cases hex : ∃ t ∈ p.threads, t.tid = τ
  · obtain ⟨t, ht, rfl⟩ := hex
    have h := tinv_at_crash_sched C p L hL hwf t ht k
    cases r
    · exact h.safeT
    · exact h.safeF
  · rw [view_of_stranger_sched C.ser p L hL τ (fun t ht e => hex ⟨t, ht, e.symm⟩) k]
    exact .inl (by cases r <;> rfl)

theorem tinv_at_crash (C : Codec) (p : Prog) (hwf : WellFormed p)
    (t : ThreadProg) (ht : t ∈ p.threads) (k : Nat) : TInv C t (viewOf (crashState C p k) t.tid) := by
  rw [crashState_eq]
  exact tinv_at_crash_sched C p _ (schedule_sequential C.ser p) hwf t ht k

theorem view_at_end (C : Codec) (p : Prog) (hwf : WellFormed p) (t : ThreadProg) (ht : t ∈ p.threads)
    (hf : t.free = true) : viewOf (run p.init (ops (calls C.ser p))) t.tid = doneView C t := by
  rw [viewOf_run, viewOf_init]
  exact (thread_sched C p _ (schedule_sequential C.ser p) hwf t ht _ rfl).2.2 hf

end Ovni.Rt.Fs
