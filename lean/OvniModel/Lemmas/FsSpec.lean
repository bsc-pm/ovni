import OvniModel.Lemmas.FsSched

/-! From the thread-level invariants to the statement-level definitions of
    `Rt/FsSpec`; for C10 also what a failed call, and the calls made before the abort, leave of a path. -/
namespace Ovni.Rt.Fs

theorem get_isSome_of_mem (fs : Fs) (q : Path) (n : Node) (h : (q, n) ∈ fs) : (fs.get q).isSome = true := by
  induction fs with
  | nil => cases h
  | cons e es ih =>
    obtain ⟨q', n'⟩ := e
    simp only [Fs.get]
    by_cases hq : q' = q
    · simp [hq]
    · rw [if_neg hq]
      simp only [List.mem_cons, Prod.mk.injEq] at h
      rcases h with ⟨h1, _⟩ | h
      · exact absurd h1.symm hq
      · exact ih h

theorem isSome_of_visibleStream (fs : Fs) (r : Root) (tid : Nat) (h : tid ∈ visibleStreams fs r) :
    (fs.get (.file r tid .json)).isSome = true := by
  simp only [visibleStreams, List.mem_filterMap] at h
  obtain ⟨⟨q, n⟩, hmem, heq⟩ := h
  split at heq
  · rename_i r' t' d pn hpair
    split at heq
    · rename_i hr
      simp only [Option.some.injEq] at heq
      simp only [Prod.mk.injEq] at hpair
      obtain ⟨rfl, rfl⟩ := hpair
      subst hr; subst heq
      exact get_isSome_of_mem fs _ _ hmem
    · cases heq
  · cases heq

/-- What `Safe` means to a reader: a stream.obs beside a stream.json holds exactly the flushed bytes,
    nothing pending.  Of the emulator's verdict C09 only uses that an accepted stream has a stream.obs. -/
theorem visible_obs_of_inv {s : Fs} {r : Root} {tid : Nat} (hs : Safe (viewOf s tid) r)
    (hvis : tid ∈ visibleStreams s r) (cut : Path → Nat) (o : List Nat)
    (ho : s.visible cut (.file r tid .obs) = some o) : o = s.flushed tid := by
  have hj := isSome_of_visibleStream _ r tid hvis
  rw [← viewOf_j] at hj
  rw [Fs.visible, ← viewOf_o] at ho
  rcases hs with h | ⟨d, h1, h2⟩ | h
  · rw [h] at ho; cases ho
  · rw [h1] at ho
    cases ho
    rw [Fs.flushed_eq, ← h2, List.take_nil, List.append_nil]
    rfl
  · rw [h] at hj; cases hj

theorem finished_after_data_of_inv {C : Codec} {t : ThreadProg} {s : Fs} (hfad : Fad C t (viewOf s t.tid))
    (cut : Path → Nat) (j : List Nat) (hj : s.visible cut (.file .fin t.tid .json) = some j)
    (hfin : jsonFinished C j = true) : s.visible cut (.file .fin t.tid .obs) = some t.obsBytes := by
  rw [Fs.visible, ← viewOf_j] at hj
  rcases hfad with h | ⟨d, pn, m, h1, h2, h3⟩ | h
  · rw [View.j, h] at hj
    cases hj
  · -- a prefix of unfinished metadata: it does not parse, or parses as unfinished
    exfalso
    rw [View.j, h1] at hj
    cases hj
    have hpre : (d ++ pn.take (cut (.file .fin t.tid .json))) <+: C.ser m :=
      List.IsPrefix.trans ((List.prefix_append_right_inj d).mpr (List.take_prefix _ pn)) h3
    by_cases he : d ++ pn.take (cut (.file .fin t.tid .json)) = C.ser m
    · simp only [jsonFinished, he, C.parse_ser, h2] at hfin
      cases hfin
    · simp only [jsonFinished, C.parse_prefix m _ hpre he] at hfin
      cases hfin
  · rw [Fs.visible, ← viewOf_o, View.o, h]
    simp only [List.take_nil, List.append_nil]

/-- A complete copy survives a change of one file: of a stream.json; or of a stream.obs that, where it
    had nothing pending, keeps its disk bytes. -/
theorem copy_of_kept_changed {S S' : Fs} {tid : Nat} (hK : Kept (viewOf S tid)) (r : Root) (τ : Nat) (n : FName)
    (hagree : ∀ q, q.isLeaf = true → q ≠ .file r τ n → S'.get q = S.get q)
    (hobs : n = .obs →
      ∀ d, S.get (.file r τ n) = some (.file d []) → ∃ pn, S'.get (.file r τ n) = some (.file d pn)) :
    CopyExists S' tid := by
  unfold CopyExists
  rw [Fs.flushed_eq, hagree _ rfl (by simp)]
  rcases hK with ⟨r', d, h1, h2⟩ | h
  · rw [viewOf_o] at h1
    by_cases he : Path.file r' tid .obs = .file r τ n
    · cases he
      obtain ⟨pn, h'⟩ := hobs rfl d h1
      exact Or.inr ⟨_, d, pn, h', h2.symm⟩
    · exact Or.inr ⟨r', d, [], (hagree _ rfl he).trans h1, h2.symm⟩
  · exact Or.inl h

theorem copy_of_kept {s : Fs} {tid : Nat} (hK : Kept (viewOf s tid)) : CopyExists s tid :=
  copy_of_kept_changed hK .fin 0 .json (fun _ _ _ => rfl) (fun h => nomatch h)

/-- No point of any schedule is without a complete copy of what each thread has flushed. -/
theorem copy_at_crash_sched (C : Codec) (p : Prog) (L : List FOp) (hL : Schedule C.ser p L) (hwf : WellFormed p)
    (k : Nat) : ∀ t ∈ p.threads, CopyExists (crashStateS p L k) t.tid :=
  fun t ht => copy_of_kept (tinv_at_crash_sched C p L hL hwf t ht k).kept

theorem crashState_succ (C : Codec) (p : Prog) (i : Nat) (op : FOp) (h : (ops (calls C.ser p))[i]? = some op) :
    crashState C p (i + 1) = apply (crashState C p i) op := by
  obtain ⟨hi, h⟩ := List.getElem?_eq_some_iff.mp h
  simp only [crashState, ops] at hi h ⊢
  rw [List.take_succ_eq_append_getElem (by simpa using hi), List.map_append, ← ops, ← ops]
  simp only [ops, List.map_cons, List.map_nil, List.getElem_map] at h ⊢
  rw [h]
  exact run_append _ _ _

theorem addPend_ne_synced {d : List Nat} (hd : d ≠ []) (o : Option Node) (x : List Nat) :
    addPend d o ≠ some (.file x []) := by
  cases o with
  | none => simp [addPend]
  | some nd => cases nd <;> simp [addPend, hd]

theorem viewOf_congr {s s' : Fs} (h : ∀ q, q.isLeaf = true → s'.get q = s.get q) (τ : Nat) :
    viewOf s' τ = viewOf s τ := by
  unfold viewOf
  rw [h _ rfl, h _ rfl, h _ rfl, h _ rfl, h _ rfl]

theorem complete_of_done {C : Codec} {t : ThreadProg} {s : Fs} (hv : viewOf s t.tid = doneView C t) :
    Complete C t s ∧ CopyExists s t.tid := by
  have hc : Complete C t s := by
    refine ⟨congrArg View.ofn hv, congrArg View.jf hv, ?_⟩
    rw [Fs.flushed_eq, show Fs.get _ (.ghost t.tid) = _ from congrArg View.g hv]
    rfl
  exact ⟨hc, Or.inr ⟨.fin, _, [], hc.1, hc.2.2.symm⟩⟩

theorem notSilent_returned {C : Codec} {p : Prog} {o : Outcome} {fl : Option Site} (hr : Outcome.isReturned o = true)
    (h : NotSilent C p fl o) : ∀ t ∈ p.threads, t.free = true → Complete C t o.fs ∧ CopyExists o.fs t.tid := by
  cases o with
  | returned s => exact h
  | die s => cases hr
  | killed s => cases hr

theorem run_get_congr {s1 s2 : Fs} {q : Path} (hq : q.isLeaf = true) (h : s1.get q = s2.get q) (X : List FOp) :
    (run s1 X).get q = (run s2 X).get q := by
  rw [get_run _ _ hq, get_run _ _ hq, h]

theorem get_apply_frame {s : Fs} {q : Path} (hq : q.isLeaf = true) {op : FOp} (h : q ∉ touch op) :
    (apply s op).get q = s.get q := by
  rw [get_apply _ _ hq, effect_of_not_touch h]

theorem get_run_frame {s : Fs} {q : Path} (hq : q.isLeaf = true) {X : List FOp} (h : ∀ op ∈ X, q ∉ touch op) :
    (run s X).get q = s.get q := by
  rw [get_run _ _ hq, evolve_of_not_touch h]

theorem applyFailed_fcloseW (s : Fs) (kept : Nat) (w : Path) (f : Fault) :
    applyFailed s kept (.fcloseW w) f =
      match s.get w with
      | some (.file disk pend) => s.set w (.file (disk ++ pend.take kept) [])
      | _ => s := rfl

/-- A failed call changes nothing outside the footprint of the call.  A failed `close` is excepted: it
    loses data of a `write` that had succeeded. -/
theorem get_applyFailed_frame {s : Fs} {q : Path} (hq : q.isLeaf = true) (kept : Nat) {op : FOp} (f : Fault)
    (h : q ∉ touch op) (hc : ∀ r t l, op ≠ .close r t l) : (applyFailed s kept op f).get q = s.get q := by
  -- a short count is the call with half of the data
  have short : ∀ op', touch op' = touch op → (apply s op').get q = s.get q :=
    fun op' e => get_apply_frame hq (e ▸ h)
  cases op
  case close r t l => exact absurd rfl (hc r t l)
  case fcloseW p => exact (Fs.get_update s p q _).trans (if_neg fun e => h (by simp [touch, e]))
  case write | fwrite | fputs =>
    cases f
    case short => simp only [applyFailed]; exact short _ rfl
    all_goals rfl
  all_goals rfl

theorem effect_write_append (r : Root) (t : Nat) (a b : List Nat) (q : Path) (o : Option Node) :
    effect (.write r t b) q (effect (.write r t a) q o) = effect (.write r t (a ++ b)) q o := by
  simp only [effect]
  by_cases h1 : q = .file r t .obs
  · simp only [h1, if_true]
    cases o with
    | none => rfl
    | some nd => cases nd <;> simp [addDisk, List.append_assoc]
  · simp only [h1, if_false]
    by_cases h2 : q = .ghost t
    · simp [h2, flushedOf, List.append_assoc]
    · simp [h2]

theorem get_short_write {s : Fs} {q : Path} (hq : q.isLeaf = true) (r : Root) (t : Nat) (d : List Nat) (n : Nat)
    (X : List FOp) :
    (run (apply s (.write r t (d.take n))) (.write r t (d.drop n) :: X)).get q
      = (run (apply s (.write r t d)) X).get q := by
  rw [run_cons]
  apply run_get_congr hq
  rw [get_apply _ _ hq, get_apply _ _ hq, get_apply _ _ hq, effect_write_append, List.take_append_drop]

/-- C10 from any state.  The outcome is what `faultAt` makes of the failure of call `c` in state `s`
    when `rest` are the calls that would have followed.  All that is used of that point is that
    `Kept` holds of every thread there and would hold had the call succeeded, and that the calls
    which would have followed complete every freed thread.  `thread_sched` gives all three at every
    point of every schedule; `faultAt` is defined on the sequential one. -/
theorem not_silent_of_inv (C : Codec) (p : Prog) {s : Fs} {c : Call} {τ : Nat} (hso : CallOf τ c)
    (f : Fault) (kept : Nat) (rest : List Call) (hfire : fires c.op f = true)
    (hK : ∀ t ∈ p.threads, Kept (viewOf s t.tid))
    (hK' : ∀ t ∈ p.threads, Kept (viewOf (apply s c.op) t.tid))
    (hend : ∀ t ∈ p.threads, t.free = true → viewOf (run (apply s c.op) (ops rest)) t.tid = doneView C t) :
    NotSilent C p (some c.site)
      (match cont c f rest with
       | .die extra => .die (run (applyFailed s kept c.op f) (ops extra))
       | .go rest' => .returned (run (applyFailed s kept c.op f) (ops rest'))) := by
  -- the run goes on and ends as the fault-free run does
  have go_on : ∀ s', (∀ q, q.isLeaf = true → s'.get q = (run (apply s c.op) (ops rest)).get q) →
      NotSilent C p (some c.site) (.returned s') :=
    fun s' h t ht hf => complete_of_done ((viewOf_congr h t.tid).trans (hend t ht hf))
  -- abort in a state that differs at one file of thread τ from `S`, a state of which `Kept` holds
  have die_at : ∀ {fl : Option Site} {S : Fs}, (∀ t ∈ p.threads, Kept (viewOf S t.tid)) →
      ∀ (s' : Fs) (r : Root) (n : FName), (∀ q, q.isLeaf = true → q ≠ .file r τ n → s'.get q = S.get q) →
      (n = .obs → ∀ d, S.get (.file r τ n) = some (.file d []) → ∃ pn, s'.get (.file r τ n) = some (.file d pn)) →
      NotSilent C p fl (.die s') :=
    fun hS _ r n hagree hobs => Or.inr fun t ht => copy_of_kept_changed (hS t ht) r τ n hagree hobs
  have die_same : ∀ {fl : Option Site}, NotSilent C p fl (.die s) := Or.inr fun t ht => copy_of_kept (hK t ht)
  -- abort after both fclose of the copy: the destination's pending bytes reach the disk
  have die_closed : ∀ {fl : Option Site} (g : Nat) (n : FName), NotSilent C p fl (.die (run s
      (ops [⟨.moveFcloseOut, g, .fcloseW (.file .fin τ n)⟩, ⟨.moveFcloseIn, g, .fcloseR (.file .tmp τ n)⟩]))) :=
    fun g n => die_at hK _ .fin n (fun q hq hne => get_run_frame hq (by simp [ops, touch, hne]))
      (fun _ d hd => ⟨[], by simp [ops, get_run _ _ (q := .file .fin τ n) rfl, hd, effect, flushPend]⟩)
  cases hso with
  -- the failed call changes nothing and the runtime aborts: at once, or, for `fopen(dst)`,
  -- after `fclose(infile)`, which changes nothing either
  | mkdirPath | statPath | openStream | storeFopen | moveFopenSrc | moveFopenDst | moveRemove => exact die_same
  | closeStream r last => exact Or.inl rfl   -- the failed close is itself the loss
  | writeStream r d =>
    cases f with
    | short =>
      -- the remainder is written next
      exact go_on _ fun q hq => get_short_write hq r τ d _ _
    | _ => exact die_same
  | moveFcloseIn g n => exact go_on _ fun _ _ => rfl   -- result ignored, nothing to lose
  | cleanRmdir x hx =>
    refine go_on _ fun q hq => run_get_congr hq ?_ _
    exact (get_apply_frame hq (by simp only [touch, List.mem_singleton]; rintro rfl; rw [hq] at hx; cases hx)).symm
  | storeFputs r d =>
    -- the fclose, then abort: only this stream.json changes
    refine die_at hK _ r .json (fun q hq hne => ?_) (fun h => nomatch h)
    dsimp only
    rw [get_run_frame hq (by simp [ops, touch, hne]), get_applyFailed_frame hq kept f (by simp [touch, hne]) (by simp)]
  | storeFclose r =>
    exact die_at hK _ r .json (fun q hq hne =>
      get_applyFailed_frame hq kept (op := .fcloseW (.file r τ .json)) f (by simp [touch, hne]) (by simp)) (fun h => nomatch h)
  | moveFread g n k => exact die_closed g n
  | moveFwrite g n d =>
    cases f with
    | short =>
      -- half of the data, then as above; had the `fwrite` succeeded, bytes would be pending in the
      -- destination, so the copy that `Kept` speaks of then is another file
      refine die_at hK' _ .fin n (fun q hq hne => ?_) (fun _ x hx => ?_)
      · dsimp only [applyFailed]
        rw [get_run_frame hq (by simp [ops, touch, hne]), get_apply_frame hq (by simp [touch, hne]),
          get_apply_frame hq (by simp [touch, hne])]
      · rw [get_apply _ _ rfl] at hx
        simp only [effect, if_true] at hx
        have hd : d ≠ [] := by intro e; subst e; cases hfire
        exact absurd hx (addPend_ne_synced hd _ x)
    | _ => exact die_closed g n
  | moveFcloseOut g n =>
    -- fclose(infile), abort: what stdio had flushed of the destination stays
    refine die_at hK _ .fin n (fun q hq hne => ?_) (fun _ d hd => ⟨[], ?_⟩)
    · exact get_applyFailed_frame hq kept (op := .fcloseW (.file .fin τ n)) f (by simp [touch, hne]) (by simp)
    · show (applyFailed s kept (.fcloseW (.file .fin τ n)) f).get _ = _
      rw [applyFailed_fcloseW, hd, Fs.get_set_same, List.take_nil, List.append_nil]

instance (C : Codec) (t : ThreadProg) (s : Fs) : Decidable (Complete C t s) := by
  unfold Complete; infer_instance

def copyExistsB (s : Fs) (tid : Nat) : Bool :=
  s.flushed tid == [] ||
    [Root.tmp, Root.fin].any fun r =>
      match s.get (.file r tid .obs) with
      | some (.file d _) => d == s.flushed tid
      | _ => false

theorem copyExists_iff_B (s : Fs) (tid : Nat) : CopyExists s tid ↔ copyExistsB s tid = true := by
  unfold CopyExists copyExistsB
  simp only [Bool.or_eq_true, beq_iff_eq, List.any_cons, List.any_nil, Bool.or_false]
  constructor
  · rintro (h | ⟨r, d, pn, h1, h2⟩)
    · exact Or.inl h
    · right
      cases r
      · left; rw [h1]; simpa using h2
      · right; rw [h1]; simpa using h2
  · rintro (h | h | h)
    · exact Or.inl h
    · right
      split at h
      · rename_i d pn hg; exact ⟨.tmp, d, pn, hg, by simpa using h⟩
      · cases h
    · right
      split at h
      · rename_i d pn hg; exact ⟨.fin, d, pn, hg, by simpa using h⟩
      · cases h

instance (s : Fs) (tid : Nat) : Decidable (CopyExists s tid) :=
  decidable_of_iff _ (copyExists_iff_B s tid).symm

end Ovni.Rt.Fs
