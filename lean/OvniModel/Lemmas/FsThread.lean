import OvniModel.Lemmas.FsGlobal

/-! Thread-level invariants of the runtime's call list: what holds of the five
    entries of a thread after every prefix of `threadCalls`. -/
namespace Ovni.Rt.Fs

def ObsSync (n g : Option Node) : Prop := ∃ d, n = some (.file d []) ∧ flushedOf g = d

/-- In tree `r` the stream is invisible, has no stream.obs, or its
    stream.obs is exactly the flushed bytes. -/
def Safe (v : View) (r : Root) : Prop := v.o r = none ∨ ObsSync (v.o r) v.g ∨ v.j r = none

/-- Whatever is or may become visible of this stream.json is a prefix of the
    serialisation of metadata without the finished flag. -/
def JUnf (C : Codec) (n : Option Node) : Prop :=
  ∃ d pn m, n = some (.file d pn) ∧ m.finished = false ∧ (d ++ pn) <+: C.ser m

/-- finished can only be visible in the final tree over a complete stream.obs. -/
def Fad (C : Codec) (t : ThreadProg) (v : View) : Prop :=
  v.jf = none ∨ JUnf C v.jf ∨ v.ofn = some (.file t.obsBytes [])

/-- A complete copy exists: the stream.obs of one of the trees holds exactly the flushed bytes,
    nothing pending; or nothing has been flushed. -/
def Kept (v : View) : Prop := (∃ r, ObsSync (v.o r) v.g) ∨ flushedOf v.g = []

/-- What holds of a thread's five entries after every prefix of its calls, whatever the other threads
    do (`thread_sched`).  C09 reads `safeT`, `safeF` and `fad`; C10 reads `kept`. -/
structure TInv (C : Codec) (t : ThreadProg) (v : View) : Prop where
  safeT : Safe v .tmp
  safeF : Safe v .fin
  fad : Fad C t v
  kept : Kept v

abbrev synced (d : List Nat) : Option Node := some (.file d [])

/-- The view while the thread works in tree `r` (`Prog.wr`): stream.obs `o`, stream.json `j`, ghost
    log `g`; nothing in the other tree. -/
def View.work : Root → Option Node → Option Node → Option Node → View
  | .tmp, o, j, g => ⟨o, j, none, none, g⟩
  | .fin, o, j, g => ⟨none, none, o, j, g⟩

theorem vstep_openW (r : Root) (τ : Nat) (o j g : Option Node) :
    vstep τ (.work r o j g) (.openW r τ) = .work r (if o.isSome then o else synced []) j g := by
  cases r <;> simp [vstep, effect, View.work, synced] <;> rfl

theorem vstep_write (r : Root) (τ : Nat) (o j g : Option Node) (d : List Nat) :
    vstep τ (.work r o j g) (.write r τ d) = .work r (addDisk d o) j (some (.file (flushedOf g ++ d) [])) := by
  cases r <;> simp [vstep, effect, View.work]

theorem vstep_json (r : Root) (τ : Nat) (o j g : Option Node) {op : FOp} (h : touch op = [.file r τ .json]) :
    vstep τ (.work r o j g) op = .work r o (effect op (.file r τ .json) j) g := by
  have hn : ∀ q, q ≠ .file r τ .json → ∀ x, effect op q x = x :=
    fun q hq x => effect_of_not_touch (by rw [h]; simpa using hq) x
  cases r <;> simp [vstep, View.work, hn]

section Work
variable (C : Codec) (t : ThreadProg)

theorem tinv_work (r : Root) (o j g : Option Node) (ho : o = none ∧ flushedOf g = [] ∨ ObsSync o g)
    (hj : j = none ∨ JUnf C j ∨ o = synced t.obsBytes) : TInv C t (.work r o j g) := by
  have hs : o = none ∨ ObsSync o g ∨ j = none := ho.elim (fun h => .inl h.1) (fun h => .inr (.inl h))
  cases r
  · exact ⟨hs, .inl rfl, .inl rfl, ho.elim (fun h => .inr h.2) (fun h => .inl ⟨.tmp, h⟩)⟩
  · exact ⟨.inl rfl, hs, hj, ho.elim (fun h => .inr h.2) (fun h => .inl ⟨.fin, h⟩)⟩

/-- What the working stream.json may be while stream.obs holds `g`: unfinished metadata unless `g`
    is everything. -/
def JOk (g : List Nat) (j : Option Node) : Prop := j = none ∨ JUnf C j ∨ g = t.obsBytes

theorem jok_ser (g : List Nat) (m : Meta) (hm : m.finished = false) (d pn : List Nat)
    (h : d ++ pn <+: C.ser m) : JOk C t g (some (.file d pn)) :=
  .inr (.inl ⟨d, pn, m, rfl, hm, h⟩)

theorem tinv_sync (r : Root) (g : List Nat) (j : Option Node) (hj : JOk C t g j) :
    TInv C t (.work r (synced g) j (synced g)) :=
  tinv_work C t r _ _ _ (Or.inr ⟨g, rfl, rfl⟩) (hj.imp_right (Or.imp_right (congrArg synced)))

theorem work_empty (r : Root) : View.empty = .work r none none none := by cases r <;> rfl

/-- `create_trace_stream`, `write_stream_header`. -/
theorem open_work (r : Root) :
    Triple t.tid (· = View.empty)
      (ops [⟨.openStream, 0, .openW r t.tid⟩, ⟨.writeStream, 0, .write r t.tid t.hdr⟩])
      (TInv C t) (· = .work r (synced t.hdr) none (synced t.hdr)) := by
  intro v hv; subst hv
  rw [work_empty r]
  simp only [ops, List.map_cons, List.map_nil, valways_cons, valways_nil, vrun_cons, vrun_nil, vstep_openW, vstep_write,
    Option.isSome_none, Bool.false_eq_true, if_false, addDisk, flushedOf, List.nil_append, and_true]
  exact ⟨tinv_work C t r _ _ _ (Or.inl ⟨rfl, rfl⟩) (Or.inl rfl),
    tinv_work C t r _ _ _ (Or.inr ⟨[], rfl, rfl⟩) (Or.inl rfl), tinv_sync C t r _ _ (Or.inl rfl)⟩

theorem io_work (r : Root) (chunks : List (List Nat)) (g : List Nat) (j : Option Node) (hj : JUnf C j) :
    Triple t.tid (· = .work r (synced g) j (synced g))
      (ops (chunks.map fun d => (⟨.writeStream, 0, .write r t.tid d⟩ : Call)))
      (TInv C t) (· = .work r (synced (g ++ chunks.flatten)) j (synced (g ++ chunks.flatten))) := by
  induction chunks generalizing g with
  | nil =>
    intro v hv; subst hv
    simp only [ops, List.map_nil, valways_nil, vrun_nil, List.flatten_nil, List.append_nil, and_true]
    exact tinv_sync C t r g j (.inr (.inl hj))
  | cons d ds ih =>
    intro v hv; subst hv
    have := ih (g ++ d) _ rfl
    simp only [ops, List.map_cons, valways_cons, vrun_cons, List.flatten_cons, vstep_write, addDisk, flushedOf] at this ⊢
    rw [← List.append_assoc]
    exact ⟨⟨tinv_sync C t r g j (.inr (.inl hj)), this.1⟩, this.2⟩

/-- `thread_metadata_store`; `hjs` covers the three states of the new file. -/
theorem store_work (r : Root) (js g : List Nat) (j : Option Node) (hj : JOk C t g j)
    (hjs : ∀ d pn, d ++ pn <+: js → JOk C t g (some (.file d pn))) :
    Triple t.tid (· = .work r (synced g) j (synced g)) (ops (storeCalls r t.tid js))
      (TInv C t) (· = .work r (synced g) (synced js) (synced g)) := by
  intro v hv; subst hv
  simp only [ops, storeCalls, List.map_cons, List.map_nil, valways_cons, valways_nil, vrun_cons, vrun_nil,
    vstep_json r t.tid _ _ _ (op := .fopenW _) rfl, vstep_json r t.tid _ _ _ (op := .fputs _ _) rfl,
    vstep_json r t.tid _ _ _ (op := .fcloseW _) rfl, effect, if_true, addPend, flushPend, List.nil_append, and_true]
  exact ⟨tinv_sync C t r g j hj, tinv_sync C t r g _ (hjs [] [] (List.nil_prefix)),
    tinv_sync C t r g _ (hjs [] js (List.prefix_refl _)), tinv_sync C t r g _ (hjs js [] (by simp))⟩

theorem junf_done (m : Meta) (h : m.finished = false) : JUnf C (synced (C.ser m)) :=
  ⟨C.ser m, [], m, rfl, h, by simp⟩

theorem steps_work (p : Prog) (steps : List PStep) (g : List Nat) (j : Option Node) (hj : JUnf C j) :
    Triple t.tid (· = .work p.wr (synced g) j (synced g))
      (ops (steps.flatMap (stepCalls C.ser p t.tid)))
      (TInv C t) (fun v => ∃ j', JUnf C j' ∧
        v = .work p.wr (synced (g ++ stepsBytes steps)) j' (synced (g ++ stepsBytes steps))) := by
  induction steps generalizing g j with
  | nil =>
    intro v hv; subst hv
    simp only [List.flatMap_nil, ops, List.map_nil, valways_nil, vrun_nil, stepsBytes, List.append_nil]
    exact ⟨tinv_sync C t _ g j (.inr (.inl hj)), j, hj, rfl⟩
  | cons st r ih =>
    simp only [List.flatMap_cons, ops_append]
    cases st with
    | io chunks =>
      simp only [stepCalls, stepsBytes]
      refine Triple.seq (io_work C t _ chunks g j hj) ?_
      rw [← List.append_assoc]
      exact ih _ j hj
    | attrFlush b =>
      simp only [stepCalls, stepsBytes]
      exact Triple.seq (store_work C t _ _ g j (.inr (.inl hj)) (jok_ser C t g ⟨false, b⟩ rfl))
        (ih _ _ (junf_done C _ rfl))

/-- `ovni_thread_free` up to `close(streamfd)`: the finished metadata is stored
    when stream.obs is complete. -/
theorem free_work (r : Root) (j : Option Node) (hj : JUnf C j) (last : Nat) :
    Triple t.tid (· = .work r (synced t.obsBytes) j (synced t.obsBytes))
      (ops (storeCalls r t.tid (C.ser ⟨true, t.metaF⟩) ++ [⟨.closeStream, 0, .close r t.tid last⟩]))
      (TInv C t) (· = .work r (synced t.obsBytes) (synced (C.ser ⟨true, t.metaF⟩)) (synced t.obsBytes)) := by
  have hdone : ∀ j', JOk C t t.obsBytes j' := fun _ => .inr (.inr rfl)
  rw [ops_append]
  exact Triple.seq (store_work C t r _ _ j (.inr (.inl hj)) (fun _ _ _ => hdone _))
    (Triple.idle _ (foreign_single rfl) (tinv_sync C t r _ _ (hdone _)))

end Work

theorem blocks_flatten (fuel : Nat) (c : List Nat) (h : c.length ≤ fuel) : (blocks fuel c).flatten = c := by
  induction fuel generalizing c with
  | zero =>
    have : c = [] := List.length_eq_zero_iff.mp (Nat.le_zero.mp h)
    subst this; rfl
  | succ n ih =>
    cases c with
    | nil => rfl
    | cons x xs =>
      simp only [blocks, List.flatten_cons]
      rw [ih]
      · exact List.take_append_drop 1024 (x :: xs)
      · simp only [List.length_drop, List.length_cons] at h ⊢; omega

/-- A view seen from file `n`; primed: the thread's other file. -/
def View.of : FName → (src dst src' dst' g : Option Node) → View
  | .obs, s, d, s', d', g => ⟨s, s', d, d', g⟩
  | .json, s, d, s', d', g => ⟨s', s, d', d, g⟩

theorem vstep_dst {τ : Nat} {n : FName} {op : FOp} (h : touch op = [.file .fin τ n]) (s d s' d' g : Option Node) :
    vstep τ (.of n s d s' d' g) op = .of n s (effect op (.file .fin τ n) d) s' d' g := by
  have hn : ∀ q, q ≠ .file .fin τ n → ∀ x, effect op q x = x :=
    fun q hq x => effect_of_not_touch (by rw [h]; simpa using hq) x
  cases n <;> simp [vstep, View.of, hn]

theorem vstep_src {τ : Nat} {n : FName} {op : FOp} (h : touch op = [.file .tmp τ n]) (s d s' d' g : Option Node) :
    vstep τ (.of n s d s' d' g) op = .of n (effect op (.file .tmp τ n) s) d s' d' g := by
  have hn : ∀ q, q ≠ .file .tmp τ n → ∀ x, effect op q x = x :=
    fun q hq x => effect_of_not_touch (by rw [h]; simpa using hq) x
  cases n <;> simp [vstep, View.of, hn]

theorem vstep_quiet {τ : Nat} {op : FOp} (h : touch op = []) (v : View) : vstep τ v op = v :=
  vstep_foreign (foreign_single h op (List.mem_singleton_self op)) v

theorem loop_copy (τ : Nat) (n : FName) (I : View → Prop) (s s' d' g : Option Node)
    (hI : ∀ x, I (.of n s x s' d' g)) (bs : List (List Nat)) (pend : List Nat) :
    VAlways τ I (.of n s (some (.file [] pend)) s' d' g)
        (bs.flatMap fun blk => [.fread (.file .tmp τ n) blk.length, .fwrite (.file .fin τ n) blk])
    ∧ vrun τ (.of n s (some (.file [] pend)) s' d' g)
        (bs.flatMap fun blk => [.fread (.file .tmp τ n) blk.length, .fwrite (.file .fin τ n) blk])
      = .of n s (some (.file [] (pend ++ bs.flatten))) s' d' g := by
  induction bs generalizing pend with
  | nil => simp [valways_nil, hI]
  | cons blk r ih =>
    have := ih (pend ++ blk)
    simp only [List.flatMap_cons, List.cons_append, List.nil_append, valways_cons, vrun_cons, List.flatten_cons,
      vstep_quiet (op := .fread _ _) rfl, vstep_dst (op := .fwrite _ _) rfl, effect, if_true, addPend]
    rw [← List.append_assoc]
    exact ⟨⟨hI _, hI _, this.1⟩, this.2⟩

/-- `move_thread_to_final` for file `n` with content `c`: `I` must hold whatever
    the state of the destination, and once the source is gone. -/
theorem move_file (k τ : Nat) (n : FName) (I : View → Prop) (c : List Nat) (x s' d' g : Option Node)
    (hA : ∀ y, I (.of n (synced c) y s' d' g)) (hB : I (.of n none (synced c) s' d' g)) :
    Triple τ (· = .of n (synced c) x s' d' g) (ops (moveFileCalls k τ n c)) I
      (· = .of n none (synced c) s' d' g) := by
  intro v hv; subst hv
  simp only [ops, moveFileCalls, List.map_append, List.map_cons, List.map_nil, List.map_flatMap]
  obtain ⟨l1, l2⟩ := loop_copy τ n I (synced c) s' d' g hA (blocks c.length c) []
  rw [List.append_assoc, valways_append, valways_append, vrun_append, vrun_append]
  simp only [valways_cons, valways_nil, vrun_cons, vrun_nil,
    vstep_quiet (op := .fopenR _) rfl, vstep_dst (op := .fopenW _) rfl, effect, if_true]
  rw [l2, blocks_flatten _ _ (Nat.le_refl _)]
  simp only [vstep_quiet (op := .fread _ _) rfl, vstep_quiet (op := .fcloseR _) rfl, vstep_dst (op := .fcloseW _) rfl,
    vstep_src (op := .remove _) rfl, effect, if_true, flushPend, List.nil_append]
  -- before fopen(src), fopen(dst) and the loop; the loop; before the last fread, fclose(dst),
  -- fclose(src), remove(src); after it
  exact ⟨⟨⟨hA _, hA _, hA _⟩, l1, hA _, hA _, hA _, hA _, hB⟩, trivial⟩

/-- `relocCalls` under `OVNI_TMPDIR`: `move_thdir_to_final` (stream.obs, then stream.json) +
    `try_clean_dir`. -/
theorem relocate (τ : Nat) (I : View → Prop) (g js : List Nat)
    (h1 : ∀ y, I ⟨synced g, synced js, y, none, synced g⟩) (h2 : ∀ y, I ⟨none, synced js, synced g, y, synced g⟩)
    (h3 : I ⟨none, none, synced g, synced js, synced g⟩) :
    Triple τ (· = ⟨synced g, synced js, none, none, synced g⟩)
      (ops (moveFileCalls 1 τ .obs g ++ moveFileCalls 2 τ .json js ++ [⟨.cleanRmdir, 0, .rmdir (.thread .tmp τ)⟩]))
      I (· = ⟨none, none, synced g, synced js, synced g⟩) := by
  rw [ops_append, ops_append]
  refine ((move_file 1 τ .obs I g none (synced js) none (synced g) h1 (h2 _)).seq
    (move_file 2 τ .json I js none none (synced g) (synced g) h2 h3)).seq
    (Triple.idle _ (foreign_of_common fun τ' c hc => ?_) h3)
  rw [List.mem_singleton.mp hc]
  exact .cleanRmdir _ rfl

/-- The entries of a thread when `ovni_thread_free` has returned. -/
def doneView (C : Codec) (t : ThreadProg) : View :=
  ⟨none, none, synced t.obsBytes, synced (C.ser ⟨true, t.metaF⟩), synced t.obsBytes⟩

theorem tinv_empty (C : Codec) (t : ThreadProg) : TInv C t View.empty :=
  ⟨Or.inl rfl, Or.inl rfl, Or.inl rfl, Or.inr rfl⟩

theorem thread_inv (C : Codec) (p : Prog) (t : ThreadProg) :
    Triple t.tid (· = View.empty) (ops (threadCalls C.ser p t)) (TInv C t)
      (fun v => t.free = true → v = doneView C t) := by
  have hmk : ∀ cs : List Call, (∀ op ∈ ops cs, Foreign t.tid op) →
      Triple t.tid (· = View.empty) (ops cs) (TInv C t) (· = View.empty) :=
    fun cs h => Triple.idle _ h (tinv_empty C t)
  unfold threadCalls threadInitCalls
  simp only [ops_append, List.append_assoc]
  refine Triple.seq (hmk _ (foreign_mkdirThread _ _ _ _)) (Triple.seq (hmk _ ?_) ?_)
  · split
    · exact foreign_mkdirThread _ _ _ _
    · intro op hop; cases hop
  refine Triple.seq (open_work C t p.wr) ?_
  refine Triple.seq (store_work C t p.wr _ _ none (.inl rfl) (jok_ser C t _ ⟨false, t.meta0⟩ rfl)) ?_
  refine Triple.seq (steps_work C t p t.steps t.hdr _ (junf_done C _ rfl)) ?_
  intro v ⟨j', hj', hv⟩
  subst hv
  cases hf : t.free with
  | false =>
    simp only [Bool.false_eq_true, if_false, ops_nil, valways_nil, vrun_nil, false_imp_iff, and_true]
    exact tinv_sync C t _ _ j' (.inr (.inl hj'))
  | true =>
    simp only [if_true, threadFreeCalls, true_imp_iff]
    rw [ops_append]
    refine Triple.seq (R := (· = doneView C t)) (free_work C t p.wr j' hj' _) ?_ _ rfl
    unfold relocCalls Prog.wr
    cases p.tmpMode with
    | false => exact Triple.nil (fun v hv => hv ▸ tinv_sync C t .fin _ _ (.inr (.inr rfl)))
    | true =>
      simp only [if_true]
      -- `TInv` is `⟨Safe .tmp, Safe .fin, Fad, Kept⟩`; `sync` says a stream.obs holds the flushed bytes
      have sync : ObsSync (synced t.obsBytes) (synced t.obsBytes) := ⟨_, rfl, rfl⟩
      -- once stream.obs is in the final tree (the source gone), wherever stream.json is
      have moved : ∀ x y, TInv C t ⟨none, x, synced t.obsBytes, y, synced t.obsBytes⟩ :=
        fun _ _ => ⟨.inl rfl, .inr (.inl sync), .inr (.inr rfl), .inl ⟨.fin, sync⟩⟩
      refine relocate t.tid (TInv C t) t.obsBytes (C.ser ⟨true, t.metaF⟩) (fun y => ?_) (moved _) (moved _ _)
      -- while stream.obs is copied: the tmp tree is in sync, the final tree has no stream.json
      exact ⟨.inr (.inl sync), .inr (.inr rfl), .inl rfl, .inl ⟨.tmp, sync⟩⟩

end Ovni.Rt.Fs
