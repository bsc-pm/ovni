import OvniModel.Lemmas.Fs

/-! The five entries of one thread (stream.obs / stream.json in both trees and
    the ghost log) as a small state machine, and Hoare-style reasoning about
    every prefix of a call list. -/
namespace Ovni.Rt.Fs

structure View where
  ot : Option Node     -- tmp tree stream.obs
  jt : Option Node     -- tmp tree stream.json
  ofn : Option Node    -- final tree stream.obs
  jf : Option Node     -- final tree stream.json
  g : Option Node      -- ghost log

def View.o (v : View) : Root → Option Node
  | .tmp => v.ot
  | .fin => v.ofn

def View.j (v : View) : Root → Option Node
  | .tmp => v.jt
  | .fin => v.jf

def View.empty : View := ⟨none, none, none, none, none⟩

def viewOf (s : Fs) (τ : Nat) : View :=
  ⟨s.get (.file .tmp τ .obs), s.get (.file .tmp τ .json), s.get (.file .fin τ .obs),
   s.get (.file .fin τ .json), s.get (.ghost τ)⟩

/-- One call as thread `τ`'s five entries see it (`viewOf_apply`). -/
def vstep (τ : Nat) (v : View) (op : FOp) : View :=
  ⟨effect op (.file .tmp τ .obs) v.ot, effect op (.file .tmp τ .json) v.jt,
   effect op (.file .fin τ .obs) v.ofn, effect op (.file .fin τ .json) v.jf,
   effect op (.ghost τ) v.g⟩

def vrun (τ : Nat) (v : View) (ops : List FOp) : View := ops.foldl (vstep τ) v

@[simp] theorem vrun_nil (τ : Nat) (v : View) : vrun τ v [] = v := rfl
@[simp] theorem vrun_cons (τ : Nat) (v : View) (op : FOp) (r : List FOp) :
    vrun τ v (op :: r) = vrun τ (vstep τ v op) r := rfl
theorem vrun_append (τ : Nat) (v : View) (a b : List FOp) :
    vrun τ v (a ++ b) = vrun τ (vrun τ v a) b := by simp [vrun, List.foldl_append]

theorem viewOf_apply (s : Fs) (τ : Nat) (op : FOp) : viewOf (apply s op) τ = vstep τ (viewOf s τ) op := by
  simp only [viewOf, vstep]
  rw [get_apply s op (q := .file .tmp τ .obs) rfl, get_apply s op (q := .file .tmp τ .json) rfl,
      get_apply s op (q := .file .fin τ .obs) rfl, get_apply s op (q := .file .fin τ .json) rfl,
      get_apply s op (q := .ghost τ) rfl]

theorem viewOf_run (s : Fs) (τ : Nat) (ops : List FOp) : viewOf (run s ops) τ = vrun τ (viewOf s τ) ops := by
  induction ops generalizing s with
  | nil => rfl
  | cons op r ih =>
    show viewOf (run (apply s op) r) τ = _
    rw [ih, viewOf_apply]; rfl

theorem viewOf_init (p : Prog) (τ : Nat) : viewOf p.init τ = View.empty := by
  simp only [viewOf, Prog.init, View.empty]
  rw [get_initAncs_leaf _ rfl, get_initAncs_leaf _ rfl, get_initAncs_leaf _ rfl, get_initAncs_leaf _ rfl,
      get_initAncs_leaf _ rfl]

theorem viewOf_o (s : Fs) (τ : Nat) (r : Root) : (viewOf s τ).o r = s.get (.file r τ .obs) := by cases r <;> rfl

theorem viewOf_j (s : Fs) (τ : Nat) (r : Root) : (viewOf s τ).j r = s.get (.file r τ .json) := by cases r <;> rfl

/-- the paths `viewOf · τ` reads -/
def tpaths (τ : Nat) : List Path :=
  [.file .tmp τ .obs, .file .tmp τ .json, .file .fin τ .obs, .file .fin τ .json, .ghost τ]

def Foreign (τ : Nat) (op : FOp) : Prop := ∀ q ∈ tpaths τ, q ∉ touch op

theorem vstep_foreign {τ : Nat} {op : FOp} (h : Foreign τ op) (v : View) : vstep τ v op = v := by
  simp only [vstep]
  rw [effect_of_not_touch (h _ (by simp [tpaths])), effect_of_not_touch (h _ (by simp [tpaths])),
      effect_of_not_touch (h _ (by simp [tpaths])), effect_of_not_touch (h _ (by simp [tpaths])),
      effect_of_not_touch (h _ (by simp [tpaths]))]

theorem vrun_foreign {τ : Nat} {ops : List FOp} (h : ∀ op ∈ ops, Foreign τ op) (v : View) : vrun τ v ops = v := by
  induction ops generalizing v with
  | nil => rfl
  | cons op r ih =>
    rw [vrun_cons, vstep_foreign (h op (by simp)), ih (fun x hx => h x (by simp [hx]))]

def VAlways (τ : Nat) (I : View → Prop) (v : View) (ops : List FOp) : Prop :=
  ∀ k, I (vrun τ v (ops.take k))

theorem valways_nil {τ : Nat} {I : View → Prop} {v : View} : VAlways τ I v [] ↔ I v := by
  simp [VAlways]

theorem valways_cons {τ : Nat} {I : View → Prop} {v : View} {op : FOp} {r : List FOp} :
    VAlways τ I v (op :: r) ↔ I v ∧ VAlways τ I (vstep τ v op) r := by
  constructor
  · intro h
    refine ⟨by simpa using h 0, fun k => ?_⟩
    simpa using h (k + 1)
  · intro ⟨h0, h⟩ k
    cases k with
    | zero => simpa using h0
    | succ k => simpa using h k

theorem valways_append {τ : Nat} {I : View → Prop} {v : View} {a b : List FOp} :
    VAlways τ I v (a ++ b) ↔ VAlways τ I v a ∧ VAlways τ I (vrun τ v a) b := by
  induction a generalizing v with
  | nil => simp only [List.nil_append, vrun_nil, valways_nil, iff_and_self]; intro h; simpa using h 0
  | cons op r ih =>
    simp only [List.cons_append, valways_cons, vrun_cons, ih, and_assoc]

theorem valways_foreign {τ : Nat} {I : View → Prop} {v : View} {ops : List FOp}
    (h : ∀ op ∈ ops, Foreign τ op) (hI : I v) : VAlways τ I v ops := by
  intro k
  rw [vrun_foreign (fun op hop => h op (List.mem_of_mem_take hop))]
  exact hI

theorem valways_mono {τ : Nat} {I J : View → Prop} {v : View} {ops : List FOp}
    (hIJ : ∀ v, I v → J v) (h : VAlways τ I v ops) : VAlways τ J v ops := fun k => hIJ _ (h k)

/-- `{P} ops {Q}` with `I` holding at every intermediate point. -/
def Triple (τ : Nat) (P : View → Prop) (ops : List FOp) (I Q : View → Prop) : Prop :=
  ∀ v, P v → VAlways τ I v ops ∧ Q (vrun τ v ops)

theorem Triple.seq {τ : Nat} {P Q R I : View → Prop} {a b : List FOp}
    (h1 : Triple τ P a I Q) (h2 : Triple τ Q b I R) : Triple τ P (a ++ b) I R := by
  intro v hv
  obtain ⟨a1, q1⟩ := h1 v hv
  obtain ⟨a2, q2⟩ := h2 _ q1
  exact ⟨valways_append.mpr ⟨a1, a2⟩, by rw [vrun_append]; exact q2⟩

theorem Triple.foreign {τ : Nat} {P I : View → Prop} {ops : List FOp}
    (h : ∀ op ∈ ops, Foreign τ op) (hPI : ∀ v, P v → I v) : Triple τ P ops I P := by
  intro v hv
  exact ⟨valways_foreign h (hPI v hv), by rw [vrun_foreign h]; exact hv⟩

theorem Triple.idle {τ : Nat} {I : View → Prop} {ops : List FOp} (v0 : View)
    (h : ∀ op ∈ ops, Foreign τ op) (hI : I v0) : Triple τ (· = v0) ops I (· = v0) :=
  Triple.foreign h (fun v hv => by subst hv; exact hI)

theorem foreign_single {τ : Nat} {op : FOp} (h : touch op = []) : ∀ x ∈ [op], Foreign τ x := by
  intro x hx
  simp only [List.mem_cons, List.not_mem_nil, or_false] at hx
  subst hx
  intro q _; rw [h]; simp

theorem Triple.mono {τ : Nat} {P Q I J : View → Prop} {ops : List FOp}
    (hIJ : ∀ v, I v → J v) (h : Triple τ P ops I Q) : Triple τ P ops J Q :=
  fun v hv => ⟨valways_mono hIJ (h v hv).1, (h v hv).2⟩

theorem Triple.and_inv {τ : Nat} {P Q I : View → Prop} {ops : List FOp} (h : Triple τ P ops I Q) :
    Triple τ P ops I (fun v => I v ∧ Q v) :=
  fun v hv => ⟨(h v hv).1, List.take_length (l := ops) ▸ (h v hv).1 ops.length, (h v hv).2⟩

theorem Triple.nil {τ : Nat} {P I : View → Prop} (h : ∀ v, P v → I v) : Triple τ P [] I P :=
  fun v hv => ⟨valways_nil.mpr (h v hv), hv⟩

end Ovni.Rt.Fs
