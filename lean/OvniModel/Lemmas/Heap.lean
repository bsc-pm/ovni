import OvniModel.Emu.Heap

/-! `heap.h` (`Emu/Heap.lean`) keeps its invariants.  First the index arithmetic: `path` and `idx`
    are inverse (`getMove_idx`), so `Shape` speaks of the nodes `1 … size`.  Then one statement, by
    one induction, for each of the two walks that can `die()`: where `insAt` and `removeLeaf` succeed
    (a free slot under an existing parent; a leaf) and what the result then is: its paths (one more;
    one less), which need nothing of the elements or the comparison, its elements and its order
    (`insAt_spec`, `removeLeaf_spec`).  `sift` is total and keeps the paths (`sift_paths`,
    `sift_spec`).  `insert_inv` and `popMax_inv` read these at `path (size + 1)` and `path size`:
    `Shape` supplies the premises, and "one path more" is "one node more" by `idx_eq_iff`. -/
namespace Ovni.Heap

/-- `idx` from the start value `k`: the induction over the moves (`idxFrom_digits`) changes it. -/
def idxFrom (k : Nat) (p : List Bool) : Nat := p.foldl (fun a b => 2 * a + (if b then 1 else 0)) k

/-- 1-based index of the node reached from the root by the moves `p`. -/
def idx (p : List Bool) : Nat := idxFrom 1 p

theorem idx_nil : idx [] = 1 := rfl

theorem idx_snoc (p : List Bool) (b : Bool) : idx (p ++ [b]) = 2 * idx p + (if b then 1 else 0) := by
  simp [idx, idxFrom, List.foldl_append]

/-- The moves are binary digits; `r`, the number they spell, is the same for every start value `k`. -/
theorem idxFrom_digits (p : List Bool) :
    ∃ r, r < 2 ^ p.length ∧ ∀ k, idxFrom k p = k * 2 ^ p.length + r := by
  induction p with
  | nil => exact ⟨0, by decide, fun k => by simp [idxFrom]⟩
  | cons b p ih =>
    obtain ⟨r, hr, h⟩ := ih
    rw [List.length_cons, Nat.pow_succ]
    refine ⟨(if b then 1 else 0) * 2 ^ p.length + r, by cases b <;> simp <;> omega, fun k => ?_⟩
    show idxFrom (2 * k + _) p = _
    rw [h, Nat.add_mul, Nat.mul_comm 2 k, Nat.mul_assoc k, Nat.mul_comm 2, Nat.add_assoc]

theorem length_lt_idx (p : List Bool) : p.length < idx p := by
  obtain ⟨r, _, h⟩ := idxFrom_digits p
  have := @Nat.lt_two_pow_self p.length
  rw [idx, h]; omega

/-- `heap_get_move`: with `P = 2 ^ q.length` and `r < P` the digits of `q`, the index is
    `(2 + b) * P + r`, its `log2` is `q.length + 1`, and the subtraction of `P` (twice for a right
    move) leaves `P + r`. -/
theorem getMove_idx (b : Bool) (q : List Bool) : getMove (idx (b :: q)) = (idx q, b) := by
  obtain ⟨r, hr, h⟩ := idxFrom_digits q
  have hn : idx (b :: q) = (2 + if b then 1 else 0) * 2 ^ q.length + r := h _
  rw [show idx q = 2 ^ q.length + r by rw [idx, h, Nat.one_mul]]
  generalize idx (b :: q) = n at hn
  have hl : 2 ^ (q.length + 1) ≤ n ∧ n < 2 ^ (q.length + 1 + 1) := by
    rw [Nat.pow_succ, Nat.pow_succ]; cases b <;> simp only [if_true, Bool.false_eq_true, if_false] at hn <;> omega
  rw [getMove, (Nat.log2_eq_iff (Nat.ne_of_gt (Nat.lt_of_lt_of_le (Nat.pow_pos (by decide)) hl.1))).2 hl,
    Nat.pow_succ, Nat.mul_div_cancel _ (by decide : 0 < 2)]
  generalize 2 ^ q.length = P at hn hr
  cases b <;> simp only [if_true, Bool.false_eq_true, if_false] at hn
  · rw [if_pos (by omega)]; congr 1; omega
  · rw [if_neg (by omega)]; congr 1; omega

theorem pathFuel_idx : ∀ (p : List Bool) (f : Nat), p.length ≤ f → pathFuel f (idx p) = p := by
  intro p
  induction p with
  | nil => intro f _; cases f <;> rfl
  | cons b q ih =>
    intro f hf
    obtain ⟨f, rfl⟩ : ∃ f', f = f' + 1 := ⟨f - 1, by rw [List.length_cons] at hf; omega⟩
    have := length_lt_idx (b :: q)
    rw [List.length_cons] at this
    rw [pathFuel, if_neg (by omega), getMove_idx, ih f (by rw [List.length_cons] at hf; omega)]

theorem path_idx (p : List Bool) : path (idx p) = p :=
  pathFuel_idx p _ (Nat.le_of_lt (length_lt_idx p))

theorem idx_snoc_half (p : List Bool) (n : Nat) (hp : idx p = n / 2) :
    idx (p ++ [decide (n % 2 = 1)]) = n := by
  rw [idx_snoc, hp]
  simp only [decide_eq_true_eq]
  split <;> omega

theorem idx_surj (n : Nat) : 1 ≤ n → ∃ p, idx p = n := by
  induction n using Nat.strongRecOn with
  | _ n ih =>
    intro h
    by_cases h2 : 2 ≤ n
    · obtain ⟨p, hp⟩ := ih (n / 2) (by omega) (by omega)
      exact ⟨_, idx_snoc_half p n hp⟩
    · exact ⟨[], by rw [idx_nil]; omega⟩

theorem idx_path (n : Nat) (h : 1 ≤ n) : idx (path n) = n := by
  obtain ⟨p, rfl⟩ := idx_surj n h
  rw [path_idx]

theorem pathFuel_fuel (f n : Nat) (h : 1 ≤ n) (hf : n ≤ f) : pathFuel f n = path n := by
  obtain ⟨p, rfl⟩ := idx_surj n h
  have := length_lt_idx p
  rw [path_idx, pathFuel_idx p f (by omega)]

theorem path_one : path 1 = [] := path_idx []

theorem path_step (n : Nat) (h : 2 ≤ n) : path n = path (n / 2) ++ [decide (n % 2 = 1)] := by
  obtain ⟨p, hp⟩ := idx_surj (n / 2) (by omega)
  have h1 := path_idx (p ++ [decide (n % 2 = 1)])
  rw [idx_snoc_half p n hp] at h1
  rw [h1, ← hp, path_idx]

theorem idx_eq_iff (q : List Bool) (n : Nat) (h : 1 ≤ n) : idx q = n ↔ q = path n :=
  ⟨fun e => by rw [← e, path_idx], fun e => by rw [e, idx_path n h]⟩

variable {α : Type}

def hasPath : Tree α → List Bool → Prop
  | .nil, _ => False
  | .node _ _ _, [] => True
  | .node l _ _, false :: p => hasPath l p
  | .node _ _ r, true :: p => hasPath r p

/-- Shape invariant of `heap.h`: the tree has exactly the nodes `1 … n` of the
    complete binary tree (stated extensionally over move lists). -/
def Shape (t : Tree α) (n : Nat) : Prop := ∀ p, hasPath t p ↔ idx p ≤ n

theorem hasPath_nil (p : List Bool) : ¬ hasPath (Tree.nil : Tree α) p := by
  cases p <;> simp [hasPath]

theorem hasPath_root (t : Tree α) : ¬ hasPath t [] ↔ t = .nil := by
  cases t <;> simp [hasPath]

theorem hasPath_congr {l l' r r' : Tree α} (y y' : α) (hl : ∀ q, hasPath l q ↔ hasPath l' q)
    (hr : ∀ q, hasPath r q ↔ hasPath r' q) (q : List Bool) :
    hasPath (.node l y r) q ↔ hasPath (.node l' y' r') q := by
  rcases q with _ | ⟨b, q⟩
  · exact Iff.rfl
  · cases b
    · exact hl q
    · exact hr q

theorem shape_nil_iff {t : Tree α} {n : Nat} (h : Shape t n) : t = .nil ↔ n = 0 := by
  rw [← hasPath_root, h [], idx_nil]; omega

theorem shape_empty : Shape (Tree.nil : Tree α) 0 := by
  intro p
  have := length_lt_idx p
  exact ⟨fun h => absurd h (hasPath_nil _), fun h => by omega⟩

/-! The two children are treated alike throughout: `join b c y o` is the node with element `y`,
    child `c` on side `b` and `o` on the other.  The walks along a path are stated and followed once,
    with the side as a variable (`path_induct`, `insAt_join`, `removeLeaf_join`). -/

def pick (b : Bool) (l r : Tree α) : Tree α := if b then r else l

def join (b : Bool) (c : Tree α) (y : α) (o : Tree α) : Tree α := if b then .node o y c else .node c y o

theorem node_eq_join (b : Bool) (l : Tree α) (y : α) (r : Tree α) :
    .node l y r = join b (pick b l r) y (pick (!b) l r) := by cases b <;> rfl

theorem Tree.pick_induct {P : Tree α → Prop} (nil : P .nil)
    (node : ∀ l y r, (∀ b, P (pick b l r)) → P (.node l y r)) (t : Tree α) : P t := by
  induction t with
  | nil => exact nil
  | node l y r ihl ihr => exact node l y r fun b => by cases b; exact ihl; exact ihr

theorem path_induct {P : List Bool → Tree α → Prop} (nil : ∀ t, P [] t) (off : ∀ b p, P (b :: p) .nil)
    (cons : ∀ b p c y o, P p c → P (b :: p) (join b c y o)) : ∀ p t, P p t := by
  intro p
  induction p with
  | nil => exact nil
  | cons b p ih =>
    intro t
    cases t with
    | nil => exact off b p
    | node l y r => rw [node_eq_join b l y r]; exact cons b p _ y _ (ih _)

theorem rootVal_join (b : Bool) (c : Tree α) (y : α) (o : Tree α) : (join b c y o).rootVal = some y := by
  cases b <;> rfl

theorem hasPath_join_nil (b : Bool) (c : Tree α) (y : α) (o : Tree α) : hasPath (join b c y o) [] := by
  cases b <;> trivial

theorem hasPath_join_cons (b d : Bool) (c : Tree α) (y : α) (o : Tree α) (q : List Bool) :
    hasPath (join b c y o) (d :: q) ↔ hasPath (if d = b then c else o) q := by
  cases b <;> cases d <;> exact Iff.rfl

theorem toList_join (b : Bool) (c : Tree α) (y : α) (o : Tree α) :
    (join b c y o).toList.Perm (y :: (c.toList ++ o.toList)) := by
  cases b
  · exact List.Perm.refl _
  · exact List.Perm.cons _ List.perm_append_comm

theorem insAt_join (gt : α → α → Bool) (x : α) (b : Bool) (p : List Bool) (c : Tree α) (y : α) (o : Tree α) :
    insAt gt x (b :: p) (join b c y o) = (insAt gt x p c).map fun cf =>
      (join b (bubble gt x cf.1 cf.2 y).1 (bubble gt x cf.1 cf.2 y).2.1 o, (bubble gt x cf.1 cf.2 y).2.2) := by
  cases b
  · show insAt gt x _ (.node _ _ _) = _
    rw [insAt]
    cases insAt gt x p c <;> rfl
  · show insAt gt x _ (.node _ _ _) = _
    rw [insAt]
    cases insAt gt x p c <;> rfl

theorem removeLeaf_join (b : Bool) (p : List Bool) (c : Tree α) (y : α) (o : Tree α) :
    removeLeaf (b :: p) (join b c y o) = (removeLeaf p c).map fun ct => (ct.1, join b ct.2 y o) := by
  cases b
  · show removeLeaf _ (.node _ _ _) = _
    rw [removeLeaf]
    cases removeLeaf p c <;> rfl
  · show removeLeaf _ (.node _ _ _) = _
    rw [removeLeaf]
    cases removeLeaf p c <;> rfl

theorem hasPath_prefix : ∀ (p q : List Bool) (t : Tree α), hasPath t (p ++ q) → hasPath t p := by
  intro p q t
  induction p, t using path_induct with
  | nil t => exact fun h => Classical.not_not.1 fun hn => hasPath_nil q ((hasPath_root t).1 hn ▸ h)
  | off b p => exact fun h => absurd h (hasPath_nil _)
  | cons b p c y o ih => rw [List.cons_append, hasPath_join_cons, hasPath_join_cons, if_pos rfl]; exact ih

theorem bubble_paths (gt : α → α → Bool) (x : α) (c : Tree α) (fl : Bool) (y : α) (q : List Bool) :
    hasPath (bubble gt x c fl y).1 q ↔ hasPath c q := by
  unfold bubble
  split
  · exact hasPath_congr _ _ (fun _ => Iff.rfl) (fun _ => Iff.rfl) q
  · exact Iff.rfl

def rootLe (key : α → Int) (t : Tree α) (k : Int) : Prop := ∀ x, t.rootVal = some x → key x ≤ k

/-- Max-heap order: no child is above its parent (in `key`). -/
def Ordered (key : α → Int) : Tree α → Prop
  | .nil => True
  | .node l x r => rootLe key l (key x) ∧ rootLe key r (key x) ∧ Ordered key l ∧ Ordered key r

theorem rootLe_nil (key : α → Int) (k : Int) : rootLe key (.nil : Tree α) k := by
  intro x h; cases h

theorem rootLe_node (key : α → Int) (l r : Tree α) (x : α) (k : Int) :
    rootLe key (.node l x r) k ↔ key x ≤ k :=
  ⟨fun h => h x rfl, fun h y hy => by cases hy; exact h⟩

theorem rootLe_mono (key : α → Int) (t : Tree α) (a b : Int) (h : rootLe key t a) (hab : a ≤ b) :
    rootLe key t b := fun x hx => Int.le_trans (h x hx) hab

theorem rootVal_some {t : Tree α} {a : α} (h : t.rootVal = some a) : ∃ l r, t = .node l a r := by
  cases t with
  | nil => cases h
  | node l x r => cases h; exact ⟨l, r, rfl⟩

theorem rootVal_mem {t : Tree α} {a : α} (h : t.rootVal = some a) : a ∈ t.toList := by
  obtain ⟨l, r, rfl⟩ := rootVal_some h
  exact List.mem_cons_self

theorem ordered_join (key : α → Int) (b : Bool) (c : Tree α) (y : α) (o : Tree α) :
    Ordered key (join b c y o) ↔
      rootLe key c (key y) ∧ rootLe key o (key y) ∧ Ordered key c ∧ Ordered key o := by
  cases b
  · exact Iff.rfl
  · exact ⟨fun ⟨h1, h2, h3, h4⟩ => ⟨h2, h1, h4, h3⟩, fun ⟨h1, h2, h3, h4⟩ => ⟨h2, h1, h4, h3⟩⟩

theorem ordered_le_root (key : α → Int) : ∀ (t : Tree α), Ordered key t →
    ∀ k, rootLe key t k → ∀ y ∈ t.toList, key y ≤ k := by
  intro t
  induction t with
  | nil => intro _ k _ y hy; cases hy
  | node l x r ihl ihr =>
    intro ho k hk y hy
    obtain ⟨hl, hr, hol, hor⟩ := ho
    rw [rootLe_node] at hk
    simp only [Tree.toList, List.mem_cons, List.mem_append] at hy
    rcases hy with rfl | hy | hy
    · exact hk
    · exact ihl hol k (rootLe_mono key l _ _ hl hk) y hy
    · exact ihr hor k (rootLe_mono key r _ _ hr hk) y hy

def GtKey (gt : α → α → Bool) (key : α → Int) : Prop := ∀ a b, gt a b = true ↔ key b < key a

theorem GtKey.le_of_false {gt : α → α → Bool} {key : α → Int} (hgt : GtKey gt key) {a b : α}
    (h : gt a b = false) : key a ≤ key b :=
  Int.not_lt.1 fun hk => by rw [(hgt a b).2 hk] at h; cases h

theorem bubble_cases (gt : α → α → Bool) (x : α) (c : Tree α) (fl : Bool) (y : α)
    (hc : fl = true → c.rootVal = some x) :
    (∃ cl cr, c = .node cl x cr ∧ fl = true ∧ gt x y = true ∧
      bubble gt x c fl y = (.node cl y cr, x, true)) ∨
    ((fl = true → gt x y = false) ∧ bubble gt x c fl y = (c, y, false)) := by
  by_cases h : (fl && gt x y) = true
  · rw [Bool.and_eq_true] at h
    obtain ⟨cl, cr, rfl⟩ := rootVal_some (hc h.1)
    exact Or.inl ⟨cl, cr, rfl, h.1, h.2, by simp [bubble, h]⟩
  · refine Or.inr ⟨fun hf => by simpa [hf] using h, ?_⟩
    unfold bubble
    split
    · rename_i h'; exact absurd h' h
    · rfl

/-- `heap_insert` below the root.  On a free slot whose parent exists it does not die, whatever the
    elements and `gt`; the tree gains exactly that slot and `x`.  The flag says that `x` reached the
    root of this subtree: that is what the induction needs one level up, where `bubble` compares the
    parent with exactly that root value (`bubble_cases`).  Only the order needs the comparison to be
    one. -/
theorem insAt_spec (gt : α → α → Bool) (x : α) : ∀ (p : List Bool) (t : Tree α),
    ¬ hasPath t p → (p ≠ [] → hasPath t p.dropLast) →
    ∃ t' fl, insAt gt x p t = some (t', fl) ∧ (∀ q, hasPath t' q ↔ (hasPath t q ∨ q = p)) ∧
      t'.rootVal = (if fl then some x else t.rootVal) ∧ t'.toList.Perm (x :: t.toList) ∧
      ∀ key, GtKey gt key → Ordered key t → Ordered key t' := by
  intro p t
  induction p, t using path_induct with
  | nil t =>
    intro h _
    obtain rfl := (hasPath_root t).1 h
    refine ⟨_, _, rfl, fun q => ?_, rfl, List.Perm.refl _,
      fun _ _ _ => ⟨rootLe_nil _ _, rootLe_nil _ _, trivial, trivial⟩⟩
    cases q with
    | nil => simp [hasPath]
    | cons b q => cases b <;> simp [hasPath]
  | off b p => exact fun _ h2 => absurd (h2 (List.cons_ne_nil _ _)) (hasPath_nil _)
  | cons b p c y o ih =>
    intro h1 h2
    rw [hasPath_join_cons, if_pos rfl] at h1
    obtain ⟨c', fl0, hc, hq, hv, hp, ho⟩ := ih h1 fun hp => by
      have := h2 (List.cons_ne_nil _ _)
      rwa [List.dropLast_cons_of_ne_nil hp, hasPath_join_cons, if_pos rfl] at this
    rw [insAt_join, hc]
    refine ⟨_, _, rfl, fun q => ?_, ?_⟩
    · cases q with
      | nil => simp [hasPath_join_nil]
      | cons d q =>
        rw [hasPath_join_cons, hasPath_join_cons]
        by_cases hd : d = b
        · simp [hd, bubble_paths, hq q]
        · simp [hd]
    rcases bubble_cases gt x c' fl0 y (fun hf => by rw [hv, hf]; rfl) with
      ⟨cl, cr, rfl, rfl, hg, e⟩ | ⟨hng, e⟩ <;> rw [e]
    · -- `x` and `y` exchange places: `cl`, `cr` hold old elements of `c`, all below `y`
      refine ⟨rootVal_join _ _ _ _, ?_, fun key hgt hord => ?_⟩
      · exact (toList_join _ _ _ _).trans
          ((((hp.cons_inv.append_right _).cons y).cons x).trans ((toList_join _ _ _ _).cons x).symm)
      · rw [ordered_join] at hord ⊢
        obtain ⟨hcy, hoy, hoc, hoo⟩ := hord
        obtain ⟨_, _, h3, h4⟩ := ho key hgt hoc
        have hyx : key y ≤ key x := Int.le_of_lt ((hgt x y).1 hg)
        have hk : ∀ a ∈ cl.toList ++ cr.toList, key a ≤ key y := fun a ha =>
          ordered_le_root key c hoc _ hcy a (hp.cons_inv.subset ha)
        exact ⟨(rootLe_node ..).2 hyx, rootLe_mono key o _ _ hoy hyx,
          ⟨fun a ha => hk a (List.mem_append_left _ (rootVal_mem ha)),
           fun a ha => hk a (List.mem_append_right _ (rootVal_mem ha)), h3, h4⟩, hoo⟩
    · refine ⟨by rw [rootVal_join, rootVal_join]; rfl, ?_, fun key hgt hord => ?_⟩
      · exact (toList_join _ _ _ _).trans (((hp.append_right _).cons y).trans
          ((List.Perm.swap _ _ _).trans ((toList_join _ _ _ _).cons x).symm))
      · rw [ordered_join] at hord ⊢
        obtain ⟨hcy, hoy, hoc, hoo⟩ := hord
        refine ⟨fun a ha => ?_, hoy, ho key hgt hoc, hoo⟩
        rw [hv] at ha
        cases fl0 with
        | false => exact hcy a ha
        | true => cases ha; exact hgt.le_of_false (hng rfl)

theorem insert_eq (gt : α → α → Bool) (h : Heap α) (x : α) (hz : h.root = .nil ↔ h.size = 0) :
    insert gt h x = (insAt gt x (path (h.size + 1)) h.root).map fun r => ⟨r.1, h.size + 1⟩ := by
  unfold insert
  cases hr : h.root with
  | nil => rw [hz.1 hr, path_one]; rfl
  | node l y r =>
    have hn : h.size ≠ 0 := fun h0 => by rw [hz.2 h0] at hr; cases hr
    simp only
    rw [if_neg (by omega), ← path_step _ (by omega)]
    cases insAt gt x (path (h.size + 1)) (.node l y r) <;> rfl

/-- `heap_insert` cannot die on a complete tree, whatever `gt` is; it keeps the order when `gt`
    compares by `key`. -/
theorem insert_inv (gt : α → α → Bool) (h : Heap α) (x : α) (hs : Shape h.root h.size) :
    ∃ h', insert gt h x = some h' ∧ h'.size = h.size + 1 ∧ Shape h'.root h'.size ∧
      h'.root.toList.Perm (x :: h.root.toList) ∧
      ∀ key, GtKey gt key → Ordered key h.root → Ordered key h'.root := by
  -- the slot `size + 1` is free and its parent `(size + 1) / 2` exists
  obtain ⟨t', fl, hins, hq, _, hp, ho'⟩ := insAt_spec gt x (path (h.size + 1)) h.root
    (by rw [hs, idx_path _ (by omega)]; omega) fun hne => by
      have h2 : 2 ≤ h.size + 1 := Nat.succ_le_succ (Nat.pos_of_ne_zero fun h0 => hne (by rw [h0]; exact path_one))
      rw [path_step _ h2, List.dropLast_concat, hs, idx_path _ (by omega)]; omega
  refine ⟨⟨t', h.size + 1⟩, by rw [insert_eq gt h x (shape_nil_iff hs), hins]; rfl, rfl, fun q => ?_,
    hp, ho'⟩
  show hasPath t' q ↔ idx q ≤ h.size + 1
  rw [hq q, hs q, ← idx_eq_iff q (h.size + 1) (by omega)]
  omega

/-- One level of `heap_max_heapify`: `x` stays, or the root `w` of the child on side `b` comes up and
    `x` goes on into that child.  A tie goes to the parent, then to the left child; whichever child
    wins, in terms of a `key` it is above `x` and not below its sibling. -/
theorem sift_cases (gt : α → α → Bool) (l r : Tree α) (y x : α) :
    (sift gt (.node l y r) x = .node l x r ∧ (∀ a, l.rootVal = some a → gt a x = false) ∧
      (∀ a, r.rootVal = some a → gt a x = false)) ∨
    ∃ b w, (pick b l r).rootVal = some w ∧
      sift gt (.node l y r) x = join b (sift gt (pick b l r) x) w (pick (!b) l r) ∧
      ∀ key, GtKey gt key → key x < key w ∧ rootLe key (pick (!b) l r) (key w) := by
  rw [sift]
  split
  · rename_i h1 h2
    left; simp [h1, h2]
  · rename_i lx h1 h2
    by_cases hg : gt lx x = true
    · right
      exact ⟨false, lx, h1, by simp [hg, join, pick], fun key hgt =>
        ⟨(hgt lx x).1 hg, fun a (ha : r.rootVal = some a) => by rw [h2] at ha; cases ha⟩⟩
    · left; simp [h1, h2, hg]
  · rename_i rx h1 h2
    by_cases hg : gt rx x = true
    · right
      exact ⟨true, rx, h2, by simp [hg, join, pick], fun key hgt =>
        ⟨(hgt rx x).1 hg, fun a (ha : l.rootVal = some a) => by rw [h1] at ha; cases ha⟩⟩
    · left; simp [h1, h2, hg]
  · rename_i lx rx h1 h2
    by_cases hg : gt lx x = true
    · by_cases hg2 : gt rx lx = true
      · right
        refine ⟨true, rx, h2, by simp [hg, hg2, join, pick], fun key hgt => ?_⟩
        have a1 := (hgt lx x).1 hg
        have a2 := (hgt rx lx).1 hg2
        exact ⟨by omega, fun a (ha : l.rootVal = some a) => by rw [h1] at ha; cases ha; omega⟩
      · right
        refine ⟨false, lx, h1, by simp [hg, hg2, join, pick], fun key hgt =>
          ⟨(hgt lx x).1 hg, fun a (ha : r.rootVal = some a) => ?_⟩⟩
        rw [h2] at ha; cases ha
        exact hgt.le_of_false (by simpa using hg2)
    · by_cases hg3 : gt rx x = true
      · right
        refine ⟨true, rx, h2, by simp [hg, hg3, join, pick], fun key hgt =>
          ⟨(hgt rx x).1 hg3, fun a (ha : l.rootVal = some a) => ?_⟩⟩
        rw [h1] at ha; cases ha
        have a1 := hgt.le_of_false (a := lx) (b := x) (by simpa using hg)
        have a2 := (hgt rx x).1 hg3
        omega
      · left; simp [h1, h2, hg, hg3]

theorem sift_paths (gt : α → α → Bool) : ∀ (t : Tree α) (x : α) (q : List Bool),
    hasPath (sift gt t x) q ↔ hasPath t q := by
  intro t
  induction t with
  | nil => intro x q; simp [sift]
  | node l y r ihl ihr =>
    intro x q
    rcases sift_cases gt l r y x with ⟨e, _, _⟩ | ⟨b, w, _, e, _⟩ <;> rw [e]
    · exact hasPath_congr _ _ (fun _ => Iff.rfl) (fun _ => Iff.rfl) q
    · cases b
      · exact hasPath_congr _ _ (ihl x) (fun _ => Iff.rfl) q
      · exact hasPath_congr _ _ (fun _ => Iff.rfl) (ihr x) q

/-- `sift t x` holds `x` in place of the root of `t`.  When `t` is ordered so is `sift t x`, and it
    stays under every bound of `x` and of the root of `t`. -/
theorem sift_spec (gt : α → α → Bool) : ∀ (t : Tree α) (x : α),
    (∀ y, t.rootVal = some y → (y :: (sift gt t x).toList).Perm (x :: t.toList)) ∧
    ∀ key, GtKey gt key → Ordered key t →
      Ordered key (sift gt t x) ∧ ∀ k, key x ≤ k → rootLe key t k → rootLe key (sift gt t x) k := by
  intro t
  induction t using Tree.pick_induct with
  | nil => exact fun x => ⟨nofun, fun key _ _ => ⟨trivial, fun k _ _ => rootLe_nil _ _⟩⟩
  | node l y r ih =>
    intro x
    rcases sift_cases gt l r y x with ⟨e, h1, h2⟩ | ⟨b, w, hw, e, hk⟩ <;> rw [e]
    · refine ⟨fun _ h => by cases h; exact List.Perm.swap _ _ _, fun key hgt ⟨_, _, hol, hor⟩ => ?_⟩
      exact ⟨⟨fun a ha => hgt.le_of_false (h1 a ha), fun a ha => hgt.le_of_false (h2 a ha), hol, hor⟩,
        fun k hk _ => (rootLe_node ..).2 hk⟩
    · obtain ⟨ihp, iho⟩ := ih b x
      rw [node_eq_join b l y r]
      generalize pick b l r = c at hw hk ihp iho
      generalize pick (!b) l r = o at hk
      refine ⟨fun _ h => ?_, fun key hgt hord => ?_⟩
      · rw [rootVal_join] at h; cases h
        exact ((toList_join ..).cons y).trans ((((ihp w hw).append_right _).cons y).trans
          ((List.Perm.swap _ _ _).trans ((toList_join ..).cons x).symm))
      · rw [ordered_join] at hord ⊢
        obtain ⟨hcy, hoy, hoc, hoo⟩ := hord
        obtain ⟨hxw, how⟩ := hk key hgt
        obtain ⟨o1, o2⟩ := iho key hgt hoc
        refine ⟨⟨o2 _ (Int.le_of_lt hxw) fun a ha => by rw [hw] at ha; cases ha; exact Int.le_refl _,
          how, o1, hoo⟩, fun k _ hk' a ha => ?_⟩
        rw [rootVal_join] at ha; cases ha
        exact Int.le_trans (hcy w hw) (hk' y (rootVal_join ..))

theorem removeLeaf_nil_inv {t : Tree α} {c : α} {t' : Tree α} (h : removeLeaf [] t = some (c, t')) :
    t = .node .nil c .nil ∧ t' = .nil := by
  cases t with
  | nil => simp [removeLeaf] at h
  | node l x r =>
    cases l with
    | node _ _ _ => simp [removeLeaf] at h
    | nil =>
      cases r with
      | node _ _ _ => simp [removeLeaf] at h
      | nil =>
        simp only [removeLeaf, Option.some.injEq, Prod.mk.injEq] at h
        rw [h.1, h.2]; exact ⟨rfl, rfl⟩

/-- Detaching a node: a leaf can be detached; the tree loses exactly that leaf and its element, and
    the root keeps its element unless it is the one detached. -/
theorem removeLeaf_spec : ∀ (p : List Bool) (t : Tree α), hasPath t p → (∀ b, ¬ hasPath t (p ++ [b])) →
    ∃ x t', removeLeaf p t = some (x, t') ∧ (∀ q, hasPath t' q ↔ (hasPath t q ∧ q ≠ p)) ∧
      t.toList.Perm (x :: t'.toList) ∧ (p ≠ [] → t'.rootVal = t.rootVal) ∧
      ∀ key, Ordered key t → Ordered key t' ∧ ∀ k, rootLe key t k → rootLe key t' k := by
  intro p t
  induction p, t using path_induct with
  | nil t =>
    intro h hb
    cases t with
    | nil => exact absurd h (hasPath_nil _)
    | node l x r =>
      obtain rfl := (hasPath_root l).1 (hb false)
      obtain rfl := (hasPath_root r).1 (hb true)
      refine ⟨x, .nil, rfl, fun q => ?_, List.Perm.refl _, fun h => absurd rfl h,
        fun _ _ => ⟨trivial, fun k _ => rootLe_nil _ _⟩⟩
      rcases q with _ | ⟨b, q⟩
      · simp [hasPath]
      · cases b <;> simp [hasPath]
  | off b p => exact fun h => absurd h (hasPath_nil _)
  | cons b p c y o ih =>
    intro h hb
    rw [hasPath_join_cons, if_pos rfl] at h
    obtain ⟨x, c', e, hq, hp, _, ho⟩ := ih h fun d => by
      have := hb d
      rwa [List.cons_append, hasPath_join_cons, if_pos rfl] at this
    rw [removeLeaf_join, e]
    refine ⟨_, _, rfl, fun q => ?_, ?_, fun _ => by rw [rootVal_join, rootVal_join], fun key hord => ?_⟩
    · rcases q with _ | ⟨d, q⟩
      · simp [hasPath_join_nil]
      · rw [hasPath_join_cons, hasPath_join_cons]
        by_cases hd : d = b
        · simp [hd, hq q]
        · simp [hd]
    · exact (toList_join _ _ _ _).trans (((hp.append_right _).cons y).trans
        ((List.Perm.swap _ _ _).trans ((toList_join _ _ _ _).cons x).symm))
    · rw [ordered_join] at hord ⊢
      obtain ⟨hcy, hoy, hoc, hoo⟩ := hord
      refine ⟨⟨(ho key hoc).2 _ hcy, hoy, (ho key hoc).1, hoo⟩, fun k hk a ha => hk a ?_⟩
      rw [rootVal_join] at ha ⊢
      exact ha

theorem popMax_empty (gt : α → α → Bool) (h : Heap α) (hr : h.root = .nil) :
    popMax gt h = some (none, h) := by
  unfold popMax; rw [hr]

theorem sift_root_irrel (gt : α → α → Bool) (l r : Tree α) (a b x : α) :
    sift gt (.node l a r) x = sift gt (.node l b r) x := by
  rw [sift, sift]

/-- `heap_pop_max` amounts to detaching the last node and floating its element
    down from the root.  (Where the C code special-cases a last node that is a
    child of the root, it does the same.) -/
theorem popMax_eq (gt : α → α → Bool) (h : Heap α) (l r : Tree α) (m c : α) (t' : Tree α)
    (hr : h.root = .node l m r) (hn : h.size ≠ 0)
    (he : removeLeaf (path h.size) (.node l m r) = some (c, t')) :
    popMax gt h = some (some m, ⟨sift gt t' c, h.size - 1⟩) := by
  unfold popMax
  rw [hr]
  simp only [hn, if_false]
  generalize path h.size = p at he
  rcases p with _ | ⟨b, _ | ⟨b2, rest⟩⟩
  · obtain ⟨_, rfl⟩ := removeLeaf_nil_inv he
    rfl
  · rw [node_eq_join b l m r, removeLeaf_join, Option.map_eq_some_iff] at he
    obtain ⟨⟨c0, s'⟩, hc, he⟩ := he
    cases he
    obtain ⟨e, rfl⟩ := removeLeaf_nil_inv hc
    cases b <;> simp only [pick, Bool.false_eq_true, if_false, if_true] at e <;> subst e
    · exact congrArg (fun t => some (some m, (⟨t, h.size - 1⟩ : Heap α))) (sift_root_irrel gt _ _ _ _ _)
    · exact congrArg (fun t => some (some m, (⟨t, h.size - 1⟩ : Heap α))) (sift_root_irrel gt _ _ _ _ _)
  · cases b <;> simp only [he]

/-- `heap_pop_max` cannot die on a non-empty complete tree, whatever `gt` is; when `gt` compares by
    `key` it keeps the order and returns a maximum. -/
theorem popMax_inv (gt : α → α → Bool) (h : Heap α) (hs : Shape h.root h.size) (hne : h.root ≠ .nil) :
    ∃ m h', popMax gt h = some (some m, h') ∧ h'.size = h.size - 1 ∧ Shape h'.root h'.size ∧
      h.root.toList.Perm (m :: h'.root.toList) ∧
      ∀ key, GtKey gt key → Ordered key h.root →
        Ordered key h'.root ∧ ∀ y ∈ h.root.toList, key y ≤ key m := by
  have hn : 1 ≤ h.size := Nat.pos_of_ne_zero fun h0 => hne ((shape_nil_iff hs).2 h0)
  have hidx := idx_path h.size hn
  cases hr : h.root with
  | nil => exact absurd hr hne
  | node l m r =>
    rw [hr] at hs
    -- the last node exists and has no children
    obtain ⟨c, t', he, hq, hp, hroot, ho'⟩ := removeLeaf_spec (path h.size) (.node l m r)
      (by rw [hs, hidx]; omega) fun b => by rw [hs, idx_snoc, hidx]; split <;> omega
    refine ⟨m, _, popMax_eq gt h l r m c t' hr (by omega) he, rfl, fun q => ?_, ?_, fun key hgt ho =>
      ⟨((sift_spec gt t' c).2 key hgt (ho' key ho).1).1,
        ordered_le_root key _ ho (key m) ((rootLe_node ..).2 (Int.le_refl _))⟩⟩
    · show hasPath (sift gt t' c) q ↔ idx q ≤ h.size - 1
      rw [sift_paths, hq q, hs q, Ne, ← idx_eq_iff q h.size hn]
      omega
    · show List.Perm _ (m :: (sift gt t' c).toList)
      by_cases hnil : path h.size = []
      · rw [hnil] at he
        obtain ⟨e, rfl⟩ := removeLeaf_nil_inv he
        cases e
        exact List.Perm.refl _
      · exact hp.trans ((sift_spec gt t' c).1 m (hroot hnil)).symm

end Ovni.Heap
