import OvniModel.Emu.System

/-! `insertBy` / `sortBy` (insertion in front of the first element the test accepts) for any test:
    a permutation, ordered by whatever relation the test decides, unique once that order is
    antisymmetric on the elements.  The insertion sorts of `Tools/Ovnisort` and `Emu/Sort` are
    instances (`Ovnisort.insertEv_eq`, `Sort.insertSorted_eq`). -/
namespace Ovni.Emu.System

variable {α : Type}

theorem insertBy_perm (le : α → α → Bool) (x : α) (l : List α) : (insertBy le x l).Perm (x :: l) := by
  induction l with
  | nil => exact List.Perm.refl _
  | cons y ys ih =>
    simp only [insertBy]
    split
    · exact List.Perm.refl _
    · exact (List.Perm.cons y ih).trans (List.Perm.swap x y ys)

theorem sortBy_perm (le : α → α → Bool) (l : List α) : (sortBy le l).Perm l := by
  induction l with
  | nil => exact List.Perm.refl _
  | cons x xs ih =>
    simp only [sortBy]
    exact (insertBy_perm le x _).trans (List.Perm.cons x ih)

theorem mem_sortBy {le : α → α → Bool} {l : List α} {a : α} : a ∈ sortBy le l ↔ a ∈ l :=
  (sortBy_perm le l).mem_iff

theorem length_sortBy (le : α → α → Bool) (l : List α) : (sortBy le l).length = l.length :=
  (sortBy_perm le l).length_eq

/-- `R` is what the test `le` decides, each way: where `le x y` holds `x` may stand before `y`, where
    it fails `y` may stand before `x`.  (`le` itself for a total `le`; `≤` for the test `<`.) -/
theorem insertBy_pairwise (le : α → α → Bool) {R : α → α → Prop}
    (pos : ∀ a b, le a b = true → R a b) (neg : ∀ a b, ¬ le a b = true → R b a)
    (trans : ∀ a b c, R a b → R b c → R a c)
    (x : α) (l : List α) (h : l.Pairwise R) : (insertBy le x l).Pairwise R := by
  induction l with
  | nil => simp [insertBy]
  | cons y ys ih =>
    simp only [insertBy]
    have hy := List.pairwise_cons.1 h
    split
    · rename_i hxy
      refine List.pairwise_cons.2 ⟨?_, h⟩
      intro z hz
      rcases List.mem_cons.1 hz with rfl | hz
      · exact pos _ _ hxy
      · exact trans _ _ _ (pos _ _ hxy) (hy.1 z hz)
    · rename_i hxy
      refine List.pairwise_cons.2 ⟨?_, ih hy.2⟩
      intro z hz
      rcases List.mem_cons.1 ((insertBy_perm le x ys).mem_iff.1 hz) with rfl | hz
      · exact neg _ _ hxy
      · exact hy.1 z hz

theorem sortBy_pairwise (le : α → α → Bool) {R : α → α → Prop}
    (pos : ∀ a b, le a b = true → R a b) (neg : ∀ a b, ¬ le a b = true → R b a)
    (trans : ∀ a b c, R a b → R b c → R a c) (l : List α) : (sortBy le l).Pairwise R := by
  induction l with
  | nil => simp [sortBy]
  | cons x xs ih => exact insertBy_pairwise le pos neg trans x _ ih

theorem sortBy_sorted (le : α → α → Bool)
    (total : ∀ a b, le a b = true ∨ le b a = true)
    (trans : ∀ a b c, le a b = true → le b c = true → le a c = true)
    (l : List α) : (sortBy le l).Pairwise (fun a b => le a b = true) :=
  sortBy_pairwise le (fun _ _ h => h) (fun a b h => (total a b).resolve_left h) trans l

theorem sortBy_eq_of_perm (le : α → α → Bool)
    (total : ∀ a b, le a b = true ∨ le b a = true)
    (trans : ∀ a b c, le a b = true → le b c = true → le a c = true)
    {l l' : List α} (hp : l.Perm l')
    (anti : ∀ a b, a ∈ l → b ∈ l → le a b = true → le b a = true → a = b) :
    sortBy le l = sortBy le l' := by
  apply List.Perm.eq_of_pairwise (le := fun a b => le a b = true)
  · intro a b ha hb h1 h2
    exact anti a b (mem_sortBy.1 ha) (hp.mem_iff.2 (mem_sortBy.1 hb)) h1 h2
  · exact sortBy_sorted le total trans l
  · exact sortBy_sorted le total trans l'
  · exact ((sortBy_perm le l).trans hp).trans (sortBy_perm le l').symm

theorem insertBy_map {β : Type} (f : α → β) (le : α → α → Bool) (le' : β → β → Bool)
    (h : ∀ a b, le a b = le' (f a) (f b)) (x : α) (l : List α) :
    (insertBy le x l).map f = insertBy le' (f x) (l.map f) := by
  induction l with
  | nil => rfl
  | cons y ys ih =>
    simp only [insertBy, List.map_cons, h x y]
    split <;> simp [ih]

theorem sortBy_map {β : Type} (f : α → β) (le : α → α → Bool) (le' : β → β → Bool)
    (h : ∀ a b, le a b = le' (f a) (f b)) (l : List α) :
    (sortBy le l).map f = sortBy le' (l.map f) := by
  induction l with
  | nil => rfl
  | cons x xs ih => simp only [sortBy, List.map_cons, insertBy_map f le le' h, ih]

end Ovni.Emu.System
