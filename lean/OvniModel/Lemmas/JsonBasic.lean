import OvniModel.Json
import OvniModel.Lemmas.ListLemmas

/-! Basic facts about the parson model: `Res`, white space, strings, and how
    the scalar parsers depend on the text after the value. -/
namespace Ovni.Json

theorem Res.bind_eq_ok {α β : Type} {x : Res α} {g : α → Res β} {b : β} :
    x.bind g = .ok b ↔ ∃ a, x = .ok a ∧ g a = .ok b := by
  cases x <;> simp [Res.bind]

theorem Res.bind_ok {α β : Type} (a : α) (g : α → Res β) : (Res.ok a).bind g = g a := rfl

theorem takeWhile_append_of_exists {p : Nat → Bool} :
    ∀ {l₁ : List Nat} (l₂ : List Nat), (∃ x ∈ l₁, p x = false) → (l₁ ++ l₂).takeWhile p = l₁.takeWhile p
  | [], _, h => by simp at h
  | a :: l₁, l₂, h => by
    by_cases ha : p a = true
    · rw [List.cons_append, List.takeWhile_cons_of_pos ha, List.takeWhile_cons_of_pos ha]
      congr 1
      apply takeWhile_append_of_exists
      obtain ⟨x, hx, hpx⟩ := h
      rcases List.mem_cons.1 hx with rfl | hx
      · rw [ha] at hpx; cases hpx
      · exact ⟨x, hx, hpx⟩
    · rw [List.cons_append, List.takeWhile_cons_of_neg ha, List.takeWhile_cons_of_neg ha]

theorem dropWhile_append_of_exists {p : Nat → Bool} :
    ∀ {l₁ : List Nat} (l₂ : List Nat), (∃ x ∈ l₁, p x = false) → (l₁ ++ l₂).dropWhile p = l₁.dropWhile p ++ l₂
  | [], _, h => by simp at h
  | a :: l₁, l₂, h => by
    by_cases ha : p a = true
    · rw [List.cons_append, List.dropWhile_cons_of_pos ha, List.dropWhile_cons_of_pos ha]
      apply dropWhile_append_of_exists
      obtain ⟨x, hx, hpx⟩ := h
      rcases List.mem_cons.1 hx with rfl | hx
      · rw [ha] at hpx; cases hpx
      · exact ⟨x, hx, hpx⟩
    · rw [List.cons_append, List.dropWhile_cons_of_neg ha, List.dropWhile_cons_of_neg ha, List.cons_append]

theorem skipWs_suffix (s : List Nat) : skipWs s <:+ s := List.dropWhile_suffix _

theorem skipWs_length_le (s : List Nat) : (skipWs s).length ≤ s.length := (skipWs_suffix s).length_le

theorem skipWs_cons_suffix {s : List Nat} {c : Nat} {r : List Nat} (h : skipWs s = c :: r) : c :: r <:+ s :=
  h ▸ skipWs_suffix s

theorem skipWs_cons_length {s : List Nat} {c : Nat} {r : List Nat} (h : skipWs s = c :: r) : r.length < s.length :=
  (skipWs_cons_suffix h).length_le

theorem skipWs_cons_of_not_space {c : Nat} {r : List Nat} (h : isSpace c = false) : skipWs (c :: r) = c :: r := by
  simp [skipWs, h]

theorem skipWs_cons_of_space {c : Nat} (hc : isSpace c = true) (t : List Nat) : skipWs (c :: t) = skipWs t := by
  simp [skipWs, hc]

theorem skipWs_append_of_space {w : List Nat} (hw : ∀ x ∈ w, isSpace x = true) (t : List Nat) :
    skipWs (w ++ t) = skipWs t := by
  unfold skipWs
  exact List.dropWhile_append_of_pos hw

theorem skipWs_append_of_cons {s : List Nat} {d : Nat} {r : List Nat} (h : skipWs s = d :: r) (u : List Nat) :
    skipWs (s ++ u) = d :: (r ++ u) := by
  have hd : isSpace d = false := by
    simpa [show s.dropWhile isSpace = d :: r from h] using List.head?_dropWhile_not isSpace s
  exact (dropWhile_append_of_exists u ⟨d, (skipWs_cons_suffix h).subset (List.mem_cons_self ..), hd⟩).trans
    (congrArg (· ++ u) h)

def sqMap (pre : List Nat) : Option (List Nat × List Nat) → Option (List Nat × List Nat)
  | none => none
  | some (i, t) => some (pre ++ i, t)

theorem skipQuotes_quote (r : List Nat) : skipQuotes (34 :: r) = some ([], r) := by
  rw [skipQuotes.eq_def]; simp

theorem skipQuotes_bs (d : Nat) (r : List Nat) : skipQuotes (92 :: d :: r) = sqMap [92, d] (skipQuotes r) := by
  rw [skipQuotes.eq_def]; simp only [sqMap]
  cases skipQuotes r <;> simp

theorem skipQuotes_bs_nil : skipQuotes [92] = none := by
  rw [skipQuotes.eq_def]; simp

theorem skipQuotes_other {c : Nat} (r : List Nat) (h1 : c ≠ 34) (h2 : c ≠ 92) :
    skipQuotes (c :: r) = sqMap [c] (skipQuotes r) := by
  rw [skipQuotes.eq_def]; simp only [sqMap, h1, h2, if_false]
  cases skipQuotes r <;> simp

theorem sqMap_eq_some {pre : List Nat} {o : Option (List Nat × List Nat)} {raw r : List Nat}
    (h : sqMap pre o = some (raw, r)) : ∃ i, o = some (i, r) ∧ raw = pre ++ i := by
  cases o with
  | none => simp [sqMap] at h
  | some p => obtain ⟨i, t⟩ := p; simp [sqMap] at h; exact ⟨i, by rw [h.2], h.1.symm⟩

theorem skipQuotes_split : ∀ (s : List Nat) {raw r : List Nat}, skipQuotes s = some (raw, r) →
    s = raw ++ 34 :: r ∧ ∀ r', skipQuotes (raw ++ 34 :: r') = some (raw, r')
  | [], _, _, h => by simp [skipQuotes] at h
  | c :: t, _, _, h => by
    by_cases h1 : c = 34
    · subst h1
      rw [skipQuotes_quote] at h
      cases h
      exact ⟨rfl, skipQuotes_quote⟩
    by_cases h2 : c = 92
    · subst h2
      cases t with
      | nil => rw [skipQuotes_bs_nil] at h; cases h
      | cons d t =>
        rw [skipQuotes_bs] at h
        obtain ⟨i, hi, rfl⟩ := sqMap_eq_some h
        obtain ⟨e, hx⟩ := skipQuotes_split t hi
        refine ⟨by rw [e]; rfl, fun r' => ?_⟩
        show skipQuotes (92 :: d :: (i ++ 34 :: r')) = _
        rw [skipQuotes_bs, hx r']; rfl
    · rw [skipQuotes_other t h1 h2] at h
      obtain ⟨i, hi, rfl⟩ := sqMap_eq_some h
      obtain ⟨e, hx⟩ := skipQuotes_split t hi
      refine ⟨by rw [e]; rfl, fun r' => ?_⟩
      show skipQuotes (c :: (i ++ 34 :: r')) = _
      rw [skipQuotes_other _ h1 h2, hx r']; rfl

theorem quotedString_split {s str r : List Nat} (h : quotedString s = some (str, r)) :
    ∃ c, s = 34 :: (c ++ r) ∧ ∀ r', quotedString (34 :: (c ++ r')) = some (str, r') := by
  cases s with
  | nil => simp [quotedString] at h
  | cons q t =>
    simp only [quotedString] at h
    by_cases hq : q = 34
    · subst hq
      simp only [if_true] at h
      cases hsq : skipQuotes t with
      | none => simp [hsq] at h
      | some p =>
        obtain ⟨raw, rest⟩ := p
        simp only [hsq] at h
        cases hps : processString raw with
        | none => simp [hps] at h
        | some str' =>
          simp only [hps, Option.some.injEq, Prod.mk.injEq] at h
          obtain ⟨rfl, rfl⟩ := h
          obtain ⟨h1, h2⟩ := skipQuotes_split t hsq
          refine ⟨raw ++ [34], by rw [h1]; simp, fun r' => ?_⟩
          rw [show raw ++ [34] ++ r' = raw ++ 34 :: r' by simp]
          simp only [quotedString, if_true, h2 r', hps]
    · simp [hq] at h

theorem quotedString_append {s str r : List Nat} (h : quotedString s = some (str, r)) :
    r <:+ s ∧ ∀ u, quotedString (s ++ u) = some (str, r ++ u) := by
  obtain ⟨c, rfl, hext⟩ := quotedString_split h
  exact ⟨(List.suffix_append _ _).trans (List.suffix_cons _ _), fun u => by simpa using hext (r ++ u)⟩

theorem exponent_suffix (t : List Nat) : (exponent t).2 <:+ t := by
  unfold exponent
  split
  · rename_i e r
    split
    · split
      · rename_i s r'
        split
        · split
          · exact List.suffix_refl _
          · exact ((List.dropWhile_suffix _).trans (List.suffix_cons _ _)).trans (List.suffix_cons _ _)
        · split
          · exact List.suffix_refl _
          · exact (List.dropWhile_suffix _).trans (List.suffix_cons _ _)
      · exact List.suffix_refl _
    · exact List.suffix_refl _
  · exact List.suffix_refl _

theorem scanMantissa_suffix (t : List Nat) : (scanMantissa t).2.2 <:+ t := by
  unfold scanMantissa
  split
  · rename_i d u hd
    split
    · refine (List.dropWhile_suffix _).trans ?_
      refine List.IsSuffix.trans ?_ (List.dropWhile_suffix isDigit)
      rw [hd]; exact List.suffix_cons _ _
    · rw [← hd]; exact List.dropWhile_suffix _
  · exact List.nil_suffix

/-- values whose parse does not look at what follows them -/
def closed : Json → Bool
  | .number _ _ => false
  | .numberX _ => false
  | _ => true

/-- What may follow a number for its parse not to depend on it: the end of the text or a stop
    character (`strtod` ran up to there). -/
def Term (rest : List Nat) : Prop := ∀ a ∈ rest.head?, isStop a = true

theorem isStop_of_space {a : Nat} (h : isSpace a = true) : isStop a = true := by simp [isStop, h]

/-- White space consists of stop characters, so a text may follow a number if the first character after its
    white space may. -/
theorem term_of_skipWs {s : List Nat} {d : Nat} {r : List Nat} (h : skipWs s = d :: r) (hd : isStop d = true)
    (u : List Nat) : Term (s ++ u) := by
  cases s with
  | nil => nomatch h
  | cons c s =>
    intro a ha
    cases ha
    cases hc : isSpace c with
    | true => exact isStop_of_space hc
    | false =>
      rw [skipWs_cons_of_not_space hc] at h
      cases h
      exact hd

theorem takeWhile_notStop {l rest : List Nat} (hl : ∀ x ∈ l, notStop x = true) (hr : Term rest) :
    (l ++ rest).takeWhile notStop = l ∧ (l ++ rest).dropWhile notStop = rest :=
  takeWhile_dropWhile_stop hl fun a ha => by simp [notStop, hr a ha]

def Res.All {α : Type} (p : α → Prop) : Res α → Prop
  | .ok a => p a
  | _ => True

theorem Res.All.ite {α : Type} {p : α → Prop} {c : Prop} [Decidable c] {a b : Res α} (ha : a.All p) (hb : b.All p) :
    (if c then a else b).All p := by
  split <;> assumption

/-- as `ite`, for branches that need to know which one they are -/
theorem Res.All.ite' {α : Type} {p : α → Prop} {c : Prop} [Decidable c] {a b : Res α} (ha : c → a.All p)
    (hb : ¬ c → b.All p) : (if c then a else b).All p := by
  split
  · exact ha ‹_›
  · exact hb ‹_›

theorem Res.All.bind {α β : Type} {p : β → Prop} {x : Res α} {g : α → Res β} (h : ∀ a, x = .ok a → (g a).All p) :
    (x.bind g).All p := by
  cases x with
  | ok a => exact h a rfl
  | fail | unsup | oof => trivial

theorem Res.All.ok {α : Type} {p : α → Prop} {x : Res α} {a : α} (h : x.All p) (hx : x = .ok a) : p a := by
  subst hx; exact h

theorem Res.All.imp {α : Type} {p q : α → Prop} {x : Res α} (h : x.All p) (hpq : ∀ a, p a → q a) : x.All q := by
  cases x with
  | ok a => exact hpq a h
  | fail | unsup | oof => trivial

theorem numBody_ok {neg : Bool} {s t : List Nat} (ht : t <:+ s) :
    (numBody neg s t).All fun (v, r) => closed v = false ∧ r <:+ s := by
  have hsuf := ((exponent_suffix _).trans (scanMantissa_suffix t)).trans ht
  unfold numBody
  refine .ite trivial (.ite trivial ?_)
  dsimp only
  refine .ite ⟨rfl, List.suffix_refl _⟩ (.ite trivial ?_)
  split <;> exact ⟨rfl, hsuf⟩

theorem numCore_ok (s : List Nat) : (numCore s).All fun (v, r) => closed v = false ∧ r <:+ s := by
  unfold numCore
  split
  · exact numBody_ok (List.suffix_refl _)
  · exact .ite (numBody_ok (List.suffix_cons _ _)) (numBody_ok (List.suffix_refl _))

theorem parseNumber_ext {s : List Nat} {v : Json} {r : List Nat} (h : parseNumber s = .ok (v, r)) :
    closed v = false ∧ r <:+ s ∧ ∀ u, Term (r ++ u) → parseNumber (s ++ u) = .ok (v, r ++ u) := by
  unfold parseNumber at h
  obtain ⟨⟨v', r0⟩, h1, h2⟩ := Res.bind_eq_ok.1 h
  simp only [Res.ok.injEq, Prod.mk.injEq] at h2
  obtain ⟨rfl, rfl⟩ := h2
  obtain ⟨hv, hsuf⟩ := (numCore_ok _).ok h1
  refine ⟨hv, ?_, fun u ht => ?_⟩
  · obtain ⟨c, hc⟩ := hsuf
    exact ⟨c, by rw [← List.append_assoc, hc, List.takeWhile_append_dropWhile]⟩
  have hall : ∀ y ∈ s.takeWhile notStop, notStop y = true := fun y hy => mem_takeWhile hy
  -- what follows begins with a stop character or is empty, so `strtod` read the whole stop-free prefix
  have hr0 : r0 = [] := by
    cases r0 with
    | nil => rfl
    | cons a _ =>
      have := hall a (hsuf.subset (List.mem_cons_self ..))
      simp [notStop, ht a (by simp)] at this
  subst hr0
  rw [List.nil_append] at ht ⊢
  obtain ⟨e1, e2⟩ := takeWhile_notStop hall ht
  unfold parseNumber
  rw [show s ++ u = s.takeWhile notStop ++ (s.dropWhile notStop ++ u) by
    rw [← List.append_assoc, List.takeWhile_append_dropWhile], e1, e2, h1]
  rfl

theorem parseScalar_true (r : List Nat) : parseScalar ([116, 114, 117, 101] ++ r) = .ok (.bool true, r) := rfl

theorem parseScalar_false (r : List Nat) : parseScalar ([102, 97, 108, 115, 101] ++ r) = .ok (.bool false, r) := rfl

theorem parseScalar_null (r : List Nat) : parseScalar ([110, 117, 108, 108] ++ r) = .ok (.null, r) := rfl

theorem parseScalar_number {c : Nat} (hc : c = 45 ∨ isDigit c = true) (t : List Nat) :
    parseScalar (c :: t) = parseNumber (c :: t) := by
  have : c ≠ 34 ∧ ¬ (c = 116 ∨ c = 102) := by
    simp only [isDigit, Bool.and_eq_true, decide_eq_true_eq] at hc
    omega
  unfold parseScalar
  dsimp only
  rw [if_neg this.1, if_neg this.2, if_pos hc]

/-- a literal `w`, recognised in front of anything, at the head of `s` -/
theorem parseScalar_lit {w s : List Nat} {x : Json} (hw : ∀ y, parseScalar (w ++ y) = .ok (x, y))
    (hp : w.isPrefixOf s = true) (u : List Nat) :
    s.drop w.length <:+ s ∧ parseScalar (s ++ u) = .ok (x, s.drop w.length ++ u) := by
  obtain ⟨d, rfl⟩ := List.isPrefixOf_iff_prefix.1 hp
  rw [List.drop_left, List.append_assoc]
  exact ⟨List.suffix_append _ _, hw _⟩

theorem parseScalar_ext (s u : List Nat) : (parseScalar s).All fun (v, r) =>
    r <:+ s ∧ ((closed v = true ∨ Term (r ++ u)) → parseScalar (s ++ u) = .ok (v, r ++ u)) := by
  cases s with
  | nil => trivial
  | cons c0 t =>
  rw [parseScalar]
  refine .ite' (fun h34 => ?_) fun _ => ?_
  · cases hq : quotedString (c0 :: t) with
    | none => trivial
    | some p =>
      obtain ⟨str, rest⟩ := p
      obtain ⟨hsuf, happ⟩ := quotedString_append hq
      subst h34
      refine ⟨hsuf, fun _ => ?_⟩
      have := happ u
      rw [List.cons_append] at this ⊢
      simp only [parseScalar, if_true, this]
  refine .ite' (fun _ => .ite' (fun hp => ?_) fun _ => .ite' (fun hp => ?_) fun _ => trivial) fun _ => ?_
  · exact (parseScalar_lit parseScalar_true hp u).imp_right fun h _ => h
  · exact (parseScalar_lit parseScalar_false hp u).imp_right fun h _ => h
  refine .ite' (fun hnum => ?_) fun _ => .ite' (fun _ => .ite' (fun hp => ?_) fun _ => trivial) fun _ => trivial
  · cases hpn : parseNumber (c0 :: t) with
    | fail | unsup | oof => trivial
    | ok x =>
    obtain ⟨v, r⟩ := x
    obtain ⟨hv, hsuf, happ⟩ := parseNumber_ext hpn
    refine ⟨hsuf, fun hr => ?_⟩
    rw [List.cons_append, parseScalar_number hnum, ← List.cons_append]
    exact happ u (hr.resolve_left (by rw [hv]; exact Bool.false_ne_true))
  · exact (parseScalar_lit parseScalar_null hp u).imp_right fun h _ => h

end Ovni.Json
