import OvniModel.Lemmas.JsonRoundTrip

/-! `prepare` (NUL cut and the two `remove_comments` passes) is the identity on
    serializations and on their prefixes: outside strings a serialization has no
    `/`, and no byte of it is 0. -/
namespace Ovni.Json

/-- The string tracking of `remove_comments` over a text without NUL and without
    `/` outside strings: the final `(in_string, escaped)`, or `none` if such a
    character occurs. -/
def quiet : Bool → Bool → List Nat → Option (Bool × Bool)
  | i, e, [] => some (i, e)
  | i, e, c :: r =>
    if c = 0 then none
    else if c = 92 ∧ e = false then quiet i true r
    else if c = 34 ∧ e = false then quiet (!i) false r
    else if i = false ∧ c = 47 then none
    else quiet i false r

/-- `remove_comments` (start token beginning with `/`) copies a character of a quiet text and moves
    to the same flags as `quiet`; they depend on the character only. -/
theorem quiet_cons (i e : Bool) (c : Nat) :
    (∀ r, quiet i e (c :: r) = none) ∨ ∃ i' e', c ≠ 0 ∧ (∀ r, quiet i e (c :: r) = quiet i' e' r)
      ∧ ∀ st' en r, rcGo (47 :: st') en i e .code (c :: r) = c :: rcGo (47 :: st') en i' e' .code r := by
  by_cases h0 : c = 0
  · exact .inl fun r => by rw [quiet, if_pos h0]
  by_cases h1 : c = 92 ∧ e = false
  · exact .inr ⟨i, true, h0, fun r => by rw [quiet, if_neg h0, if_pos h1], fun st' en r => by rw [rcGo, if_pos h1]⟩
  by_cases h2 : c = 34 ∧ e = false
  · exact .inr ⟨!i, false, h0, fun r => by rw [quiet, if_neg h0, if_neg h1, if_pos h2],
      fun st' en r => by rw [rcGo, if_neg h1, if_pos h2]⟩
  by_cases h3 : i = false ∧ c = 47
  · exact .inl fun r => by rw [quiet, if_neg h0, if_neg h1, if_neg h2, if_pos h3]
  · refine .inr ⟨i, false, h0, fun r => by rw [quiet, if_neg h0, if_neg h1, if_neg h2, if_neg h3], fun st' en r => ?_⟩
    have : ¬ (i = false ∧ (47 :: st').isPrefixOf (c :: r) = true) := fun ⟨hi, hp⟩ => by
      simp only [List.isPrefixOf, Bool.and_eq_true, beq_iff_eq] at hp
      exact h3 ⟨hi, hp.1.symm⟩
    rw [rcGo, if_neg h1, if_neg h2, if_neg this]

/-- The NUL cut and `remove_comments` change nothing in a text that begins a quiet one. -/
theorem passes_quiet : ∀ (a u : List Nat) (i e : Bool) (p : Bool × Bool), quiet i e (a ++ u) = some p →
    cstr a = a ∧ ∀ st' en, rcGo (47 :: st') en i e .code a = a
  | [], _, _, _, _, _ => ⟨rfl, fun _ _ => by rw [rcGo]⟩
  | c :: a, u, i, e, p, h => by
    rcases quiet_cons i e c with hn | ⟨i1, e1, h0, hq, hr⟩
    · rw [List.cons_append, hn] at h; cases h
    · rw [List.cons_append, hq] at h
      obtain ⟨h1, h2⟩ := passes_quiet a u i1 e1 p h
      exact ⟨by rw [cstr, List.takeWhile_cons_of_pos (by simpa using h0), ← cstr, h1], fun st' en => by rw [hr, h2]⟩

theorem prepare_quiet {a u : List Nat} {p : Bool × Bool} (h : quiet false false (a ++ u) = some p) : prepare a = a := by
  obtain ⟨h0, h1⟩ := passes_quiet a u _ _ p h
  unfold prepare stripComments removeComments
  rw [h0, h1, h1]

/-- characters that change nothing outside a string -/
def plain (c : Nat) : Prop := c ≠ 0 ∧ c ≠ 92 ∧ c ≠ 34 ∧ c ≠ 47

theorem quiet_plain_cons {c : Nat} (hc : plain c) (e : Bool) (r : List Nat) :
    quiet false e (c :: r) = quiet false false r := by
  obtain ⟨h0, h1, h2, h3⟩ := hc
  simp [quiet, h0, h1, h2, h3]

theorem quiet_plain : ∀ (l x : List Nat), (∀ c ∈ l, plain c) → quiet false false (l ++ x) = quiet false false x
  | [], _, _ => rfl
  | c :: l, x, h => by
    rw [List.cons_append, quiet_plain_cons (h c (List.mem_cons_self ..))]
    exact quiet_plain l x fun y hy => h y (List.mem_cons_of_mem _ hy)

theorem plain_digit {c : Nat} (h : isDigit c = true) : plain c := by
  simp [isDigit] at h; unfold plain; omega

theorem quiet_bs {e : Nat} (he : e ≠ 0) (t : List Nat) : quiet true false (92 :: e :: t) = quiet true false t := by
  simp [quiet, he]

theorem quiet_inStr_cons {c : Nat} (h : c ≠ 0 ∧ c ≠ 34 ∧ c ≠ 92) (t : List Nat) :
    quiet true false (c :: t) = quiet true false t := by
  simp [quiet, h]

theorem quiet_escapeByte (c : Nat) (t : List Nat) : quiet true false (escapeByte c ++ t) = quiet true false t := by
  rcases escapeByte_shape c with ⟨e, he, h⟩ | ⟨hc, h⟩ | ⟨h1, h2, h3, h⟩ <;> rw [h]
  · exact quiet_bs ((by decide : ∀ p ∈ shortEscapes, p.2 ≠ 0) _ he) t
  · have hd := (hexDigit_facts c hc).2
    simp only [List.cons_append, List.nil_append]
    rw [quiet_bs (by decide), quiet_inStr_cons (by decide), quiet_inStr_cons (by decide),
      quiet_inStr_cons (hd _ (List.mem_cons_self ..)),
      quiet_inStr_cons (hd _ (List.mem_cons_of_mem _ (List.mem_cons_self ..)))]
  · exact quiet_inStr_cons ⟨by omega, h1, h2⟩ t

theorem quiet_escape : ∀ (s t : List Nat), quiet true false (escape s ++ t) = quiet true false t
  | [], t => by simp [escape]
  | c :: s, t => by
    rw [escape_cons, List.append_assoc, quiet_escapeByte, quiet_escape s t]

theorem quiet_serString (s x : List Nat) : quiet false false (serString s ++ x) = quiet false false x := by
  rw [serString_append]
  simp only [quiet, show (34 : Nat) ≠ 0 by decide, if_false,
    and_self, if_true, Bool.not_false]
  rw [quiet_escape]
  simp [quiet]

theorem plain_serNumber (n : Int) (k : Nat) : ∀ c ∈ serNumber n k, plain c := by
  intro c hc
  unfold serNumber at hc
  simp only at hc
  have hsign : ∀ c ∈ (if n < 0 then [45] else ([] : List Nat)), plain c := by
    intro c hc
    split at hc
    · simp only [List.mem_singleton] at hc; subst hc; unfold plain; decide
    · simp at hc
  split at hc
  · rcases List.mem_append.1 hc with h | h
    · exact hsign c h
    · exact plain_digit (natDec_digits _ c h)
  · simp only [List.append_assoc, List.mem_append, List.mem_singleton, List.mem_replicate] at hc
    rcases hc with h | h | h | h | h
    · exact hsign c h
    · exact plain_digit (natDec_digits _ c h)
    · subst h; unfold plain; decide
    · rw [h.2]; unfold plain; decide
    · exact plain_digit (natDec_digits _ c h)

theorem plain_indent (k : Nat) : ∀ c ∈ indent k, plain c := by
  intro c hc
  simp only [indent, List.mem_replicate] at hc
  rw [hc.2]; unfold plain; decide

theorem plain_sep (b : Bool) : ∀ c ∈ sep b, plain c := by
  intro c hc
  cases b <;> simp [sep] at hc <;> rcases hc with rfl | rfl <;> (unfold plain; decide)

mutual
theorem quiet_ser : ∀ (j : Json) (lvl : Nat) (x : List Nat), quiet false false (ser j lvl ++ x) = quiet false false x
  | .null, _, x | .bool true, _, x | .bool false, _, x | .numberX _, _, x | .array [], _, x | .object [], _, x => by
    simp only [ser]; exact quiet_plain _ x (by unfold plain; decide)
  | .number n k, _, x => by simp only [ser]; exact quiet_plain _ x (plain_serNumber n k)
  | .string s, _, x => by simp only [ser]; exact quiet_serString s x
  | .array (v :: vs), lvl, x => by
    have e : ser (.array (v :: vs)) lvl ++ x = [91, 10] ++ (serElems (v :: vs) lvl ++ (indent lvl ++ ([93] ++ x))) := by
      simp [ser]
    rw [e, quiet_plain _ _ (by unfold plain; decide), quiet_serElems (v :: vs) lvl,
      quiet_plain _ _ (plain_indent lvl), quiet_plain _ _ (by unfold plain; decide)]
  | .object (m :: ms), lvl, x => by
    have e : ser (.object (m :: ms)) lvl ++ x = [123, 10] ++ (serMembers (m :: ms) lvl ++ (indent lvl ++ ([125] ++ x))) := by
      simp [ser]
    rw [e, quiet_plain _ _ (by unfold plain; decide), quiet_serMembers (m :: ms) lvl,
      quiet_plain _ _ (plain_indent lvl), quiet_plain _ _ (by unfold plain; decide)]
theorem quiet_serElems : ∀ (vs : List Json) (lvl : Nat) (x : List Nat),
    quiet false false (serElems vs lvl ++ x) = quiet false false x
  | [], _, x => by simp [serElems]
  | v :: vs, lvl, x => by
    rw [serElems_cons, quiet_plain _ _ (plain_indent _), quiet_ser v, quiet_plain _ _ (plain_sep _),
      quiet_serElems vs lvl x]
theorem quiet_serMembers : ∀ (ms : Members) (lvl : Nat) (x : List Nat),
    quiet false false (serMembers ms lvl ++ x) = quiet false false x
  | [], _, x => by simp [serMembers]
  | (k, v) :: ms, lvl, x => by
    rw [serMembers_cons, quiet_plain _ _ (plain_indent _), quiet_serString,
      show (58 :: 32 :: (ser v (lvl + 1) ++ (sep ms.isEmpty ++ (serMembers ms lvl ++ x))))
        = [58, 32] ++ (ser v (lvl + 1) ++ (sep ms.isEmpty ++ (serMembers ms lvl ++ x))) by simp,
      quiet_plain _ _ (by unfold plain; decide), quiet_ser v, quiet_plain _ _ (plain_sep _),
      quiet_serMembers ms lvl x]
end

theorem quiet_serializePretty (j : Json) : quiet false false (serializePretty j) = some (false, false) := by
  have := quiet_ser j 0 []
  simpa [serializePretty, quiet] using this

theorem prepare_prefix {j : Json} {p : List Nat} (hp : p <+: serializePretty j) : prepare p = p := by
  obtain ⟨u, hu⟩ := hp
  exact prepare_quiet (hu ▸ quiet_serializePretty j)

end Ovni.Json
