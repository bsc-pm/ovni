import OvniModel.Lemmas.JsonBasic

/-! The extension lemma: what a successful parse returns is a suffix of its
    text, and the same call succeeds with the same value in front of any
    continuation of the text (for numbers: if what then follows the number is
    empty or starts with a stop character). -/
namespace Ovni.Json

theorem parseValue_obj {f n : Nat} {s t : List Nat} {d : Nat} {t' : List Nat} (hn : ¬ n > maxNesting)
    (hs : skipWs s = 123 :: t) (ht : skipWs t = d :: t') :
    parseValue (f + 1) n s = if d = 125 then .ok (.object [], t')
      else (parseMembers f (n + 1) (d :: t') []).bind fun (ms, rest) => .ok (.object ms, rest) := by
  rw [parseValue.eq_2, if_neg hn, hs]
  dsimp only
  rw [if_pos rfl, ht]

theorem parseValue_arr {f n : Nat} {s t : List Nat} {d : Nat} {t' : List Nat} (hn : ¬ n > maxNesting)
    (hs : skipWs s = 91 :: t) (ht : skipWs t = d :: t') :
    parseValue (f + 1) n s = if d = 93 then .ok (.array [], t')
      else (parseElems f (n + 1) (d :: t')).bind fun (vs, rest) => .ok (.array vs, rest) := by
  rw [parseValue.eq_2, if_neg hn, hs]
  dsimp only
  rw [if_neg (by decide), if_pos rfl, ht]

theorem parseMembers_round {f n : Nat} {s : List Nat} {seen : List (List Nat)} {key r1 r2 : List Nat} {v : Json}
    {r3 : List Nat} {d : Nat} {r4 : List Nat} (hq : quotedString s = some (key, r1)) (hk : ¬ key.contains 0 = true)
    (h1 : skipWs r1 = 58 :: r2) (hv : parseValue f n r2 = .ok (v, r3)) (hseen : ¬ seen.contains key = true)
    (h3 : skipWs r3 = d :: r4) :
    parseMembers (f + 1) n s seen =
      if d = 44 then (parseMembers f n (skipWs r4) (key :: seen)).bind fun (ms, rest) => .ok ((key, v) :: ms, rest)
      else if d = 125 then .ok ([(key, v)], r4) else .fail := by
  rw [parseMembers.eq_2, hq]
  dsimp only
  rw [if_neg hk, h1]
  dsimp only
  rw [if_neg (not_not_intro rfl), hv, Res.bind_ok]
  dsimp only
  rw [if_neg hseen, h3]

theorem parseElems_round {f n : Nat} {s : List Nat} {v : Json} {r1 : List Nat} {d : Nat} {r2 : List Nat}
    (hv : parseValue f n s = .ok (v, r1)) (h1 : skipWs r1 = d :: r2) :
    parseElems (f + 1) n s =
      if d = 44 then (parseElems f n (skipWs r2)).bind fun (vs, rest) => .ok (v :: vs, rest)
      else if d = 93 then .ok ([v], r2) else .fail := by
  cases s with
  | nil =>
    -- `parse_value` returns nothing on the empty text
    cases f with
    | zero => cases hv
    | succ f =>
      rw [parseValue.eq_2] at hv
      by_cases hn : n > maxNesting
      · rw [if_pos hn] at hv; cases hv
      · rw [if_neg hn] at hv; cases hv
  | cons c s =>
    rw [parseElems.eq_3, hv, Res.bind_ok]
    dsimp only
    rw [h1]

/-- A successful call returns a suffix of its text and does the same in front of any continuation `u`.
    For a number this needs the text after it, continuation included, to be empty or to start with a stop
    character (`1e` is 1 with `e` left, `1e5` is 100000); the loops know that only after the call, once they
    have seen the delimiter, hence the implication. -/
def ExtV (u : List Nat) (f : Nat) : Prop := ∀ n s, (parseValue f n s).All fun (v, r) =>
  r <:+ s ∧ ((closed v = true ∨ Term (r ++ u)) → parseValue f n (s ++ u) = .ok (v, r ++ u))
def ExtM (u : List Nat) (f : Nat) : Prop := ∀ n s seen, (parseMembers f n s seen).All fun (ms, r) =>
  r <:+ s ∧ parseMembers f n (s ++ u) seen = .ok (ms, r ++ u)
def ExtE (u : List Nat) (f : Nat) : Prop := ∀ n s, (parseElems f n s).All fun (vs, r) =>
  r <:+ s ∧ parseElems f n (s ++ u) = .ok (vs, r ++ u)

theorem extV_succ {u : List Nat} {f : Nat} (hM : ExtM u f) (hE : ExtE u f) : ExtV u (f + 1) := by
  intro n s
  rw [parseValue.eq_2 n s]
  refine .ite' (fun _ => trivial) fun hn => ?_
  cases heq : skipWs s with
  | nil => trivial
  | cons c t =>
  have hs := skipWs_cons_suffix heq
  have hws := skipWs_append_of_cons heq u
  dsimp only
  refine .ite' (fun hc => ?_) fun hc => .ite' (fun hc' => ?_) fun hc' => ?_
  · subst hc
    cases heq2 : skipWs t with
    | nil => trivial
    | cons d t' =>
    have hs2 := (skipWs_cons_suffix heq2).trans ((List.suffix_cons ..).trans hs)
    have obj := parseValue_obj (f := f) hn hws (skipWs_append_of_cons heq2 u)
    dsimp only
    refine .ite' (fun hd => ⟨(List.suffix_cons ..).trans hs2, fun _ => ?_⟩) fun hd => .bind fun (ms, rest) hpm => ?_
    · rw [obj, if_pos hd]
    · obtain ⟨hsm, hext⟩ := (hM _ _ _).ok hpm
      refine ⟨hsm.trans hs2, fun _ => ?_⟩
      rw [List.cons_append] at hext
      rw [obj, if_neg hd, hext]
      rfl
  · subst hc'
    cases heq2 : skipWs t with
    | nil => trivial
    | cons d t' =>
    have hs2 := (skipWs_cons_suffix heq2).trans ((List.suffix_cons ..).trans hs)
    have arr := parseValue_arr (f := f) hn hws (skipWs_append_of_cons heq2 u)
    dsimp only
    refine .ite' (fun hd => ⟨(List.suffix_cons ..).trans hs2, fun _ => ?_⟩) fun hd => .bind fun (vs, rest) hpe => ?_
    · rw [arr, if_pos hd]
    · obtain ⟨hse, hext⟩ := (hE _ _).ok hpe
      refine ⟨hse.trans hs2, fun _ => ?_⟩
      rw [List.cons_append] at hext
      rw [arr, if_neg hd, hext]
      rfl
  · refine (parseScalar_ext (c :: t) u).imp fun (v, r) ⟨hsr, hext⟩ => ⟨hsr.trans hs, fun hr => ?_⟩
    rw [parseValue.eq_2, if_neg hn, hws]
    dsimp only
    rw [if_neg hc, if_neg hc']
    exact hext hr

theorem extM_succ {u : List Nat} {f : Nat} (hV : ExtV u f) (hM : ExtM u f) : ExtM u (f + 1) := by
  intro n s seen
  rw [parseMembers.eq_2 n s]
  cases hq : quotedString s with
  | none => trivial
  | some p =>
  obtain ⟨key, r1⟩ := p
  obtain ⟨hs1, hq'⟩ := quotedString_append hq
  dsimp only
  refine .ite' (fun _ => trivial) fun hk0 => ?_
  cases heq1 : skipWs r1 with
  | nil => trivial
  | cons c r2 =>
  dsimp only
  refine .ite' (fun _ => trivial) fun hc => .bind fun (v, r3) hpv => ?_
  obtain rfl : c = 58 := Decidable.of_not_not hc
  obtain ⟨hs3, hvext⟩ := (hV _ _).ok hpv
  dsimp only
  refine .ite' (fun _ => trivial) fun hseen => ?_
  cases heq3 : skipWs r3 with
  | nil => trivial
  | cons d r4 =>
  dsimp only
  have hs4 : r4 <:+ s := ((List.suffix_cons ..).trans (skipWs_cons_suffix heq3)).trans
    (hs3.trans (((List.suffix_cons ..).trans (skipWs_cons_suffix heq1)).trans hs1))
  -- the same round in front of `u`
  have round := fun (hd : isStop d = true) =>
    parseMembers_round (f := f) (n := n) (hq' u) hk0 (skipWs_append_of_cons heq1 u) (hvext (.inr (term_of_skipWs heq3 hd u)))
      hseen (skipWs_append_of_cons heq3 u)
  refine .ite' (fun hd => ?_) fun hd => .ite' (fun hd' => ⟨hs4, ?_⟩) fun _ => trivial
  · subst hd
    cases heq4 : skipWs r4 with
    | nil => cases f <;> trivial     -- the loop refuses the empty text
    | cons a r5 =>
    refine .bind fun (ms', rest) hpm => ?_
    obtain ⟨hsm, hmext⟩ := (hM _ _ _).ok hpm
    refine ⟨hsm.trans ((skipWs_cons_suffix heq4).trans hs4), ?_⟩
    rw [List.cons_append] at hmext
    rw [round (by decide), if_pos rfl, skipWs_append_of_cons heq4, hmext]
    rfl
  · subst hd'
    rw [round (by decide), if_neg hd, if_pos rfl]

theorem extE_succ {u : List Nat} {f : Nat} (hV : ExtV u f) (hE : ExtE u f) : ExtE u (f + 1) := by
  intro n s
  cases s with
  | nil => trivial
  | cons s0 s1 =>
  rw [parseElems.eq_3 n f s0 s1]
  refine .bind fun (v, r3) hpv => ?_
  obtain ⟨hs3, hvext⟩ := (hV _ _).ok hpv
  dsimp only
  cases heq3 : skipWs r3 with
  | nil => trivial
  | cons d r4 =>
  dsimp only
  have hs4 : r4 <:+ s0 :: s1 := ((List.suffix_cons ..).trans (skipWs_cons_suffix heq3)).trans hs3
  have round := fun (hd : isStop d = true) =>
    parseElems_round (f := f) (n := n) (hvext (.inr (term_of_skipWs heq3 hd u))) (skipWs_append_of_cons heq3 u)
  refine .ite' (fun hd => ?_) fun hd => .ite' (fun hd' => ⟨hs4, ?_⟩) fun _ => trivial
  · subst hd
    cases heq4 : skipWs r4 with
    | nil => cases f <;> trivial     -- the loop refuses the empty text
    | cons a r5 =>
    refine .bind fun (vs', rest) hpe => ?_
    obtain ⟨hse, heext⟩ := (hE _ _).ok hpe
    refine ⟨hse.trans ((skipWs_cons_suffix heq4).trans hs4), ?_⟩
    rw [List.cons_append] at heext
    rw [round (by decide), if_pos rfl, skipWs_append_of_cons heq4, heext]
    rfl
  · subst hd'
    rw [round (by decide), if_neg hd, if_pos rfl]

theorem ext_all (u : List Nat) : ∀ f, ExtV u f ∧ ExtM u f ∧ ExtE u f
  | 0 => ⟨fun _ _ => trivial, fun _ _ _ => trivial, fun _ _ => trivial⟩
  | f + 1 =>
    have ih := ext_all u f
    ⟨extV_succ ih.2.1 ih.2.2, extM_succ ih.1 ih.2.1, extE_succ ih.1 ih.2.2⟩

theorem parseValue_ext {f n : Nat} {s : List Nat} {v : Json} {r : List Nat} (h : parseValue f n s = .ok (v, r))
    (u : List Nat) (hr : closed v = true ∨ Term (r ++ u)) : parseValue f n (s ++ u) = .ok (v, r ++ u) :=
  (((ext_all u f).1 n s).ok h).2 hr

theorem parseValue_suffix {f n : Nat} {s : List Nat} {v : Json} {r : List Nat} (h : parseValue f n s = .ok (v, r)) :
    r <:+ s :=
  (((ext_all [] f).1 n s).ok h).1

theorem parseMembers_suffix {f n : Nat} {s : List Nat} {seen : List (List Nat)} {ms : Members} {r : List Nat}
    (h : parseMembers f n s seen = .ok (ms, r)) : r <:+ s :=
  (((ext_all [] f).2.1 n s seen).ok h).1

theorem parseElems_suffix {f n : Nat} {s : List Nat} {vs : List Json} {r : List Nat}
    (h : parseElems f n s = .ok (vs, r)) : r <:+ s :=
  (((ext_all [] f).2.2 n s).ok h).1

end Ovni.Json
