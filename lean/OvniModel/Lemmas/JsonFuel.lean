import OvniModel.Lemmas.JsonExt

/-! The fuel of the parser functions: more fuel never changes a result other
    than `oof`, and `2 * length + 1` is never exhausted.  Both are shown in one
    induction, relating each call to the same call with one unit more.  With the
    extension lemma, closed values are prefix-free (`parseValue_prefix_free`). -/
namespace Ovni.Json

theorem Res.bind_ne_oof_left {α β : Type} {x : Res α} {g : α → Res β} (h : x.bind g ≠ .oof) : x ≠ .oof := by
  intro e; rw [e] at h; exact h rfl

/-- The call has answered: `ok` or `fail`, neither out of fuel nor unsupported (`unsup` is produced by
    `parse` only). -/
def Res.answered {α : Type} : Res α → Prop
  | .ok _ | .fail => True
  | .unsup | .oof => False

theorem Res.answered.ite {α : Type} {c : Prop} [Decidable c] {a b : Res α} (ha : a.answered) (hb : b.answered) :
    (if c then a else b).answered := by
  split <;> assumption

theorem Res.answered.bind {α β : Type} {x : Res α} {g : α → Res β} (hx : x.answered) (hg : ∀ a, (g a).answered) :
    (x.bind g).answered := by
  cases x with
  | ok a => exact hg a
  | fail => trivial
  | unsup => exact hx
  | oof => exact hx

theorem numBody_answered (neg : Bool) (s t : List Nat) : (numBody neg s t).answered := by
  unfold numBody
  refine .ite trivial (.ite trivial ?_)
  dsimp only
  refine .ite trivial (.ite trivial ?_)
  split <;> trivial

theorem parseNumber_answered (s : List Nat) : (parseNumber s).answered := by
  refine .bind ?_ fun _ => trivial
  unfold numCore
  split
  · exact numBody_answered ..
  · exact .ite (numBody_answered ..) (numBody_answered ..)

theorem parseScalar_answered (s : List Nat) : (parseScalar s).answered := by
  unfold parseScalar
  split
  · trivial
  refine .ite ?_ (.ite (.ite trivial (.ite trivial trivial))
    (.ite (parseNumber_answered _) (.ite (.ite trivial trivial) trivial)))
  split <;> trivial

/-- `x` is computed with some fuel, `y` with one unit more; `enough` is the bound on the fuel of `x` under
    which `x` has answered. -/
structure Res.Fuel {α : Type} (enough : Prop) (x y : Res α) : Prop where
  answered : enough → x.answered
  stable : x ≠ .oof → y = x

theorem Res.Fuel.refl {α : Type} {e : Prop} {x : Res α} (h : x.answered) : Res.Fuel e x x := ⟨fun _ => h, fun _ => rfl⟩

theorem Res.Fuel.ite {α : Type} {e c : Prop} [Decidable c] {a a' b b' : Res α} (ha : Res.Fuel e a a') (hb : Res.Fuel e b b') :
    Res.Fuel e (if c then a else b) (if c then a' else b') := by
  split <;> assumption

theorem Res.Fuel.bind {α β : Type} {e e' : Prop} {x x' : Res α} {g g' : α → Res β} (hx : Res.Fuel e' x x') (he : e → e')
    (hg : ∀ a, x = .ok a → Res.Fuel e (g a) (g' a)) : Res.Fuel e (x.bind g) (x'.bind g') := by
  cases x with
  | ok a => rw [hx.stable (by simp)]; exact hg a rfl
  | fail => rw [hx.stable (by simp)]; exact .refl trivial
  | unsup => rw [hx.stable (by simp)]; exact ⟨fun h => hx.answered (he h), fun _ => rfl⟩
  | oof => exact ⟨fun h => hx.answered (he h), fun h => absurd rfl h⟩

/-- Every call passes one unit less to its callees.  `parseElems` calls `parseValue`
    on its own text, so a loop needs one unit more than a value on the same text; a value hands the
    text after its bracket, one character shorter, to a loop, so a character is worth two units. -/
def FuelV (f : Nat) : Prop := ∀ n s, Res.Fuel (2 * s.length + 1 ≤ f) (parseValue f n s) (parseValue (f + 1) n s)
def FuelM (f : Nat) : Prop :=
  ∀ n s seen, Res.Fuel (2 * s.length + 2 ≤ f) (parseMembers f n s seen) (parseMembers (f + 1) n s seen)
def FuelE (f : Nat) : Prop := ∀ n s, Res.Fuel (2 * s.length + 2 ≤ f) (parseElems f n s) (parseElems (f + 1) n s)

theorem fuelV_succ {f : Nat} (hM : FuelM f) (hE : FuelE f) : FuelV (f + 1) := by
  intro n s
  rw [parseValue.eq_2, parseValue.eq_2]
  refine .ite (.refl trivial) ?_
  cases hs : skipWs s with
  | nil => exact .refl trivial
  | cons c r =>
    have := skipWs_cons_length hs
    refine .ite ?_ (.ite ?_ (.refl (parseScalar_answered _)))
    · cases hr : skipWs r with
      | nil => exact .refl trivial
      | cons d t =>
        have := skipWs_cons_length hr
        exact .ite (.refl trivial) (.bind (hM _ _ _) (by simp only [List.length_cons]; omega) fun _ _ => .refl trivial)
    · cases hr : skipWs r with
      | nil => exact .refl trivial
      | cons d t =>
        have := skipWs_cons_length hr
        exact .ite (.refl trivial) (.bind (hE _ _) (by simp only [List.length_cons]; omega) fun _ _ => .refl trivial)

theorem fuelM_succ {f : Nat} (hV : FuelV f) (hM : FuelM f) : FuelM (f + 1) := by
  intro n s seen
  rw [parseMembers.eq_2, parseMembers.eq_2]
  cases hq : quotedString s with
  | none => exact .refl trivial
  | some p =>
    obtain ⟨key, r1⟩ := p
    obtain ⟨ck, hsplit, _⟩ := quotedString_split hq
    have h1 : r1.length < s.length := by rw [hsplit]; simp only [List.length_append, List.length_cons]; omega
    refine .ite (.refl trivial) ?_
    cases hs : skipWs r1 with
    | nil => exact .refl trivial
    | cons c r2 =>
      have := skipWs_cons_length hs
      refine .ite (.refl trivial) (.bind (hV _ _) (by omega) fun (v, r3) hv => ?_)
      have := (parseValue_suffix hv).length_le
      refine .ite (.refl trivial) ?_
      cases hs3 : skipWs r3 with
      | nil => exact .refl trivial
      | cons d r4 =>
        have := skipWs_cons_length hs3
        have := skipWs_length_le r4
        exact .ite (.bind (hM _ _ _) (by omega) fun _ _ => .refl trivial) (.refl (.ite trivial trivial))

theorem fuelE_succ {f : Nat} (hV : FuelV f) (hE : FuelE f) : FuelE (f + 1) := by
  intro n s
  cases s with
  | nil => exact .refl trivial
  | cons c s =>
    rw [parseElems.eq_3, parseElems.eq_3]
    refine .bind (hV _ _) (by omega) fun (v, r) hv => ?_
    have := (parseValue_suffix hv).length_le
    dsimp only
    cases hs : skipWs r with
    | nil => exact .refl trivial
    | cons d r2 =>
      have := skipWs_cons_length hs
      have := skipWs_length_le r2
      exact .ite (.bind (hE _ _) (by omega) fun _ _ => .refl trivial) (.refl (.ite trivial trivial))

theorem fuel_all : ∀ f, FuelV f ∧ FuelM f ∧ FuelE f
  | 0 =>
    ⟨fun _ _ => ⟨fun h => by omega, fun h => absurd rfl h⟩, fun _ _ _ => ⟨fun h => by omega, fun h => absurd rfl h⟩,
      fun _ _ => ⟨fun h => by omega, fun h => absurd rfl h⟩⟩
  | f + 1 =>
    have ih := fuel_all f
    ⟨fuelV_succ ih.2.1 ih.2.2, fuelM_succ ih.1 ih.2.1, fuelE_succ ih.1 ih.2.2⟩

theorem parseValue_fuel_mono {f n : Nat} {s : List Nat} (h : parseValue f n s ≠ .oof) :
    ∀ k, parseValue (f + k) n s = parseValue f n s
  | 0 => rfl
  | k + 1 => by
    have ih := parseValue_fuel_mono h k
    rw [← ih, ← Nat.add_assoc]
    exact ((fuel_all (f + k)).1 n s).stable (by rw [ih]; exact h)

theorem parseValue_fuel_indep {f f' n : Nat} {s : List Nat} (h : parseValue f n s ≠ .oof) (h' : parseValue f' n s ≠ .oof) :
    parseValue f n s = parseValue f' n s := by
  rw [← parseValue_fuel_mono h f', ← parseValue_fuel_mono h' f, Nat.add_comm]

theorem parseValue_answered {f n : Nat} {s : List Nat} (h : 2 * s.length + 1 ≤ f) : (parseValue f n s).answered :=
  ((fuel_all f).1 n s).answered h

theorem parseValue_ne_oof {f n : Nat} {s : List Nat} (h : 2 * s.length + 1 ≤ f) : parseValue f n s ≠ .oof :=
  fun e => by have := parseValue_answered (n := n) h; rw [e] at this; exact this

theorem parseValue_fuel_eq {f n : Nat} {s : List Nat} (h : 2 * s.length + 1 ≤ f) :
    parseValue f n s = parseValue (2 * s.length + 1) n s :=
  parseValue_fuel_indep (parseValue_ne_oof h) (parseValue_ne_oof (Nat.le_refl _))

/-- Closed values are prefix-free: a text that parses to one is not a strict prefix of a text that
    parses with nothing left (at any nesting, with any fuel on either side). -/
theorem parseValue_prefix_free {f f' n : Nat} {p u : List Nat} {v v' : Json} {r' : List Nat}
    (h : parseValue f n p = .ok (v', r')) (hcl : closed v' = true) (h' : parseValue f' n (p ++ u) = .ok (v, [])) :
    u = [] := by
  have h1 := parseValue_ext h u (.inl hcl)
  have e := parseValue_fuel_indep (by rw [h1]; exact nofun) (by rw [h']; exact nofun)
  rw [h1, h'] at e
  exact (List.append_eq_nil_iff.1 (Prod.mk.inj (Res.ok.inj e)).2).2

end Ovni.Json
