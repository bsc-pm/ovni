import OvniModel.Json

/-! `json_object_dotset_value` / `json_object_dotget_value` algebra. -/
namespace Ovni.Json

theorem assoc_setKey_same (k : List Nat) (v : Json) : ∀ ms : Members, assoc k (setKey k v ms) = some v
  | [] => by simp [setKey, assoc]
  | (k', v') :: r => by
    simp only [setKey]
    split
    · rename_i h; simp [assoc, h]
    · rename_i h; simp only [assoc, h, if_false]; exact assoc_setKey_same k v r

theorem assoc_setKey_other {k k' : List Nat} (h : k' ≠ k) (v : Json) : ∀ ms : Members,
    assoc k' (setKey k v ms) = assoc k' ms
  | [] => by simp [setKey, assoc, Ne.symm h]
  | (k2, v2) :: r => by
    simp only [setKey]
    split
    · rename_i h2
      subst h2
      simp [assoc, Ne.symm h]
    · simp only [assoc]
      split
      · rfl
      · exact assoc_setKey_other h v r

theorem setKey_of_none {k : List Nat} (v : Json) : ∀ {ms : Members}, assoc k ms = none → setKey k v ms = ms ++ [(k, v)]
  | [], _ => rfl
  | (k2, v2) :: r, h => by
    simp only [assoc] at h
    split at h
    · cases h
    · rename_i h2
      simp only [setKey, h2, if_false, List.cons_append, setKey_of_none v h]

theorem splitDots_ne_nil : ∀ p : List Nat, splitDots p ≠ []
  | [] => by simp [splitDots]
  | c :: r => by
    simp only [splitDots]
    split
    · simp
    · split <;> simp

/-- One step of `json_object_dotset_value`: the member `k` is set, at the last segment to `v`, before it to
    the object that the remaining segments make of the object it held, or of nothing if there was no such
    member (it is then appended, which is what `setKey` does with a new name). -/
theorem dotsetSegs_cons {v : Json} {k : List Nat} {rest : List (List Nat)} {ms ms' : Members}
    (h : dotsetSegs v (k :: rest) ms = some ms') :
    ∃ x, ms' = setKey k x ms ∧ (rest = [] ∧ x = v ∨
      ∃ sub sub', x = .object sub' ∧ dotsetSegs v rest sub = some sub'
        ∧ (assoc k ms = some (.object sub) ∨ assoc k ms = none ∧ sub = [])) := by
  cases rest with
  | nil =>
    simp only [dotsetSegs, Option.some.injEq] at h
    exact ⟨v, h.symm, .inl ⟨rfl, rfl⟩⟩
  | cons k2 rest =>
    simp only [dotsetSegs] at h
    split at h
    · rename_i sub hsub
      split at h
      · rename_i sub' hs
        cases h
        exact ⟨_, rfl, .inr ⟨sub, sub', rfl, hs, .inl hsub⟩⟩
      · cases h
    · cases h
    · rename_i hnone
      split at h
      · rename_i sub' hs
        cases h
        exact ⟨_, (setKey_of_none _ hnone).symm, .inr ⟨[], sub', rfl, hs, .inr ⟨hnone, rfl⟩⟩⟩
      · cases h

theorem dotgetSegs_dotsetSegs_same (v : Json) : ∀ (segs : List (List Nat)) (ms ms' : Members),
    dotsetSegs v segs ms = some ms' → dotgetSegs (.object ms') segs = some v
  | [], _, _, h => by simp [dotsetSegs] at h
  | k :: rest, ms, ms', h => by
    obtain ⟨x, rfl, hx⟩ := dotsetSegs_cons h
    simp only [dotgetSegs, Json.get?, assoc_setKey_same]
    rcases hx with ⟨rfl, rfl⟩ | ⟨sub, sub', rfl, hs, _⟩
    · rfl
    · exact dotgetSegs_dotsetSegs_same v rest sub sub' hs

/-- Neither path is a prefix of the other: what `dotset` does along one, `dotget` along the other does not
    see (`dotget_dotset_other`). -/
def Indep (a b : List (List Nat)) : Prop := ¬ a <+: b ∧ ¬ b <+: a

theorem indep_cons_same {k : List Nat} {a b : List (List Nat)} (h : Indep (k :: a) (k :: b)) : Indep a b := by
  refine ⟨fun hp => h.1 ?_, fun hp => h.2 ?_⟩
  · obtain ⟨t, rfl⟩ := hp; exact ⟨t, rfl⟩
  · obtain ⟨t, rfl⟩ := hp; exact ⟨t, rfl⟩

theorem indep_ne_nil {a b : List (List Nat)} (h : Indep a b) : a ≠ [] ∧ b ≠ [] :=
  ⟨fun e => h.1 (e ▸ List.nil_prefix), fun e => h.2 (e ▸ List.nil_prefix)⟩

theorem dotgetSegs_dotsetSegs_other (v : Json) : ∀ (segs segs' : List (List Nat)) (ms ms' : Members),
    Indep segs segs' → dotsetSegs v segs ms = some ms' →
    dotgetSegs (.object ms') segs' = dotgetSegs (.object ms) segs'
  | [], _, _, _, hi, _ => absurd rfl (indep_ne_nil hi).1
  | _ :: _, [], _, _, hi, _ => absurd rfl (indep_ne_nil hi).2
  | k :: rest, k' :: rest', ms, ms', hi, h => by
    obtain ⟨x, rfl, hx⟩ := dotsetSegs_cons h
    by_cases hk : k' = k
    · subst hk
      have hi' := indep_cons_same hi
      rcases hx with ⟨rfl, _⟩ | ⟨sub, sub', rfl, hs, hsub⟩
      · exact absurd rfl (indep_ne_nil hi').1
      · simp only [dotgetSegs, Json.get?, assoc_setKey_same]
        rw [dotgetSegs_dotsetSegs_other v rest rest' sub sub' hi' hs]
        rcases hsub with h1 | ⟨h1, rfl⟩ <;> rw [h1]
        -- nothing is found below a member that was not there
        obtain ⟨a, b, rfl⟩ := List.exists_cons_of_ne_nil (indep_ne_nil hi').2
        rfl
    · simp only [dotgetSegs, Json.get?, assoc_setKey_other hk]

/-- a sequence of `json_object_dotset_value` calls; `none` = one of them failed -/
def applySets : Json → List (List Nat × Json) → Option Json
  | j, [] => some j
  | j, (p, v) :: rest =>
    match dotset j p v with
    | some j' => applySets j' rest
    | none => none

theorem dotset_object {j j' : Json} {p : List Nat} {v : Json} (h : dotset j p v = some j') :
    ∃ ms ms', j = .object ms ∧ j' = .object ms' ∧ dotsetSegs v (splitDots p) ms = some ms' := by
  unfold dotset at h
  split at h
  · rename_i ms
    split at h
    · rename_i ms' hs
      simp only [Option.some.injEq] at h
      exact ⟨ms, ms', rfl, h.symm, hs⟩
    · cases h
  · cases h

theorem dotget_dotset_same {j j' : Json} {p : List Nat} {v : Json} (h : dotset j p v = some j') :
    dotget j' p = some v := by
  obtain ⟨ms, ms', rfl, rfl, hs⟩ := dotset_object h
  exact dotgetSegs_dotsetSegs_same v _ ms ms' hs

theorem dotget_dotset_other {j j' : Json} {p q : List Nat} {v : Json} (h : dotset j p v = some j')
    (hi : Indep (splitDots p) (splitDots q)) : dotget j' q = dotget j q := by
  obtain ⟨ms, ms', rfl, rfl, hs⟩ := dotset_object h
  exact dotgetSegs_dotsetSegs_other v _ _ ms ms' hi hs

theorem applySets_other : ∀ (sets : List (List Nat × Json)) (j j' : Json) (q : List Nat),
    applySets j sets = some j' → (∀ pv ∈ sets, Indep (splitDots pv.1) (splitDots q)) → dotget j' q = dotget j q
  | [], j, j', q, h, _ => by simp only [applySets, Option.some.injEq] at h; rw [h]
  | (p, v) :: rest, j, j', q, h, hi => by
    simp only [applySets] at h
    split at h
    · rename_i j1 h1
      rw [applySets_other rest j1 j' q h (fun pv hpv => hi pv (List.mem_cons_of_mem _ hpv))]
      exact dotget_dotset_other h1 (hi (p, v) (List.mem_cons_self ..))
    · cases h

theorem applySets_get : ∀ (pre : List (List Nat × Json)) (p : List Nat) (v : Json) (post : List (List Nat × Json))
    (j j' : Json), applySets j (pre ++ (p, v) :: post) = some j' →
    (∀ qv ∈ post, Indep (splitDots qv.1) (splitDots p)) → dotget j' p = some v
  | [], p, v, post, j, j', h, hi => by
    simp only [List.nil_append, applySets] at h
    split at h
    · rename_i j1 h1
      rw [applySets_other post j1 j' p h hi]
      exact dotget_dotset_same h1
    · cases h
  | (p0, v0) :: pre, p, v, post, j, j', h, hi => by
    simp only [List.cons_append, applySets] at h
    split at h
    · rename_i j1 h1
      exact applySets_get pre p v post j1 j' h hi
    · cases h

end Ovni.Json
