import OvniModel.Lemmas.JsonFuel

/-! Round trip `parse (serializePretty j) = ok j`: strings, numbers, the
    structural induction. -/
namespace Ovni.Json

theorem escape_cons (c : Nat) (s : List Nat) : escape (c :: s) = escapeByte c ++ escape s := by
  simp [escape]

theorem serString_append (s x : List Nat) : serString s ++ x = 34 :: (escape s ++ 34 :: x) := by
  simp [serString]

theorem hexDigit_facts : ∀ c, c < 32 →
    hex4 48 48 (hexDigit (c / 16)) (hexDigit (c % 16)) = some c
    ∧ ∀ h ∈ [hexDigit (c / 16), hexDigit (c % 16)], h ≠ 0 ∧ h ≠ 34 ∧ h ≠ 92 := by
  decide

/-- the two-character escapes `\e` that `json_serialize_string` writes, as pairs (byte, `e`) -/
def shortEscapes : List (Nat × Nat) :=
  [(34, 34), (92, 92), (8, 98), (12, 102), (10, 110), (13, 114), (9, 116), (47, 47)]

theorem escapeByte_shape (c : Nat) :
    (∃ e, (c, e) ∈ shortEscapes ∧ escapeByte c = [92, e])
    ∨ (c < 32 ∧ escapeByte c = [92, 117, 48, 48, hexDigit (c / 16), hexDigit (c % 16)])
    ∨ (c ≠ 34 ∧ c ≠ 92 ∧ ¬ c < 32 ∧ escapeByte c = [c]) := by
  by_cases hm : c ∈ [34, 92, 8, 12, 10, 13, 9, 47]
  · simp only [List.mem_cons, List.not_mem_nil, or_false] at hm
    rcases hm with rfl | rfl | rfl | rfl | rfl | rfl | rfl | rfl <;> exact .inl ⟨_, by decide, rfl⟩
  · simp only [List.mem_cons, List.not_mem_nil, or_false, not_or] at hm
    obtain ⟨h1, h2, h3, h4, h5, h6, h7, h9⟩ := hm
    unfold escapeByte
    rw [if_neg h1, if_neg h2, if_neg h3, if_neg h4, if_neg h5, if_neg h6, if_neg h7]
    by_cases h8 : c < 32
    · exact .inr (.inl ⟨h8, if_pos h8⟩)
    · exact .inr (.inr ⟨h1, h2, h8, by rw [if_neg h8, if_neg h9]⟩)

theorem processString_cons_plain {c : Nat} (r : List Nat) (h1 : c ≠ 92) (h2 : ¬ c < 32) :
    processString (c :: r) = consOpt [c] (processString r) := by
  rw [processString.eq_def]; simp [h1, h2]

theorem processString_short {c e : Nat} (h : (c, e) ∈ shortEscapes) (t : List Nat) :
    processString (92 :: e :: t) = consOpt [c] (processString t) := by
  simp only [shortEscapes, List.mem_cons, Prod.mk.injEq, List.not_mem_nil, or_false] at h
  rcases h with ⟨rfl, rfl⟩ | ⟨rfl, rfl⟩ | ⟨rfl, rfl⟩ | ⟨rfl, rfl⟩ | ⟨rfl, rfl⟩ | ⟨rfl, rfl⟩ | ⟨rfl, rfl⟩ | ⟨rfl, rfl⟩ <;>
    (rw [processString.eq_def]; simp)

theorem processString_u00 {c : Nat} (h : c < 32) (t : List Nat) :
    processString (92 :: 117 :: 48 :: 48 :: hexDigit (c / 16) :: hexDigit (c % 16) :: t)
      = consOpt [c] (processString t) := by
  rw [processString.eq_def]
  simp [(hexDigit_facts c h).1, utf8Enc, show c < 55296 by omega, show c < 128 by omega]

theorem processString_escapeByte (c : Nat) (t : List Nat) :
    processString (escapeByte c ++ t) = consOpt [c] (processString t) := by
  rcases escapeByte_shape c with ⟨e, he, h⟩ | ⟨hc, h⟩ | ⟨_, h2, h3, h⟩ <;> rw [h]
  · exact processString_short he t
  · exact processString_u00 hc t
  · exact processString_cons_plain t h2 h3

theorem processString_escape : ∀ s : List Nat, processString (escape s) = some s
  | [] => by simp [escape, processString]
  | c :: s => by
    rw [escape_cons, processString_escapeByte, processString_escape s]; rfl

theorem skipQuotes_escapeByte (c : Nat) (t : List Nat) :
    skipQuotes (escapeByte c ++ t) = sqMap (escapeByte c) (skipQuotes t) := by
  rcases escapeByte_shape c with ⟨e, _, h⟩ | ⟨hc, h⟩ | ⟨h1, h2, _, h⟩ <;> rw [h]
  · exact skipQuotes_bs _ _
  · have hd := (hexDigit_facts c hc).2
    have a := hd _ (List.mem_cons_self ..)
    have b := hd _ (List.mem_cons_of_mem _ (List.mem_cons_self ..))
    simp only [List.cons_append, List.nil_append]
    rw [skipQuotes_bs, skipQuotes_other _ (by decide) (by decide), skipQuotes_other _ (by decide) (by decide),
      skipQuotes_other _ a.2.1 a.2.2, skipQuotes_other _ b.2.1 b.2.2]
    cases skipQuotes t <;> rfl
  · exact skipQuotes_other t h1 h2

theorem skipQuotes_escape (s rest : List Nat) : skipQuotes (escape s ++ 34 :: rest) = some (escape s, rest) := by
  induction s with
  | nil => simp [escape, skipQuotes_quote]
  | cons c s ih =>
    rw [escape_cons, List.append_assoc, skipQuotes_escapeByte, ih]; rfl

theorem quotedString_serString (s rest : List Nat) : quotedString (serString s ++ rest) = some (s, rest) := by
  rw [serString_append]
  simp only [quotedString, if_true, skipQuotes_escape, processString_escape]

theorem parseScalar_serString (s rest : List Nat) : parseScalar (serString s ++ rest) = .ok (.string s, rest) := by
  have h := quotedString_serString s rest
  rw [serString, List.cons_append] at h ⊢
  simp only [parseScalar, if_true, h]

theorem natDecGo_digits : ∀ (f n : Nat), ∀ d ∈ natDecGo f n, isDigit d = true
  | 0, n, d, h => by
    simp only [natDecGo, List.mem_singleton] at h
    subst h; simp [isDigit]; omega
  | f + 1, n, d, h => by
    simp only [natDecGo] at h
    split at h
    · simp only [List.mem_singleton] at h; subst h; simp [isDigit]; omega
    · rcases List.mem_append.1 h with h | h
      · exact natDecGo_digits f _ d h
      · simp only [List.mem_singleton] at h; subst h; simp [isDigit]; omega

theorem natDecGo_ne_nil : ∀ (f n : Nat), natDecGo f n ≠ []
  | 0, n => by simp [natDecGo]
  | f + 1, n => by
    simp only [natDecGo]
    split <;> simp

theorem digitsVal_append (l : List Nat) (d : Nat) : digitsVal (l ++ [d]) = digitsVal l * 10 + (d - 48) := by
  simp [digitsVal, List.foldl_append]

theorem digitsVal_natDecGo : ∀ (f n : Nat), n ≤ f → digitsVal (natDecGo f n) = n
  | 0, n, h => by
    have : n = 0 := by omega
    subst this; simp [natDecGo, digitsVal]
  | f + 1, n, h => by
    simp only [natDecGo]
    split
    · simp [digitsVal]
    · rw [digitsVal_append, digitsVal_natDecGo f (n / 10) (by omega)]
      omega

theorem natDecGo_head : ∀ (f n : Nat), n ≤ f → n ≠ 0 → (natDecGo f n).head? ≠ some 48
  | 0, n, h, hn => by omega
  | f + 1, n, h, hn => by
    simp only [natDecGo]
    split
    · simp; omega
    · rename_i h10
      have ih := natDecGo_head f (n / 10) (by omega) (by omega)
      cases hgo : natDecGo f (n / 10) with
      | nil => exact absurd hgo (natDecGo_ne_nil _ _)
      | cons a l => rw [hgo] at ih; simpa using ih

theorem natDec_digits (n : Nat) : ∀ d ∈ natDec n, isDigit d = true := natDecGo_digits n n
theorem natDec_ne_nil (n : Nat) : natDec n ≠ [] := natDecGo_ne_nil n n
theorem digitsVal_natDec (n : Nat) : digitsVal (natDec n) = n := digitsVal_natDecGo n n (Nat.le_refl _)
theorem natDec_head (n : Nat) (h : n ≠ 0) : (natDec n).head? ≠ some 48 := natDecGo_head n n (Nat.le_refl _) h
theorem natDec_zero : natDec 0 = [48] := rfl

theorem natDec_head_digit (n : Nat) : ∃ a t, natDec n = a :: t ∧ isDigit a = true := by
  cases h : natDec n with
  | nil => exact absurd h (natDec_ne_nil n)
  | cons a t => exact ⟨a, t, rfl, natDec_digits n a (by rw [h]; simp)⟩

theorem prefixCI_digit {w : Nat} {ws t : List Nat} (hw : isDigit w = false) (ht : ∀ a ∈ t.head?, isDigit a = true) :
    prefixCI (w :: ws) t = false := by
  cases t with
  | nil => rfl
  | cons a t' =>
    have ha := ht a (by simp)
    simp only [prefixCI, Bool.and_eq_false_imp, beq_iff_eq]
    intro h
    exfalso
    unfold lower at h
    simp [isDigit] at ha hw
    split at h <;> omega

theorem numBody_natDec (neg : Bool) (s : List Nat) (a : Nat) (ha : a ≤ pow2_53) :
    numBody neg s (natDec a) = .ok (.number (if neg then -(a : Int) else (a : Int)) 0, []) := by
  -- the digits `natDec` writes pass each test of `numBody` in turn (`inf`/`nan`, hex, no digits, leading
  -- zero), with no fraction and no exponent; `a ≤ 2^53` is where `mkNum` gives the integer itself
  have hdig := natDec_digits a
  obtain ⟨c, t, hl, hc⟩ := natDec_head_digit a
  have hhead : ∀ x ∈ (natDec a).head?, isDigit x = true := by
    rw [hl]; intro x hx; cases hx; exact hc
  unfold numBody
  rw [prefixCI_digit (by decide) hhead, prefixCI_digit (by decide) hhead]
  have hhex : isHexFloat (natDec a) = false := by
    by_cases h0 : a = 0
    · subst h0; rfl
    · have := natDec_head a h0
      unfold isHexFloat
      split
      · rename_i x h r heq; rw [heq] at this; simp at this
      · rfl
  have hsm : scanMantissa (natDec a) = (natDec a, [], []) := by
    unfold scanMantissa
    rw [dropWhile_all _ _ hdig, takeWhile_all _ _ hdig]
  simp only [Bool.or_self, Bool.false_eq_true, if_false, hhex, hsm]
  have he : (natDec a).isEmpty = false := by rw [hl]; rfl
  simp only [he, Bool.false_and, Bool.false_eq_true, if_false]
  have hex : exponent [] = (0, []) := rfl
  simp only [hex, List.length_nil, Nat.sub_zero, List.append_nil, digitsVal_natDec]
  have hlz : leadingZero (natDec a) (natDec a).length = false := by
    by_cases h0 : a = 0
    · subst h0; rfl
    · have := natDec_head a h0
      unfold leadingZero
      simp [this]
  simp only [hlz, Bool.false_eq_true, if_false]
  have hmk : mkNum neg a ((natDec a).length + 0) (0 - ((0 : Nat) : Int)) = some (if neg then -(a : Int) else (a : Int), 0) := by
    rw [show ((0 : Int) - ((0 : Nat) : Int)) = Int.ofNat 0 from rfl]
    unfold mkNum
    by_cases h0 : a = 0
    · subst h0
      cases neg <;> rfl
    · simp [h0, ha]
  rw [hmk]

theorem digit_notStop {d : Nat} (h : isDigit d = true) : notStop d = true := by
  simp [isDigit] at h
  simp [notStop, isStop, isSpace]
  omega

theorem serNumber_head (n : Int) (k : Nat) : ∃ a t, serNumber n k = a :: t ∧ (a = 45 ∨ isDigit a = true) := by
  unfold serNumber
  simp only
  by_cases hn : n < 0
  · simp only [hn, if_true]
    split
    · exact ⟨45, _, rfl, .inl rfl⟩
    · exact ⟨45, _, by simp only [List.cons_append, List.append_assoc]; rfl, .inl rfl⟩
  · simp only [hn, if_false]
    split
    · obtain ⟨a, t, h, hd⟩ := natDec_head_digit n.natAbs
      exact ⟨a, t, by simp [h], .inr hd⟩
    · obtain ⟨a, t, h, hd⟩ := natDec_head_digit (n.natAbs / 2 ^ k)
      exact ⟨a, _, by rw [h]; simp only [List.nil_append, List.cons_append, List.append_assoc]; rfl, .inr hd⟩

theorem parseScalar_serNumber (n : Int) (rest : List Nat) (hn : n.natAbs ≤ pow2_53) (hr : Term rest) :
    parseScalar (serNumber n 0 ++ rest) = .ok (.number n 0, rest) := by
  have hns : ∀ x ∈ serNumber n 0, notStop x = true := by
    intro x hx
    simp only [serNumber, if_true] at hx
    rcases List.mem_append.1 hx with h | h
    · split at h
      · simp only [List.mem_singleton] at h; subst h; decide
      · simp at h
    · exact digit_notStop (natDec_digits _ x h)
  obtain ⟨h1, h2⟩ := takeWhile_notStop hns hr
  obtain ⟨a, t, ha, hd⟩ := serNumber_head n 0
  rw [ha, List.cons_append, parseScalar_number hd, ← List.cons_append, ← ha]
  unfold parseNumber
  rw [h1, h2]
  have hcore : numCore (serNumber n 0) = .ok (.number n 0, []) := by
    simp only [serNumber, if_true]
    by_cases hneg : n < 0
    · rw [if_pos hneg, List.singleton_append, numCore, if_pos rfl, numBody_natDec true _ _ hn, if_pos rfl]
      congr 3
      omega
    · obtain ⟨c, t, hl, hc⟩ := natDec_head_digit n.natAbs
      have hc45 : c ≠ 45 := by simp [isDigit] at hc; omega
      rw [if_neg hneg, List.nil_append, hl, numCore, if_neg hc45, ← hl, numBody_natDec false _ _ hn,
        if_neg Bool.false_ne_true]
      congr 3
      omega
  rw [hcore]
  rfl

/-- 93 is `]`, which would end the array. -/
theorem ser_head : ∀ (j : Json) (lvl : Nat), ∃ a t, ser j lvl = a :: t ∧ isSpace a = false ∧ a ≠ 93
  | .number n k, _ => by
    obtain ⟨a, t, h, hd⟩ := serNumber_head n k
    refine ⟨a, t, by simp only [ser, h], ?_⟩
    simp only [isDigit, Bool.and_eq_true, decide_eq_true_eq] at hd
    simp only [isSpace, Bool.or_eq_false_iff, Bool.and_eq_false_imp, beq_eq_false_iff_ne, decide_eq_true_eq,
      decide_eq_false_iff_not]
    omega
  | .null, _ | .bool true, _ | .bool false, _ | .numberX _, _ | .string _, _ | .array [], _ | .array (_ :: _), _
  | .object [], _ | .object (_ :: _), _ => by
    simp only [ser, serString]
    exact ⟨_, _, rfl, by decide, by decide⟩

def sep (isLast : Bool) : List Nat := if isLast then [10] else [44, 10]

theorem sep_last {α : Type} (t : List Nat) : sep ([] : List α).isEmpty ++ t = 10 :: t := rfl

theorem sep_more {α : Type} (a : α) (l : List α) (t : List Nat) : sep (a :: l).isEmpty ++ t = 44 :: 10 :: t := rfl

theorem skipWs_indent (k : Nat) (t : List Nat) : skipWs (indent k ++ t) = skipWs t :=
  skipWs_append_of_space (fun x hx => by rw [(List.mem_replicate.1 hx).2]; rfl) t

theorem skipWs_ser (j : Json) (lvl : Nat) (t : List Nat) : skipWs (ser j lvl ++ t) = ser j lvl ++ t := by
  obtain ⟨a, u, h, hv⟩ := ser_head j lvl
  rw [h, List.cons_append]
  exact skipWs_cons_of_not_space hv.1

theorem serElems_cons (v : Json) (vs : List Json) (lvl : Nat) (y : List Nat) :
    serElems (v :: vs) lvl ++ y
      = indent (lvl + 1) ++ (ser v (lvl + 1) ++ (sep vs.isEmpty ++ (serElems vs lvl ++ y))) := by
  simp [serElems, sep]

theorem serMembers_cons (k : List Nat) (v : Json) (ms : Members) (lvl : Nat) (y : List Nat) :
    serMembers ((k, v) :: ms) lvl ++ y
      = indent (lvl + 1) ++ (serString k ++ (58 :: 32 :: (ser v (lvl + 1) ++ (sep ms.isEmpty ++ (serMembers ms lvl ++ y))))) := by
  simp [serMembers, sep]

theorem skipWs_serElems (v : Json) (vs : List Json) (lvl : Nat) (y : List Nat) :
    skipWs (serElems (v :: vs) lvl ++ y) = ser v (lvl + 1) ++ (sep vs.isEmpty ++ (serElems vs lvl ++ y)) := by
  rw [serElems_cons, skipWs_indent, skipWs_ser]

theorem skipWs_serMembers (k : List Nat) (v : Json) (ms : Members) (lvl : Nat) (y : List Nat) :
    skipWs (serMembers ((k, v) :: ms) lvl ++ y)
      = serString k ++ (58 :: 32 :: (ser v (lvl + 1) ++ (sep ms.isEmpty ++ (serMembers ms lvl ++ y)))) := by
  rw [serMembers_cons, skipWs_indent]
  exact skipWs_cons_of_not_space (by decide)

theorem term_sep (b : Bool) (t : List Nat) : Term (sep b ++ t) := by
  intro a ha
  cases b <;> simp [sep] at ha <;> subst ha <;> decide

theorem parseValue_skip_space {f n c : Nat} (hc : isSpace c = true) (s : List Nat) :
    parseValue f n (c :: s) = parseValue f n s := by
  cases f with
  | zero => rfl
  | succ f => rw [parseValue.eq_2, parseValue.eq_2, skipWs_cons_of_space hc]

theorem keyOk_no_zero {k : List Nat} (h : keyOk k = true) : k.contains 0 = false := by
  simp only [keyOk, List.all_eq_true, Bool.and_eq_true, decide_eq_true_eq] at h
  cases hc : k.contains 0 with
  | false => rfl
  | true =>
    have : (0 : Nat) ∈ k := by simpa using hc
    have := (h 0 this).1
    omega

theorem wr_le : ∀ {j : Json} {n : Nat}, wr n j = true → n ≤ maxNesting := by
  intro j n h
  cases j <;> simp [wr] at h <;> omega

/-- A text on which the scalar parser succeeds starts with neither white space nor an opening
    bracket, so `parse_value` goes straight to it. -/
theorem parseValue_of_scalar {f n : Nat} {s : List Nat} {x : Json × List Nat} (hf : 0 < f) (hn : n ≤ maxNesting)
    (h : parseScalar s = .ok x) : parseValue f n s = .ok x := by
  obtain ⟨f, rfl⟩ := Nat.exists_eq_add_one_of_ne_zero (Nat.ne_of_gt hf)
  cases s with
  | nil => cases h
  | cons a t =>
    by_cases ha : a = 34 ∨ (a = 116 ∨ a = 102) ∨ (a = 45 ∨ isDigit a = true) ∨ a = 110
    · have : isSpace a = false ∧ a ≠ 123 ∧ a ≠ 91 := by
        simp only [isDigit, Bool.and_eq_true, decide_eq_true_eq] at ha
        simp only [isSpace, Bool.or_eq_false_iff, Bool.and_eq_false_imp, beq_eq_false_iff_ne, decide_eq_true_eq,
          decide_eq_false_iff_not]
        omega
      rw [parseValue.eq_2, if_neg (by omega), skipWs_cons_of_not_space this.1]
      dsimp only
      rw [if_neg this.2.1, if_neg this.2.2, h]
    · rw [parseScalar, if_neg (ha ∘ .inl), if_neg (ha ∘ .inr ∘ .inl), if_neg (ha ∘ .inr ∘ .inr ∘ .inl),
        if_neg (ha ∘ .inr ∘ .inr ∘ .inr)] at h
      cases h

def keysOf (ms : Members) : List (List Nat) := ms.map (·.1)

theorem fuel_pos {f m : Nat} (h : 2 * m + 1 ≤ f) : ∃ f', f = f' + 1 := ⟨f - 1, by omega⟩

-- Each theorem of the block matches on the value alone: with the hypotheses among the patterns, compiling
-- the match costs as much as all the proofs together.
mutual
/-- `g`: the end or a stop character after a number, anything after the others. -/
theorem parseValue_ser : ∀ (j : Json) (n lvl : Nat) (g : List Nat) (f : Nat), wr n j = true →
    (closed j = true ∨ Term g) → 2 * (ser j lvl ++ g).length + 1 ≤ f → parseValue f n (ser j lvl ++ g) = .ok (j, g)
  | .null => fun _ _ g _ hw _ hf => parseValue_of_scalar (Nat.zero_lt_of_lt hf) (wr_le hw) (parseScalar_null g)
  | .bool true => fun _ _ g _ hw _ hf => parseValue_of_scalar (Nat.zero_lt_of_lt hf) (wr_le hw) (parseScalar_true g)
  | .bool false => fun _ _ g _ hw _ hf => parseValue_of_scalar (Nat.zero_lt_of_lt hf) (wr_le hw) (parseScalar_false g)
  | .number v k => fun _ _ g _ hw ht hf => by
    simp only [wr, Bool.and_eq_true, decide_eq_true_eq, beq_iff_eq] at hw
    obtain ⟨⟨hn, rfl⟩, hv⟩ := hw
    exact parseValue_of_scalar (Nat.zero_lt_of_lt hf) hn (parseScalar_serNumber v g hv (ht.resolve_left Bool.false_ne_true))
  | .numberX _ => fun _ _ _ _ hw _ _ => by simp [wr] at hw
  | .string s => fun _ _ g _ hw _ hf => parseValue_of_scalar (Nat.zero_lt_of_lt hf) (wr_le hw) (parseScalar_serString s g)
  | .array [] => fun n _ g f hw _ hf => by
    obtain ⟨f, rfl⟩ := fuel_pos hf
    exact (parseValue_arr (Nat.not_lt.2 (wr_le hw)) (skipWs_cons_of_not_space (by decide))
      (skipWs_cons_of_not_space (by decide))).trans (if_pos rfl)
  | .array (v :: vs) => fun n lvl g f hw _ hf => by
    obtain ⟨f, rfl⟩ := fuel_pos hf
    have e : ser (.array (v :: vs)) lvl ++ g = 91 :: 10 :: (serElems (v :: vs) lvl ++ (indent lvl ++ 93 :: g)) := by
      simp [ser]
    rw [e] at hf ⊢
    simp only [wr, Bool.and_eq_true, decide_eq_true_eq] at hw
    have hE := rtE (v :: vs) (n + 1) lvl g f hw.2 (List.cons_ne_nil _ _) (by
      have := skipWs_length_le (serElems (v :: vs) lvl ++ (indent lvl ++ 93 :: g))
      simp only [List.length_cons] at hf
      omega)
    obtain ⟨a, t, ha, hs⟩ := ser_head v (lvl + 1)
    have hsk := skipWs_serElems v vs lvl (indent lvl ++ 93 :: g)
    rw [ha, List.cons_append] at hsk
    rw [hsk] at hE
    rw [parseValue_arr (by omega) (skipWs_cons_of_not_space (by decide)) ((skipWs_cons_of_space rfl _).trans hsk),
      if_neg hs.2, hE]
    rfl
  | .object [] => fun n _ g f hw _ hf => by
    obtain ⟨f, rfl⟩ := fuel_pos hf
    exact (parseValue_obj (Nat.not_lt.2 (wr_le hw)) (skipWs_cons_of_not_space (by decide))
      (skipWs_cons_of_not_space (by decide))).trans (if_pos rfl)
  | .object ((k, v) :: ms) => fun n lvl g f hw _ hf => by
    obtain ⟨f, rfl⟩ := fuel_pos hf
    have e : ser (.object ((k, v) :: ms)) lvl ++ g
        = 123 :: 10 :: (serMembers ((k, v) :: ms) lvl ++ (indent lvl ++ 125 :: g)) := by simp [ser]
    rw [e] at hf ⊢
    simp only [wr, Bool.and_eq_true, decide_eq_true_eq] at hw
    have hM := rtM ((k, v) :: ms) (n + 1) lvl g f [] hw.2 (List.cons_ne_nil _ _) hw.1.2 (fun _ h => nomatch h) (by
      have := skipWs_length_le (serMembers ((k, v) :: ms) lvl ++ (indent lvl ++ 125 :: g))
      simp only [List.length_cons] at hf
      omega)
    have hsk := skipWs_serMembers k v ms lvl (indent lvl ++ 125 :: g)
    rw [serString, List.cons_append] at hsk
    rw [hsk] at hM
    rw [parseValue_obj (by omega) (skipWs_cons_of_not_space (by decide)) ((skipWs_cons_of_space rfl _).trans hsk),
      if_neg (by decide), hM]
    rfl
/-- `parseValue_ser` for the elements loop: the serialized elements of a non-empty array, up to and with
    its `]`, parse to those elements. -/
theorem rtE : ∀ (vs : List Json) (n lvl : Nat) (rest : List Nat) (f : Nat), wrElems n vs = true → vs ≠ [] →
    2 * (skipWs (serElems vs lvl ++ (indent lvl ++ 93 :: rest))).length + 2 ≤ f →
    parseElems f n (skipWs (serElems vs lvl ++ (indent lvl ++ 93 :: rest))) = .ok (vs, rest)
  | [] => fun _ _ _ _ _ hne _ => absurd rfl hne
  | v :: vs => fun n lvl rest f hw _ hf => by
    obtain ⟨f, rfl⟩ := fuel_pos (Nat.le_of_succ_le hf)
    simp only [wrElems, Bool.and_eq_true] at hw
    rw [skipWs_serElems] at hf ⊢
    have hV := parseValue_ser v n (lvl + 1) (sep vs.isEmpty ++ (serElems vs lvl ++ (indent lvl ++ 93 :: rest))) f hw.1
      (.inr (term_sep _ _)) (by omega)
    cases vs with
    | nil =>
      rw [sep_last] at hV ⊢
      exact (parseElems_round hV
        ((skipWs_cons_of_space rfl _).trans ((skipWs_indent _ _).trans (skipWs_cons_of_not_space (by decide))))).trans rfl
    | cons v2 vs' =>
      rw [sep_more] at hV hf ⊢
      have hE := rtE (v2 :: vs') n lvl rest f hw.2 (List.cons_ne_nil _ _) (by
        have := skipWs_length_le (serElems (v2 :: vs') lvl ++ (indent lvl ++ 93 :: rest))
        simp only [List.length_cons, List.length_append] at hf this
        omega)
      rw [parseElems_round hV (skipWs_cons_of_not_space (by decide)), if_pos rfl, skipWs_cons_of_space rfl, hE]
      rfl
/-- … and for the members loop of a non-empty object, entered with the names `seen` already read. -/
theorem rtM : ∀ (ms : Members) (n lvl : Nat) (rest : List Nat) (f : Nat) (seen : List (List Nat)),
    wrMembers n ms = true → ms ≠ [] → keysNodup ms = true → (∀ k ∈ seen, k ∉ keysOf ms) →
    2 * (skipWs (serMembers ms lvl ++ (indent lvl ++ 125 :: rest))).length + 2 ≤ f →
    parseMembers f n (skipWs (serMembers ms lvl ++ (indent lvl ++ 125 :: rest))) seen = .ok (ms, rest)
  | [] => fun _ _ _ _ _ _ hne _ _ _ => absurd rfl hne
  | (k, v) :: ms => fun n lvl rest f seen hw _ hnd hseen hf => by
    obtain ⟨f, rfl⟩ := fuel_pos (Nat.le_of_succ_le hf)
    simp only [wrMembers, Bool.and_eq_true] at hw
    simp only [keysNodup, Bool.and_eq_true, Bool.not_eq_true'] at hnd
    rw [skipWs_serMembers] at hf ⊢
    have hV := parseValue_ser v n (lvl + 1) (sep ms.isEmpty ++ (serMembers ms lvl ++ (indent lvl ++ 125 :: rest))) f hw.1.2
      (.inr (term_sep _ _)) (by simp only [List.length_cons, List.length_append] at hf ⊢; omega)
    have round := fun {d : Nat} {r4 : List Nat} => parseMembers_round (f := f) (n := n) (seen := seen) (d := d) (r4 := r4)
      (quotedString_serString k _) (by rw [keyOk_no_zero hw.1.1]; decide) (skipWs_cons_of_not_space (by decide))
      ((parseValue_skip_space (c := 32) rfl _).trans hV) (fun hc => hseen k (by simpa using hc) (List.mem_cons_self ..))
    cases ms with
    | nil =>
      rw [sep_last] at round ⊢
      exact (round ((skipWs_cons_of_space rfl _).trans
        ((skipWs_indent _ _).trans (skipWs_cons_of_not_space (by decide))))).trans rfl
    | cons m2 ms' =>
      rw [sep_more] at round hf ⊢
      have hM := rtM (m2 :: ms') n lvl rest f (k :: seen) hw.2 (List.cons_ne_nil _ _) hnd.2
        (by
          intro k' hk' hin
          rcases List.mem_cons.1 hk' with rfl | hk'
          · exact Bool.false_ne_true (hnd.1.symm.trans (List.contains_iff_mem.2 hin))
          · exact hseen k' hk' (List.mem_cons_of_mem _ hin))
        (by
          have := skipWs_length_le (serMembers (m2 :: ms') lvl ++ (indent lvl ++ 125 :: rest))
          simp only [List.length_cons, List.length_append] at hf this
          omega)
      rw [round (skipWs_cons_of_not_space (by decide)), if_pos rfl, skipWs_cons_of_space rfl, hM]
      rfl
end

theorem parseValue_serializePretty (j : Json) (hw : Writable j) :
    parseValue (2 * (serializePretty j).length + 1) 0 (serializePretty j) = .ok (j, []) := by
  have h := parseValue_ser j 0 0 [] (2 * (serializePretty j).length + 1) hw (.inr nofun) (by simp [serializePretty])
  rwa [List.append_nil] at h

end Ovni.Json
