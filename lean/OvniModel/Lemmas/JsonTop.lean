import OvniModel.Lemmas.JsonBasic

/-! Facts about the top-level `parse`: writable values are exact, the value
    parsed at `{`, `[`, `"` is closed, and these are the first characters of what
    `ser` writes for an object, an array or a string. -/
namespace Ovni.Json

mutual
theorem wr_exact : ∀ (j : Json) (n : Nat), wr n j = true → j.exact = true
  | .null, _, _ => rfl
  | .bool _, _, _ => rfl
  | .number _ _, _, _ => rfl
  | .numberX _, _, h => by simp [wr] at h
  | .string _, _, _ => rfl
  | .array vs, n, h => by
    simp only [wr, Bool.and_eq_true] at h
    simp only [Json.exact]; exact wrElems_exact vs _ h.2
  | .object ms, n, h => by
    simp only [wr, Bool.and_eq_true] at h
    simp only [Json.exact]; exact wrMembers_exact ms _ h.2
theorem wrElems_exact : ∀ (vs : List Json) (n : Nat), wrElems n vs = true → Json.exactList vs = true
  | [], _, _ => rfl
  | v :: vs, n, h => by
    simp only [wrElems, Bool.and_eq_true] at h
    simp only [Json.exactList, Bool.and_eq_true]
    exact ⟨wr_exact v n h.1, wrElems_exact vs n h.2⟩
theorem wrMembers_exact : ∀ (ms : Members) (n : Nat), wrMembers n ms = true → Json.exactMembers ms = true
  | [], _, _ => rfl
  | (k, v) :: ms, n, h => by
    simp only [wrMembers, Bool.and_eq_true] at h
    simp only [Json.exactMembers, Bool.and_eq_true]
    exact ⟨wr_exact v n h.1.2, wrMembers_exact ms n h.2⟩
end

/-- objects, arrays and strings: the values that end with a closing delimiter -/
def delimited : Json → Bool
  | .object _ => true
  | .array _ => true
  | .string _ => true
  | _ => false

theorem closed_of_delimited {j : Json} (h : delimited j = true) : closed j = true := by
  cases j <;> first | rfl | cases h

theorem closed_of_head {f n a : Nat} (ha : a = 123 ∨ a = 91 ∨ a = 34) (t : List Nat) :
    (parseValue f n (a :: t)).All fun x => closed x.1 = true := by
  cases f with
  | zero => trivial
  | succ f =>
    rw [parseValue.eq_2, skipWs_cons_of_not_space (by rcases ha with rfl | rfl | rfl <;> rfl)]
    refine .ite trivial ?_
    rcases ha with rfl | rfl | rfl <;> dsimp only
    · rw [if_pos rfl]
      split
      · trivial
      · exact .ite rfl (.bind fun _ _ => rfl)
    · rw [if_neg (by decide), if_pos rfl]
      split
      · trivial
      · exact .ite rfl (.bind fun _ _ => rfl)
    · rw [if_neg (by decide), if_neg (by decide), parseScalar, if_pos rfl]
      split
      · rfl
      · trivial

theorem ser_head_delimited {j : Json} (hd : delimited j = true) (lvl : Nat) :
    ∃ a t, ser j lvl = a :: t ∧ (a = 123 ∨ a = 91 ∨ a = 34) := by
  cases j with
  | object ms => cases ms <;> simp only [ser] <;> exact ⟨_, _, rfl, Or.inl rfl⟩
  | array vs => cases vs <;> simp only [ser] <;> exact ⟨_, _, rfl, Or.inr (Or.inl rfl)⟩
  | string s => simp only [ser, serString]; exact ⟨_, _, rfl, Or.inr (Or.inr rfl)⟩
  | null | bool _ | number _ _ | numberX _ => cases hd

end Ovni.Json
