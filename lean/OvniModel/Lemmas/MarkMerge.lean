import OvniModel.Lemmas.MarkLabels
import OvniModel.Lemmas.ExceptLemmas

/-! C17: the merge of mark definitions (`parse_mark` over all definitions of all threads) against
    an order-free specification (`WellFormed`, `Agree`, `Consistent`).  `Rep tab defs`: the table
    represents the *set* of definitions — one row per type that occurs, common title / channel
    type, label set = the union.  `Rep` is preserved by every successful `parseMark`, implies
    `Consistent` and, with `Consistent` of the extended list, that the next `parseMark` succeeds. -/
namespace Ovni.Emu.MarkL
open Ovni.Emu

def WellFormed (d : MarkIn) : Prop :=
  0 ≤ d.type ∧ d.type < 100 ∧ d.title.isSome = true ∧
  (d.chanType = some "single" ∨ d.chanType = some "stack") ∧ LabelsAgree d.labels d.labels

def Agree (d d' : MarkIn) : Prop :=
  d.type = d'.type → d.title = d'.title ∧ d.chanType = d'.chanType ∧ LabelsAgree d.labels d'.labels

def Consistent (defs : List MarkIn) : Prop :=
  (∀ d ∈ defs, WellFormed d) ∧ (∀ d ∈ defs, ∀ d' ∈ defs, Agree d d')

instance (d : MarkIn) : Decidable (WellFormed d) := by unfold WellFormed; infer_instance
instance (d d' : MarkIn) : Decidable (Agree d d') := by unfold Agree; infer_instance
instance (defs : List MarkIn) : Decidable (Consistent defs) := by unfold Consistent; infer_instance

theorem Agree.symm {d d' : MarkIn} (h : Agree d d') : Agree d' d := by
  intro ht
  obtain ⟨h1, h2, h3⟩ := h ht.symm
  exact ⟨h1.symm, h2.symm, h3.symm⟩

theorem Consistent.of_subset {l₁ l₂ : List MarkIn} (hs : ∀ d, d ∈ l₁ → d ∈ l₂)
    (h : Consistent l₂) : Consistent l₁ :=
  ⟨fun d hd => h.1 d (hs d hd), fun d hd d' hd' => h.2 d (hs d hd) d' (hs d' hd')⟩

/-- the string stored under "chan_type" for a stack / single channel -/
def ctName (b : Bool) : String := if b then "stack" else "single"

theorem decide_ctName (b : Bool) : decide (ctName b = "stack") = b := by
  cases b <;> decide

theorem ctName_valid_some (b : Bool) : some (ctName b) = some "single" ∨ some (ctName b) = some "stack" := by
  cases b
  · exact Or.inl rfl
  · exact Or.inr rfl

theorem ctName_inj {a b : Bool} : ctName a = ctName b ↔ a = b :=
  ⟨fun h => by rw [← decide_ctName a, h, decide_ctName], congrArg _⟩

/-- neither name is refused as "not understood" -/
theorem ctName_guard (b : Bool) :
    (decide (ctName b ≠ "single") && decide (ctName b ≠ "stack")) = false := by
  cases b <;> rfl

/-- row update of `parse_mark` for an existing type -/
def upd (ty : Int) (ls : List (Int × String)) (x : MarkType) : MarkType :=
  { x with labels := if x.type = ty then ls else x.labels }

theorem upd_fun (ty : Int) (ls : List (Int × String)) :
    (fun x : MarkType => if x.type == ty then { x with labels := ls } else x) = upd ty ls := by
  funext x
  unfold upd
  by_cases h : x.type = ty <;> simp [h]

theorem upd_labels_eq {ty : Int} (ls : List (Int × String)) {x : MarkType} (h : x.type = ty) :
    (upd ty ls x).labels = ls :=
  if_pos h

theorem upd_ne {ty : Int} (ls : List (Int × String)) {x : MarkType} (h : x.type ≠ ty) :
    upd ty ls x = x := by
  unfold upd; rw [if_neg h]

/-- `parse_mark` succeeds exactly when the definition decodes (type in range, a title, a channel
    type that is `ctName stack`) and its labels merge into the row of its type: the row found,
    which then has the same title and channel type, or the empty one `create_mark_type` appends. -/
theorem parseMark_ok_iff {tab tab' : List MarkType} {d : MarkIn} :
    parseMark tab d = .ok tab' ↔ 0 ≤ d.type ∧ d.type < 100 ∧
      ∃ title stack ls, d.title = some title ∧ d.chanType = some (ctName stack) ∧
        ((tab.find? (·.type == d.type) = none ∧ addLabels [] d.labels = .ok ls ∧
            tab' = tab ++ [⟨d.type, title, stack, ls⟩]) ∨
         (∃ t, tab.find? (·.type == d.type) = some t ∧ t.title = title ∧ t.stack = stack ∧
            addLabels t.labels d.labels = .ok ls ∧ tab' = tab.map (upd d.type ls))) := by
  unfold parseMark
  rcases d with ⟨ty, _ | title, _ | ct, labels⟩
  iterate 3 simp only [ite_self, reduceCtorEq, false_and, and_false, exists_false]
  simp only [upd_fun]
  by_cases hb : ∃ b, ct = ctName b
  · obtain ⟨b, rfl⟩ := hb
    -- decoded: what is left is the range test and the merge into the row
    simp only [ctName_guard, decide_ctName, gate_eq_ok, Bool.false_eq_true, if_false, Option.some.injEq,
      ctName_inj, exists_and_left, exists_eq_left', ← and_assoc (a := 0 ≤ ty)]
    refine and_congr (by simp only [Bool.or_eq_true, decide_eq_true_eq]; omega) ?_
    cases tab.find? (·.type == ty) with
    | none => cases hl : addLabels [] labels <;> simp [@eq_comm _ tab']
    | some t => cases hl : addLabels t.labels labels <;> simp [hl, ite_eq_iff, @eq_comm _ tab']
  · simp only [gate_eq_ok, Bool.and_eq_true, decide_eq_true_eq]
    exact ⟨fun h => absurd ⟨fun e => hb ⟨false, e⟩, fun e => hb ⟨true, e⟩⟩ h.2.1,
      fun ⟨_, _, _, b, _, _, e, _⟩ => absurd ⟨b, Option.some.inj e⟩ hb⟩

theorem parseMark_conflict {tab : List MarkType} {d : MarkIn} {t : MarkType}
    (hf : tab.find? (·.type == d.type) = some t)
    (h : (∃ title, d.title = some title ∧ t.title ≠ title) ∨
      (∃ ct, d.chanType = some ct ∧ t.stack ≠ decide (ct = "stack"))) :
    ∃ e, parseMark tab d = .error e := by
  refine (error_iff_not_ok _).mpr fun ⟨_, hr⟩ => ?_
  obtain ⟨_, _, title, stack, _, ht, hc, ⟨hf', _⟩ | ⟨t', hf', htt, hst, _⟩⟩ := parseMark_ok_iff.mp hr
  · rw [hf] at hf'; cases hf'
  · rw [hf] at hf'
    cases hf'
    rcases h with ⟨title', ht', hne⟩ | ⟨ct, hc', hne⟩
    · rw [ht] at ht'; cases ht'; exact hne htt
    · rw [hc] at hc'; cases hc'; exact hne (hst.trans (decide_ctName stack).symm)

structure Rep (tab : List MarkType) (defs : List MarkIn) : Prop where
  types_nodup : (tab.map (·.type)).Nodup
  keys : ∀ t ∈ tab, KeysNodup t.labels
  /-- the converse of `covers`: without it a table with extra rows would represent `defs` too, and
      two representing tables need not be equivalent (`rep_equiv`) -/
  used : ∀ t ∈ tab, ∃ d ∈ defs, d.type = t.type
  covers : ∀ d ∈ defs, 0 ≤ d.type ∧ d.type < 100 ∧
    ∃ t ∈ tab, t.type = d.type ∧ d.title = some t.title ∧ d.chanType = some (ctName t.stack)
  labels : ∀ t ∈ tab, ∀ p, p ∈ t.labels ↔ ∃ d ∈ defs, d.type = t.type ∧ p ∈ d.labels

theorem rep_nil : Rep [] [] where
  types_nodup := List.nodup_nil
  keys := fun _ h => by cases h
  used := fun _ h => by cases h
  covers := fun _ h => by cases h
  labels := fun _ h => by cases h

theorem Rep.row_unique {tab : List MarkType} {defs : List MarkIn} (hR : Rep tab defs)
    {t t' : MarkType} (ht : t ∈ tab) (ht' : t' ∈ tab) (h : t.type = t'.type) : t = t' :=
  eq_of_nodup_map (f := fun x : MarkType => x.type) hR.types_nodup ht ht' h

theorem Rep.mem_types {tab : List MarkType} {ds : List MarkIn} (hR : Rep tab ds) (ty : Int) :
    ty ∈ tab.map (·.type) ↔ ∃ d ∈ ds, d.type = ty := by
  constructor
  · intro hm
    obtain ⟨t, ht, rfl⟩ := List.mem_map.mp hm
    exact hR.used t ht
  · rintro ⟨d, hd, rfl⟩
    obtain ⟨_, _, t, ht, e, _⟩ := hR.covers d hd
    exact List.mem_map.mpr ⟨t, ht, e⟩

theorem Rep.row_of {tab : List MarkType} {ds : List MarkIn} (hR : Rep tab ds) {t : MarkType}
    (ht : t ∈ tab) {d : MarkIn} (hd : d ∈ ds) (hty : d.type = t.type) :
    d.title = some t.title ∧ d.chanType = some (ctName t.stack) := by
  obtain ⟨_, _, t', ht', e1, e2, e3⟩ := hR.covers d hd
  obtain rfl : t' = t := hR.row_unique ht' ht (e1.trans hty)
  exact ⟨e2, e3⟩

theorem labelled_snoc (ds : List MarkIn) (d : MarkIn) (ty : Int) (p : Int × String) :
    (∃ y ∈ ds ++ [d], y.type = ty ∧ p ∈ y.labels) ↔
      (∃ y ∈ ds, y.type = ty ∧ p ∈ y.labels) ∨ (d.type = ty ∧ p ∈ d.labels) := by
  simp only [mem_snoc, or_and_right, exists_or, exists_eq_left]

theorem rep_step_new {tab : List MarkType} {ds : List MarkIn} {d : MarkIn} {title : String}
    {stack : Bool} {ls : List (Int × String)} (hR : Rep tab ds) (h0 : 0 ≤ d.type) (h1 : d.type < 100)
    (ht : d.title = some title) (hc : d.chanType = some (ctName stack))
    (hf : tab.find? (·.type == d.type) = none) (hl : addLabels [] d.labels = .ok ls) :
    Rep (tab ++ [⟨d.type, title, stack, ls⟩]) (ds ++ [d]) := by
  have hfresh := find?_key_none MarkType.type hf
  obtain ⟨hkl, hml⟩ := (addLabels_spec keysNodup_nil).1 hl
  refine ⟨nodup_map_snoc hR.types_nodup hfresh, ?_, ?_, ?_, ?_⟩
  · intro t htm
    rcases mem_snoc.mp htm with h | rfl
    · exact hR.keys t h
    · exact hkl
  · intro t htm
    rcases mem_snoc.mp htm with h | rfl
    · obtain ⟨d0, hd0, he⟩ := hR.used t h
      exact ⟨d0, mem_snoc.mpr (Or.inl hd0), he⟩
    · exact ⟨d, mem_snoc.mpr (Or.inr rfl), rfl⟩
  · intro x hx
    rcases mem_snoc.mp hx with h | rfl
    · obtain ⟨a, b, t, htm, e⟩ := hR.covers x h
      exact ⟨a, b, t, mem_snoc.mpr (Or.inl htm), e⟩
    · exact ⟨h0, h1, _, mem_snoc.mpr (Or.inr rfl), rfl, ht, hc⟩
  · intro t htm p
    rw [labelled_snoc]
    rcases mem_snoc.mp htm with h | rfl
    · rw [hR.labels t h p]
      exact ⟨Or.inl, fun hp => hp.resolve_right fun e => hfresh t h e.1.symm⟩
    · have hnew : ¬ ∃ y ∈ ds, y.type = d.type := fun h =>
        have ⟨t, ht, e⟩ := List.mem_map.mp ((hR.mem_types _).mpr h)
        hfresh t ht e
      rw [hml p]
      exact ⟨fun hp => hp.elim nofun fun hp => Or.inr ⟨rfl, hp⟩,
        fun hp => hp.elim (fun ⟨y, hy, e, _⟩ => absurd ⟨y, hy, e⟩ hnew) fun h => Or.inr h.2⟩

theorem rep_step_old {tab : List MarkType} {ds : List MarkIn} {d : MarkIn}
    {ls : List (Int × String)} {t : MarkType} (hR : Rep tab ds) (h0 : 0 ≤ d.type) (h1 : d.type < 100)
    (htm : t ∈ tab) (hty : t.type = d.type) (ht : d.title = some t.title)
    (hc : d.chanType = some (ctName t.stack)) (hl : addLabels t.labels d.labels = .ok ls) :
    Rep (tab.map (upd d.type ls)) (ds ++ [d]) := by
  obtain ⟨hkl, hml⟩ := (addLabels_spec (hR.keys t htm)).1 hl
  refine ⟨?_, ?_, ?_, ?_, ?_⟩
  · rw [List.map_map]; exact hR.types_nodup
  · intro t' ht'
    obtain ⟨x, hx, rfl⟩ := List.mem_map.mp ht'
    by_cases hxt : x.type = d.type
    · rw [upd_labels_eq ls hxt]; exact hkl
    · rw [upd_ne ls hxt]; exact hR.keys x hx
  · intro t' ht'
    obtain ⟨x, hx, rfl⟩ := List.mem_map.mp ht'
    obtain ⟨d1, hd1, he⟩ := hR.used x hx
    exact ⟨d1, mem_snoc.mpr (Or.inl hd1), he⟩
  · intro x hx
    rcases mem_snoc.mp hx with h | rfl
    · obtain ⟨a, b, t0, htm0, e⟩ := hR.covers x h
      exact ⟨a, b, upd d.type ls t0, List.mem_map_of_mem htm0, e⟩
    · exact ⟨h0, h1, upd x.type ls t, List.mem_map_of_mem htm, hty, ht, hc⟩
  · intro t' ht' p
    obtain ⟨x, hx, rfl⟩ := List.mem_map.mp ht'
    show p ∈ (upd d.type ls x).labels ↔ ∃ y ∈ ds ++ [d], y.type = x.type ∧ p ∈ y.labels
    rw [labelled_snoc, ← hR.labels x hx p]
    by_cases hxt : x.type = d.type
    · obtain rfl : x = t := hR.row_unique hx htm (hxt.trans hty.symm)
      rw [upd_labels_eq ls hxt, hml p, and_iff_right hxt.symm]
    · rw [upd_ne ls hxt]
      exact ⟨Or.inl, fun hp => hp.resolve_right fun e => hxt e.1.symm⟩

theorem rep_step {tab tab' : List MarkType} {ds : List MarkIn} {d : MarkIn} (hR : Rep tab ds)
    (h : parseMark tab d = .ok tab') : Rep tab' (ds ++ [d]) := by
  obtain ⟨h0, h1, title, stack, ls, ht, hc, ⟨hf, hl, rfl⟩ | ⟨t, hf, rfl, rfl, hl, rfl⟩⟩ :=
    parseMark_ok_iff.mp h
  · exact rep_step_new hR h0 h1 ht hc hf hl
  · obtain ⟨htm, hty⟩ := find?_key_some MarkType.type hf
    exact rep_step_old hR h0 h1 htm hty ht hc hl

/-- both label sets lie in the row's -/
theorem Rep.labelsAgree {tab : List MarkType} {ds : List MarkIn} (hR : Rep tab ds) {t : MarkType}
    (htm : t ∈ tab) {d d' : MarkIn} (hd : d ∈ ds) (hd' : d' ∈ ds) (e : d.type = t.type)
    (e' : d'.type = t.type) : LabelsAgree d.labels d'.labels :=
  fun p hp q hq => (hR.keys t htm).agree_self p ((hR.labels t htm p).mpr ⟨d, hd, e, hp⟩)
    q ((hR.labels t htm q).mpr ⟨d', hd', e', hq⟩)

theorem rep_consistent {tab : List MarkType} {ds : List MarkIn} (hR : Rep tab ds) : Consistent ds := by
  constructor
  · intro d hd
    obtain ⟨h0, h1, t, htm, e1, e2, e3⟩ := hR.covers d hd
    refine ⟨h0, h1, by rw [e2]; rfl, ?_, hR.labelsAgree htm hd hd e1.symm e1.symm⟩
    rw [e3]
    exact ctName_valid_some t.stack
  · intro d hd d' hd' hty
    obtain ⟨_, _, t, htm, e1, e2, e3⟩ := hR.covers d hd
    obtain ⟨e2', e3'⟩ := hR.row_of htm hd' (hty.symm.trans e1.symm)
    exact ⟨e2.trans e2'.symm, e3.trans e3'.symm, hR.labelsAgree htm hd hd' e1.symm (hty.symm.trans e1.symm)⟩

theorem parseMark_complete {tab : List MarkType} {ds : List MarkIn} {d : MarkIn} (hR : Rep tab ds)
    (hC : Consistent (ds ++ [d])) : ∃ tab', parseMark tab d = .ok tab' := by
  have hdm : d ∈ ds ++ [d] := mem_snoc.mpr (Or.inr rfl)
  obtain ⟨h0, h1, hti, hct, hself⟩ := hC.1 d hdm
  obtain ⟨title, ht⟩ := Option.isSome_iff_exists.mp hti
  obtain ⟨stack, hc⟩ : ∃ b, d.chanType = some (ctName b) := hct.elim (⟨false, ·⟩) (⟨true, ·⟩)
  cases hf : tab.find? (·.type == d.type) with
  | none =>
    obtain ⟨ls, hl⟩ := (addLabels_spec keysNodup_nil).2 (fun _ hp => nomatch hp) hself
    exact ⟨_, parseMark_ok_iff.mpr ⟨h0, h1, title, stack, ls, ht, hc, .inl ⟨hf, hl, rfl⟩⟩⟩
  | some t =>
    obtain ⟨htm, hty⟩ := find?_key_some MarkType.type hf
    -- the row speaks for an earlier definition, with which `d` agrees
    obtain ⟨d0, hd0, hd0t⟩ := hR.used t htm
    obtain ⟨e2, e3⟩ := hR.row_of htm hd0 hd0t
    obtain ⟨a1, a2, _⟩ := hC.2 d0 (List.mem_append_left _ hd0) d hdm (hd0t.trans hty)
    have hag : LabelsAgree t.labels d.labels := by
      intro p hp q hq
      obtain ⟨d1, hd1, e4, hp1⟩ := (hR.labels t htm p).mp hp
      exact (hC.2 d1 (List.mem_append_left _ hd1) d hdm (e4.trans hty)).2.2 p hp1 q hq
    obtain ⟨ls, hl⟩ := (addLabels_spec (hR.keys t htm)).2 hag hself
    exact ⟨_, parseMark_ok_iff.mpr ⟨h0, h1, title, stack, ls, ht, hc, .inr ⟨t, hf,
      Option.some.inj (e2.symm.trans (a1.trans ht)),
      ctName_inj.mp (Option.some.inj (e3.symm.trans (a2.trans hc))), hl, rfl⟩⟩⟩

theorem parseMarks_spec : ∀ {r : List MarkIn} {tab : List MarkType} {ds : List MarkIn}, Rep tab ds →
    (∀ {tab'}, parseMarks tab r = .ok tab' → Rep tab' (ds ++ r)) ∧
    (Consistent (ds ++ r) → ∃ tab', parseMarks tab r = .ok tab')
  | [], tab, ds, hR => by
    rw [List.append_nil]
    exact ⟨fun h => Except.ok.inj h ▸ hR, fun _ => ⟨tab, rfl⟩⟩
  | d :: r, tab, ds, hR => by
    unfold parseMarks
    rw [List.append_cons]
    cases h1 : parseMark tab d with
    | error e =>
      refine ⟨nofun, fun hC => ?_⟩
      obtain ⟨_, h⟩ := parseMark_complete hR (hC.of_subset fun _ => List.mem_append_left r)
      rw [h1] at h
      cases h
    | ok tab1 => exact parseMarks_spec (rep_step hR h1)

theorem merge_rep {defs : List MarkIn} {tab : List MarkType} (h : parseMarks [] defs = .ok tab) :
    Rep tab defs :=
  (parseMarks_spec rep_nil).1 h

/-- equal up to the order of rows and of labels inside a row -/
def TabEquiv (tab tab' : List MarkType) : Prop :=
  (tab.map (·.type)).Perm (tab'.map (·.type)) ∧
  ∀ t ∈ tab, ∀ t' ∈ tab', t.type = t'.type →
    t.title = t'.title ∧ t.stack = t'.stack ∧ t.labels.Perm t'.labels

theorem rep_equiv {tab tab' : List MarkType} {ds ds' : List MarkIn} (hm : ∀ d, d ∈ ds' ↔ d ∈ ds)
    (hR : Rep tab ds) (hR' : Rep tab' ds') : TabEquiv tab tab' := by
  constructor
  · rw [List.perm_ext_iff_of_nodup hR.types_nodup hR'.types_nodup]
    intro ty
    rw [hR.mem_types, hR'.mem_types]
    exact exists_congr fun d => and_congr_left fun _ => (hm d).symm
  · intro t htm t' htm' hty
    obtain ⟨d, hd, e⟩ := hR.used t htm
    obtain ⟨e2, e3⟩ := hR.row_of htm hd e
    obtain ⟨f2, f3⟩ := hR'.row_of htm' ((hm d).mpr hd) (e.trans hty)
    refine ⟨Option.some.inj (e2.symm.trans f2), ctName_inj.mp (Option.some.inj (e3.symm.trans f3)), ?_⟩
    rw [List.perm_ext_iff_of_nodup (hR.keys t htm).nodup (hR'.keys t' htm').nodup]
    intro p
    rw [hR.labels t htm p, hR'.labels t' htm' p, hty]
    exact exists_congr fun x => and_congr_left fun _ => (hm x).symm

end Ovni.Emu.MarkL
