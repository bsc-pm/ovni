import OvniModel.Lemmas.MarkMerge

/-! C17: the metadata that the runtime builds with `ovni_mark_type` / `ovni_mark_label`, seen as
    mark definitions by the emulator. -/
namespace Ovni.Emu.MarkL
open Ovni.Emu Ovni.Rt.Mark

/-- what `ovni_mark_type` / `ovni_mark_label` store in `stream.json` for one
    type (`chan_type` is written as "stack" or "single") -/
def defOfType (td : TypeDef) : MarkIn :=
  { type := td.type, title := some td.title, chanType := some (ctName td.stack), labels := td.labels }

/-- the `ovni.mark` object of one thread as the emulator reads it -/
def metaToDefs (m : Meta) : List MarkIn := m.map defOfType

/-- metadata reachable from the empty object by successful calls only -/
inductive Reachable : Meta → Prop
  | init : Reachable []
  | type {m m' : Meta} (ty : Int) (flags : Nat) (title : String) :
      Reachable m → markType m ty flags title = some m' → Reachable m'
  | label {m m' : Meta} (ty v : Int) (l : String) :
      Reachable m → markLabel m ty v l = some m' → Reachable m'

/-- what makes the definitions of a reachable metadata object (`Reachable.inv`) well formed for
    the emulator -/
structure RtInv (m : Meta) : Prop where
  types_nodup : (m.map (·.type)).Nodup
  range : ∀ td ∈ m, 0 ≤ td.type ∧ td.type < 100
  keys : ∀ td ∈ m, KeysNodup td.labels

theorem rtInv_nil : RtInv [] where
  types_nodup := List.nodup_nil
  range := fun _ h => by cases h
  keys := fun _ h => by cases h

theorem markType_some_iff {m m' : Meta} {ty : Int} {flags : Nat} {title : String} :
    markType m ty flags title = some m' ↔ (0 ≤ ty ∧ ty < 100) ∧ title.isEmpty = false ∧
      find m ty = none ∧ m' = m ++ [{ type := ty, title := title, stack := flags % 2 = 1 }] := by
  simp [markType, ite_eq_iff, @eq_comm _ m', Int.not_lt]

/-- row update of `ovni_mark_label` -/
def addRt (ty v : Int) (l : String) (x : TypeDef) : TypeDef :=
  { x with labels := if x.type = ty then x.labels ++ [(v, l)] else x.labels }

theorem addRt_fun (ty v : Int) (l : String) :
    (fun x : TypeDef => if x.type == ty then { x with labels := x.labels ++ [(v, l)] } else x) =
      addRt ty v l := by
  funext x
  unfold addRt
  by_cases h : x.type = ty <;> simp [h]

theorem addRt_eq {ty : Int} (v : Int) (l : String) {x : TypeDef} (h : x.type = ty) :
    (addRt ty v l x).labels = x.labels ++ [(v, l)] :=
  if_pos h

theorem addRt_ne {ty : Int} (v : Int) (l : String) {x : TypeDef} (h : x.type ≠ ty) :
    addRt ty v l x = x := by
  unfold addRt; rw [if_neg h]

theorem markLabel_some_iff {m m' : Meta} {ty v : Int} {l : String} :
    markLabel m ty v l = some m' ↔ (0 ≤ ty ∧ ty < 100) ∧ 0 < v ∧ l.isEmpty = false ∧
      ∃ td, find m ty = some td ∧ td.labels.any (·.1 == v) = false ∧ m' = m.map (addRt ty v l) := by
  unfold markLabel
  simp only [addRt_fun]
  cases find m ty <;>
    simp [ite_eq_iff, @eq_comm _ m', Int.not_lt, Int.not_le, -List.any_eq_true, -List.any_eq_false]

theorem rtInv_markType {m m' : Meta} {ty : Int} {flags : Nat} {title : String} (hI : RtInv m)
    (h : markType m ty flags title = some m') : RtInv m' := by
  obtain ⟨⟨h0, h1⟩, _, hf, rfl⟩ := markType_some_iff.mp h
  have hfresh := find?_key_none TypeDef.type hf
  refine ⟨?_, ?_, ?_⟩
  · exact nodup_map_snoc hI.types_nodup hfresh
  · intro td htd
    rcases mem_snoc.mp htd with h | rfl
    · exact hI.range td h
    · exact ⟨h0, h1⟩
  · intro td htd
    rcases mem_snoc.mp htd with h | rfl
    · exact hI.keys td h
    · exact keysNodup_nil

theorem rtInv_markLabel {m m' : Meta} {ty v : Int} {l : String} (hI : RtInv m)
    (h : markLabel m ty v l = some m') : RtInv m' := by
  obtain ⟨_, _, _, td, hf, hv, rfl⟩ := markLabel_some_iff.mp h
  obtain ⟨htd, hty⟩ := find?_key_some TypeDef.type hf
  refine ⟨?_, ?_, ?_⟩
  · rw [List.map_map]; exact hI.types_nodup
  · intro x hx
    obtain ⟨y, hy, rfl⟩ := List.mem_map.mp hx
    exact hI.range y hy
  · intro x hx
    obtain ⟨y, hy, rfl⟩ := List.mem_map.mp hx
    by_cases hyt : y.type = ty
    · have : y = td :=
        eq_of_nodup_map (f := fun x : TypeDef => x.type) hI.types_nodup hy htd (hyt.trans hty.symm)
      subst this
      rw [addRt_eq v l hyt]
      exact keysNodup_snoc (hI.keys y hy) fun p hp => by simpa using List.any_eq_false.mp hv p hp
    · rw [addRt_ne v l hyt]; exact hI.keys y hy

theorem Reachable.inv {m : Meta} (h : Reachable m) : RtInv m := by
  induction h with
  | init => exact rtInv_nil
  | type ty flags title _ hs ih => exact rtInv_markType ih hs
  | label ty v l _ hs ih => exact rtInv_markLabel ih hs

theorem mem_metaToDefs {m : Meta} {d : MarkIn} : d ∈ metaToDefs m ↔ ∃ td ∈ m, d = defOfType td := by
  simp only [metaToDefs, List.mem_map, eq_comm]

theorem wellFormed_defOfType {td : TypeDef} (h0 : 0 ≤ td.type) (h1 : td.type < 100)
    (hk : KeysNodup td.labels) : WellFormed (defOfType td) := by
  refine ⟨h0, h1, rfl, ?_, hk.agree_self⟩
  exact ctName_valid_some td.stack

def MetaAgree (m₁ m₂ : Meta) : Prop :=
  ∀ a ∈ m₁, ∀ b ∈ m₂, a.type = b.type →
    a.title = b.title ∧ a.stack = b.stack ∧ LabelsAgree a.labels b.labels

instance (m₁ m₂ : Meta) : Decidable (MetaAgree m₁ m₂) := by unfold MetaAgree; infer_instance

theorem agree_defOfType_iff (a b : TypeDef) :
    Agree (defOfType a) (defOfType b) ↔
      (a.type = b.type → a.title = b.title ∧ a.stack = b.stack ∧ LabelsAgree a.labels b.labels) := by
  simp only [Agree, defOfType, Option.some.injEq, ctName_inj]

theorem RtInv.metaAgree_self {m : Meta} (hI : RtInv m) : MetaAgree m m := by
  intro a ha b hb hty
  have : a = b := eq_of_nodup_map (f := fun x : TypeDef => x.type) hI.types_nodup ha hb hty
  subst this
  exact ⟨rfl, rfl, (hI.keys a ha).agree_self⟩

theorem mem_flatten_metas {ms : List Meta} {d : MarkIn} :
    d ∈ (ms.map metaToDefs).flatten ↔ ∃ m ∈ ms, ∃ td ∈ m, d = defOfType td := by
  rw [List.mem_flatten]
  constructor
  · rintro ⟨l, hl, hd⟩
    obtain ⟨m, hm, rfl⟩ := List.mem_map.mp hl
    exact ⟨m, hm, mem_metaToDefs.mp hd⟩
  · rintro ⟨m, hm, h⟩
    exact ⟨metaToDefs m, List.mem_map_of_mem hm, mem_metaToDefs.mpr h⟩

theorem consistent_metas_iff {ms : List Meta} (hI : ∀ m ∈ ms, RtInv m) :
    Consistent (ms.map metaToDefs).flatten ↔ ∀ m₁ ∈ ms, ∀ m₂ ∈ ms, MetaAgree m₁ m₂ := by
  constructor
  · intro hC m₁ h₁ m₂ h₂ a ha b hb
    have := hC.2 (defOfType a) (mem_flatten_metas.mpr ⟨m₁, h₁, a, ha, rfl⟩)
      (defOfType b) (mem_flatten_metas.mpr ⟨m₂, h₂, b, hb, rfl⟩)
    exact (agree_defOfType_iff a b).mp this
  · intro hA
    constructor
    · intro d hd
      obtain ⟨m, hm, td, htd, rfl⟩ := mem_flatten_metas.mp hd
      obtain ⟨h0, h1⟩ := (hI m hm).range td htd
      exact wellFormed_defOfType h0 h1 ((hI m hm).keys td htd)
    · intro d hd d' hd'
      obtain ⟨m, hm, a, ha, rfl⟩ := mem_flatten_metas.mp hd
      obtain ⟨m', hm', b, hb, rfl⟩ := mem_flatten_metas.mp hd'
      exact (agree_defOfType_iff a b).mpr (hA m hm m' hm' a ha b hb)

end Ovni.Emu.MarkL
