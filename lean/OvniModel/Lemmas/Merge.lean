/-! Greedy k-way merge as a relation on lists, independent of streams and heaps.  A bag holds named
    lists; a merge repeatedly removes the head of a list whose key is least among the heads.  Which
    of several least heads is taken is left open.  An exhausted list may stay in the bag. -/
namespace Ovni

variable {τ α : Type}

inductive Merge (key : τ × α → Int) : List (τ × List α) → List (τ × α) → Prop
  | nil {B : List (τ × List α)} : (∀ b ∈ B, b.2 = []) → Merge key B []
  | cons {B L : List (τ × List α)} {r : τ} {x : α} {l : List α} {os : List (τ × α)} :
      B.Perm ((r, x :: l) :: L) → (∀ b ∈ L, ∀ y, b.2.head? = some y → key (r, x) ≤ key (b.1, y)) →
      Merge key ((r, l) :: L) os → Merge key B ((r, x) :: os)

namespace Merge
variable {key : τ × α → Int} {B B' E : List (τ × List α)} {os : List (τ × α)}

def elems (B : List (τ × List α)) : List (τ × α) := B.flatMap fun b => b.2.map (b.1, ·)

theorem of_perm (h : Merge key B os) (hp : B'.Perm B) : Merge key B' os := by
  cases h with
  | nil h0 => exact .nil fun b hb => h0 b (hp.subset hb)
  | cons h1 h2 h3 => exact .cons (hp.trans h1) h2 h3

theorem pad (hE : ∀ b ∈ E, b.2 = []) (h : Merge key B os) : Merge key (E ++ B) os := by
  induction h with
  | nil h0 => exact .nil fun b hb => (List.mem_append.1 hb).elim (hE b) (h0 b)
  | cons h1 h2 _ ih =>
    refine .cons ((h1.append_left E).trans List.perm_middle) (fun b hb y hy => ?_)
      (ih.of_perm List.perm_middle.symm)
    rcases List.mem_append.1 hb with hb | hb
    · rw [hE b hb] at hy; cases hy
    · exact h2 b hb y hy

theorem perm (h : Merge key B os) : os.Perm (elems B) := by
  induction h with
  | @nil B h0 =>
    have : elems B = [] := List.flatMap_eq_nil_iff.2 fun b hb => by rw [h0 b hb]; rfl
    rw [this]
  | @cons B L r x l os h1 _ _ ih =>
    have e : elems ((r, x :: l) :: L) = (r, x) :: elems ((r, l) :: L) := by
      simp only [elems, List.flatMap_cons, List.map_cons, List.cons_append]
    exact (ih.cons _).trans (e ▸ (List.Perm.flatMap_right _ h1).symm)

/-- Sorted lists merge into a sorted list: what follows a taken head `x` comes from the rest of its
    list, or from another list, whose head is no less than `x`. -/
theorem sorted (hB : ∀ b ∈ B, b.2.Pairwise fun a c => key (b.1, a) ≤ key (b.1, c)) (h : Merge key B os) :
    os.Pairwise fun a c => key a ≤ key c := by
  induction h with
  | nil _ => exact .nil
  | @cons B L r x l os h1 h2 h3 ih =>
    have hB' : ∀ b ∈ (r, x :: l) :: L, b.2.Pairwise fun a c => key (b.1, a) ≤ key (b.1, c) :=
      fun b hb => hB b (h1.symm.subset hb)
    obtain ⟨hx, hl⟩ := List.pairwise_cons.1 (hB' _ List.mem_cons_self)
    refine List.pairwise_cons.2 ⟨fun o ho => ?_, ih fun b hb => ?_⟩
    · obtain ⟨b, hb, ho⟩ := List.mem_flatMap.1 (h3.perm.subset ho)
      obtain ⟨a, ha, rfl⟩ := List.mem_map.1 ho
      rcases List.mem_cons.1 hb with rfl | hb
      · exact hx a ha
      · have hs := hB' b (List.mem_cons_of_mem _ hb)
        cases hb2 : b.2 with
        | nil => rw [hb2] at ha; cases ha
        | cons y t =>
          rw [hb2] at ha hs
          have hy := h2 b hb y (by rw [hb2]; rfl)
          rcases List.mem_cons.1 ha with rfl | ha
          · exact hy
          · exact Int.le_trans hy ((List.pairwise_cons.1 hs).1 a ha)
    · rcases List.mem_cons.1 hb with rfl | hb
      · exact hl
      · exact hB' b (List.mem_cons_of_mem _ hb)

/-- With distinct names, the elements taken from a list appear in the order of that list. -/
theorem order [BEq τ] [LawfulBEq τ] (hn : (B.map (·.1)).Nodup) (h : Merge key B os) :
    ∀ b ∈ B, (os.filter (·.1 == b.1)).map (·.2) = b.2 := by
  induction h with
  | nil h0 => intro b hb; rw [h0 b hb]; rfl
  | @cons B L r x l os h1 _ _ ih =>
    have hn' : (((r, x :: l) :: L).map (·.1)).Nodup := (h1.map _).nodup_iff.1 hn
    intro b hb
    rcases List.mem_cons.1 (h1.subset hb) with rfl | hbL
    · simpa using ih hn' (r, l) List.mem_cons_self
    · have hne : r ≠ b.1 := fun e => (List.nodup_cons.1 hn').1 (List.mem_map.2 ⟨b, hbL, e.symm⟩)
      simpa [hne] using ih hn' b (List.mem_cons_of_mem _ hbL)

end Merge
end Ovni
