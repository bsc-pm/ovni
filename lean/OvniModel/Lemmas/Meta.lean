import OvniModel.Emu.MetaJson
import OvniModel.Lemmas.ExceptLemmas

/-! The per-stream gate `checkStream` on the outcomes other than `.ok true` (that one is
    `Props.C12.thread_stream_spec`), and the record `metaOfText` computes on the two outcomes of `parse`. -/
namespace Ovni.Emu.Meta

/-- `.ok false`: the stream is kept without a thread ("unknown stream"). -/
theorem checkStream_unknown_iff (m : Meta) :
    checkStream m = .ok false ↔
      m.parsed = true ∧ m.version = some (Ovni.Generated.metadataVersion : Int) ∧ m.part ≠ none ∧
        m.part ≠ some "thread" := by
  unfold checkStream
  simp only [gate_eq_ok, exit_eq_ok, Except.ok.injEq, Bool.true_eq_false, and_false, or_false, and_true,
    Decidable.not_not, Bool.not_eq_false]

theorem checkStream_rejected (m : Meta) (hp : m.part = none ∨ m.part = some "thread")
    (hn : checkStream m ≠ .ok true) : ∃ e, checkStream m = .error e := by
  match h : checkStream m with
  | .error e => exact ⟨e, rfl⟩
  | .ok true => exact absurd h hn
  | .ok false =>
    obtain ⟨_, _, h3, h4⟩ := (checkStream_unknown_iff m).mp h
    exact (hp.elim h3 h4).elim

/-- A trace of one accepted thread stream passes `system_init` iff that stream
    itself carries what its loom, its process and its thread need. -/
theorem checkTrace_single (m : Meta) (h : checkStream m = .ok true) :
    checkTrace [m] = .ok () ↔
      m.cpus.getD [] ≠ [] ∧ m.appId ≠ none ∧ m.hasLib = true ∧ m.hasRequire = true := by
  unfold checkTrace
  simp [List.mapM_cons, h, bind, Except.bind, pure, Except.pure, gate_eq_ok]

theorem metaOfText_ok (cast : Bool) (bytes : List Nat) (j : Ovni.Json.Json) (h : Ovni.Json.parse bytes = .ok j) :
    metaOfText cast bytes = some (metaOfJson cast j) := by
  unfold metaOfText; rw [h]

/-- `.null`: the record of a stream whose `load_json` failed. -/
theorem metaOfText_fail (cast : Bool) (bytes : List Nat) (h : Ovni.Json.parse bytes = .fail) :
    metaOfText cast bytes = some (metaOfJson cast .null) := by
  unfold metaOfText; rw [h]

end Ovni.Emu.Meta
