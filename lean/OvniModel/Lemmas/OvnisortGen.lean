import OvniModel.Lemmas.OvnisortSort
/-! One iteration of `stream_winsort` case by case, and the facts that need no
    precondition on the stream, the look-back or the ring: whatever happens,
    the buffer only changes by `buf ↦ take first buf ++ sortFn (drop first buf)`. -/
namespace Ovni.Ovnisort

/-- the state after `ring_add(r, ev)` (event index `k`) and advancing the cursor -/
def addEv (s : WS) (k : Nat) (e : Ev) : WS :=
  { s with ring := ringAdd s.ring k, done := s.done ++ [e] }

/-- the state after a successful `execute_sort_plan` -/
def sortedState (s : WS) (buf' : List Ev) (r' : Ring) (p : Option (Nat × Nat)) : WS :=
  { s with done := buf', ring := r', st := St.S, opn := 0, bad0 := 0, plans := s.plans ++ p.toList }

theorem wsStep_S_start {sortFn s e} (h : s.st = St.S) (hk : e.kind = Kind.start) :
    wsStep sortFn s e = .ok (addEv { s with st := St.U, opn := s.done.length } s.done.length e) := by
  simp [wsStep, h, hk, addEv]

theorem wsStep_S_other {sortFn s e} (h : s.st = St.S) (hk : e.kind ≠ Kind.start) :
    wsStep sortFn s e = .ok (addEv s s.done.length e) := by
  simp [wsStep, h, hk, addEv]

theorem wsStep_U_stop {sortFn s e} (h : s.st = St.U) (hk : e.kind = Kind.stop) :
    wsStep sortFn s e =
      .ok (addEv { s with st := St.S, emptyRegions := s.emptyRegions + 1 } s.done.length e) := by
  simp [wsStep, h, hk, addEv]

theorem wsStep_U_other {sortFn s e} (h : s.st = St.U) (hk : e.kind ≠ Kind.stop) :
    wsStep sortFn s e = .ok (addEv { s with st := St.X, bad0 := s.done.length } s.done.length e) := by
  simp [wsStep, h, hk, addEv]

theorem wsStep_X_other {sortFn s e} (h : s.st = St.X) (hk : e.kind ≠ Kind.stop) :
    wsStep sortFn s e = .ok (addEv s s.done.length e) := by
  simp [wsStep, h, hk, addEv]

theorem wsStep_X_stop_ok {sortFn s e buf' r' p} (h : s.st = St.X) (hk : e.kind = Kind.stop)
    (hex : executeSortPlan sortFn s.done s.ring s.opn s.bad0 = (Status.ok, buf', r', p)) :
    wsStep sortFn s e = .ok (addEv (sortedState s buf' r' p) s.done.length e) := by
  simp [wsStep, h, hk, hex, addEv, sortedState]

theorem wsStep_X_stop_err {sortFn s e st buf' r' p} (h : s.st = St.X) (hk : e.kind = Kind.stop)
    (hex : executeSortPlan sortFn s.done s.ring s.opn s.bad0 = (st, buf', r', p)) (hst : st ≠ Status.ok) :
    wsStep sortFn s e = .error (st, buf', s.plans ++ p.toList) := by
  simp only [wsStep, h, hk, hex]
  cases st <;> first | exact absurd rfl hst | simp

theorem exec_inPlace {sortFn : List Ev → List Ev} {buf : List Ev} {r : Ring} {opn bad0 : Nat}
    (h : regionInPlace buf opn = true) : executeSortPlan sortFn buf r opn bad0 = (Status.ok, buf, r, none) := by
  unfold executeSortPlan; rw [if_pos h]

theorem exec_notInPlace {sortFn : List Ev → List Ev} {buf : List Ev} {r : Ring} {opn bad0 : Nat}
    (h : regionInPlace buf opn = false) : executeSortPlan sortFn buf r opn bad0 = sortRegion sortFn buf r bad0 := by
  unfold executeSortPlan; rw [if_neg (by rw [h]; exact Bool.false_ne_true)]

theorem wsStep_append {sortFn s e}
    (h : s.st = St.X → e.kind = Kind.stop → regionInPlace s.done s.opn = true) :
    ∃ s', wsStep sortFn s e = .ok s' ∧ s'.done = s.done ++ [e] ∧ s'.plans = s.plans := by
  cases hst : s.st with
  | S =>
    by_cases hk : e.kind = Kind.start
    · exact ⟨_, wsStep_S_start hst hk, rfl, rfl⟩
    · exact ⟨_, wsStep_S_other hst hk, rfl, rfl⟩
  | U =>
    by_cases hk : e.kind = Kind.stop
    · exact ⟨_, wsStep_U_stop hst hk, rfl, rfl⟩
    · exact ⟨_, wsStep_U_other hst hk, rfl, rfl⟩
  | X =>
    by_cases hk : e.kind = Kind.stop
    · exact ⟨_, wsStep_X_stop_ok hst hk (exec_inPlace (h hst hk)), rfl, List.append_nil _⟩
    · exact ⟨_, wsStep_X_other hst hk, rfl, rfl⟩

theorem sortRegion_shape (sortFn : List Ev → List Ev) (buf : List Ev) (r : Ring) (bad0 : Nat) :
    ((sortRegion sortFn buf r bad0).2.1 = buf ∧ (sortRegion sortFn buf r bad0).2.2.2 = none) ∨
    (∃ first, (sortRegion sortFn buf r bad0).2.1 = sortFrom sortFn first buf ∧
      (sortRegion sortFn buf r bad0).2.2.2 = some (first, buf.length)) := by
  unfold sortRegion sortFrom
  simp only
  -- the exits of `sortRegion` in order: nothing is written before `sort_buf`, and every
  -- exit after it (ring rebuild failed, ring check passed or not) has logged the plan
  split
  · exact Or.inl ⟨rfl, rfl⟩  -- no destination
  · exact Or.inl ⟨rfl, rfl⟩  -- `die` at the head of the ring
  · exact Or.inl ⟨rfl, rfl⟩  -- `die` at the tail
  · split
    · exact Or.inl ⟨rfl, rfl⟩  -- empty buffer size
    · split
      · exact Or.inr ⟨_, rfl, rfl⟩
      · split
        · exact Or.inr ⟨_, rfl, rfl⟩
        · exact Or.inr ⟨_, rfl, rfl⟩

/-- One iteration applies the plans `new` it logs (none or one) to the stream; `d'` is the buffer before
    the cursor once `execute_sort_plan`, if it ran, is over. -/
theorem wsStep_shape (sortFn : List Ev → List Ev) (s : WS) (e : Ev) :
    ∃ d' new, (∀ t, new.foldl (applyPlan sortFn) (s.done ++ t) = d' ++ t) ∧
      ((∃ s', wsStep sortFn s e = .ok s' ∧ s'.done = d' ++ [e] ∧ s'.plans = s.plans ++ new) ∨
       (∃ st, wsStep sortFn s e = .error (st, d', s.plans ++ new) ∧ st ≠ Status.ok)) := by
  by_cases hx : s.st = St.X ∧ e.kind = Kind.stop ∧ regionInPlace s.done s.opn = false
  · obtain ⟨hst, hk, hip⟩ := hx
    have hex := exec_notInPlace (sortFn := sortFn) (r := s.ring) (bad0 := s.bad0) hip
    have hsh := sortRegion_shape sortFn s.done s.ring s.bad0
    generalize sortRegion sortFn s.done s.ring s.bad0 = res at hex hsh
    obtain ⟨st, buf', r', p⟩ := res
    refine ⟨buf', p.toList, fun t => ?_, ?_⟩
    · rcases hsh with ⟨h1, h2⟩ | ⟨first, h1, h2⟩
      · rw [show buf' = s.done from h1, show p = none from h2]; rfl
      · rw [show buf' = _ from h1, show p = some _ from h2]
        exact applyPlan_append sortFn first s.done t
    · by_cases hok : st = Status.ok
      · subst hok
        exact Or.inl ⟨_, wsStep_X_stop_ok hst hk hex, rfl, rfl⟩
      · exact Or.inr ⟨st, wsStep_X_stop_err hst hk hex hok, hok⟩
  · obtain ⟨s', hs', hdone, hp⟩ := wsStep_append (sortFn := sortFn) (s := s) (e := e)
      fun h1 h2 => Bool.of_not_eq_false fun h => hx ⟨h1, h2, h⟩
    exact ⟨s.done, [], fun _ => rfl, Or.inl ⟨s', hs', hdone, by rw [hp, List.append_nil]⟩⟩

theorem wsLoop_out (sortFn : List Ev → List Ev) (trunc : Bool) :
    ∀ (rest : List Ev) (s : WS), ∃ new, (wsLoop sortFn trunc s rest).plans = s.plans ++ new ∧
      (wsLoop sortFn trunc s rest).out = new.foldl (applyPlan sortFn) (s.done ++ rest) := by
  intro rest
  induction rest with
  | nil => exact fun s => ⟨[], (List.append_nil _).symm, (List.append_nil _).symm⟩
  | cons e rest ih =>
    intro s
    obtain ⟨d', new, hnew, hres⟩ := wsStep_shape sortFn s e
    rcases hres with ⟨s', hs', hdone, hp⟩ | ⟨st, hs', _⟩
    · obtain ⟨l, hl, ho⟩ := ih s'
      simp only [wsLoop, hs']
      exact ⟨new ++ l, by rw [hl, hp, List.append_assoc],
        by rw [ho, hdone, List.foldl_append, hnew, List.append_assoc, List.singleton_append]⟩
    · simp only [wsLoop, hs']
      exact ⟨new, rfl, (hnew _).symm⟩

theorem winsort_out (sortFn : List Ev → List Ev) (n : Nat) (evs : List Ev) (trunc : Bool) :
    (winsort sortFn n evs trunc).out = (winsort sortFn n evs trunc).plans.foldl (applyPlan sortFn) evs := by
  cases evs with
  | nil => rfl
  | cons e t =>
    obtain ⟨new, hp, ho⟩ := wsLoop_out sortFn trunc (e :: t) (WS.init n)
    show (wsLoop sortFn trunc (WS.init n) (e :: t)).out = _
    rw [ho, show (winsort sortFn n (e :: t) trunc).plans = _ from hp]; rfl

theorem winsort_perm {sortFn : List Ev → List Ev} (hf : IsSort sortFn) (n : Nat) (evs : List Ev)
    (trunc : Bool) : (winsort sortFn n evs trunc).out.Perm evs := by
  rw [winsort_out]
  exact foldl_applyPlan (P := fun l => l.Perm evs) (fun p _ l h => (applyPlan_perm hf l p).trans h) (.refl _)

end Ovni.Ovnisort
