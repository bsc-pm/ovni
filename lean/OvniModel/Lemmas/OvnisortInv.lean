import OvniModel.Lemmas.OvnisortRing
import OvniModel.Lemmas.OvnisortGen
/-! The invariant of `stream_winsort` under the preconditions of C16. -/
namespace Ovni.Ovnisort

theorem windowOkAt_perm {n m : Nat} {a b : List Ev} (h : a.Perm b) : windowOkAt n m a = windowOkAt n m b := by
  unfold windowOkAt geCount; rw [(h.filter _).length_eq, h.length_eq]

theorem geCount_drop {m : Nat} {buf : List Ev} (j : Nat) (h : ∀ y ∈ buf.drop j, m ≤ y.clock) :
    geCount m buf = geCount m (buf.take j) + (buf.length - j) := by
  conv => lhs; rw [← List.take_append_drop j buf]
  have hd : (buf.drop j).filter (fun e => decide (m ≤ e.clock)) = buf.drop j :=
    List.filter_eq_self.2 (fun a ha => decide_eq_true (h a ha))
  unfold geCount
  rw [List.filter_append, List.length_append, hd, List.length_drop]

theorem sortRegion_window {sortFn : List Ev → List Ev} (hf : IsSort sortFn) {n : Nat} {r : Ring}
    {buf : List Ev} {bad0 : Nat} (h : RInv n r buf.length) (hb : bad0 < buf.length)
    (hs : Sorted (buf.take bad0)) (hc : ∀ e ∈ buf, e.clock < 2 ^ 63) :
    (windowOkAt n (regionMin buf bad0) buf = true ∧ ∃ first,
        sortRegion sortFn buf r bad0 = (Status.ok, sortFrom sortFn first buf, r, some (first, buf.length)) ∧
        Sorted (sortFrom sortFn first buf)) ∨
    (windowOkAt n (regionMin buf bad0) buf = false ∧
        sortRegion sortFn buf r bad0 = (Status.errNoDest, buf, r, none)) := by
  have hreg : ∀ y ∈ buf.drop bad0, regionMin buf bad0 ≤ y.clock := minClock_le_mem _ _
  have hsorted : ∀ first, Sorted (sortFn (buf.drop first)) := fun first =>
    (hf _).2.sorted (fun e he => hc e (List.mem_of_mem_drop ((hf _).1.mem_iff.1 he)))
  rcases sortRegion_eq sortFn buf bad0 h (by omega) (fun l => (hf l).1.length_eq) with
    ⟨first, h1, h2, h3, h4, he⟩ | ⟨h1, h2, he⟩
  · rw [if_pos (inPlaceLoop_iff.2 ⟨fun _ _ => Nat.zero_le _, hsorted first⟩)] at he
    generalize regionMin buf bad0 = m at *
    rcases h4 with h4 | ⟨rfl, h4⟩
    · -- the events up to `first` are below `m` (they precede the region and are sorted),
      -- the later ones are not
      rw [clockAt_eq h1] at h4
      have hfb : first < bad0 := by
        rcases Nat.lt_or_ge first bad0 with h | h
        · exact h
        · have := hreg buf[first] (List.mem_drop_iff_getElem.2 ⟨first - bad0, by omega, by congr 1; omega⟩)
          omega
      have hP : Sorted (buf.take first ++ [buf[first]]) := by
        rw [← List.take_succ_eq_append_getElem h1, show first + 1 = min (first + 1) bad0 by omega,
          ← List.take_take]
        exact List.Pairwise.sublist (List.take_sublist _ _) hs
      rw [Sorted, List.pairwise_append] at hP
      have hlow : ∀ x ∈ buf.take first, x.clock ≤ buf[first].clock :=
        fun x hx => hP.2.2 x hx _ (List.mem_singleton.2 rfl)
      refine Or.inl ⟨?_, first, he, ?_⟩
      · have hg : geCount m (buf.take (first + 1)) = 0 := by
          rw [geCount, List.length_eq_zero_iff, List.filter_eq_nil_iff, List.take_succ_eq_append_getElem h1]
          intro a ha
          rcases List.mem_append.1 ha with ha | ha
          · have := hlow a ha; simp; omega
          · rw [List.mem_singleton.1 ha]; simp; omega
        unfold windowOkAt
        rw [geCount_drop (first + 1) h3, hg]
        simp; omega
      · rw [sortFrom, Sorted, List.pairwise_append]
        refine ⟨hP.1, hsorted first, fun a ha b hb => ?_⟩
        have hb' := (hf _).1.mem_iff.1 hb
        rw [List.drop_eq_getElem_cons h1] at hb'
        rcases List.mem_cons.1 hb' with rfl | hb'
        · exact hlow a ha
        · have := hlow a ha; have := h3 b hb'; omega
    · refine Or.inl ⟨?_, 0, he, ?_⟩
      · unfold windowOkAt; simp [h4]
      · exact hsorted 0
  · refine Or.inr ⟨?_, he⟩
    have := geCount_drop _ h2
    unfold windowOkAt
    simp; omega

def endClock (c : Nat) : List Ev → Nat
  | [] => c
  | e :: l => endClock e.clock l

theorem endClock_append (c : Nat) (a b : List Ev) : endClock c (a ++ b) = endClock (endClock c a) b := by
  induction a generalizing c with
  | nil => rfl
  | cons x t ih => exact ih x.clock

theorem endClock_snoc (c : Nat) (l : List Ev) (e : Ev) : endClock c (l ++ [e]) = e.clock := by
  rw [endClock_append]; rfl

theorem endClock_drop {l : List Ev} {j : Nat} (h : j < l.length) (c c' : Nat) :
    endClock c (l.drop j) = endClock c' l := by
  conv => rhs; rw [← List.take_append_drop j l, endClock_append]
  rw [List.drop_eq_getElem_cons h]
  rfl

theorem inPlaceLoop_snoc (c : Nat) (l : List Ev) (e : Ev) :
    inPlaceLoop c (l ++ [e]) = (inPlaceLoop c l && decide (endClock c l ≤ e.clock)) := by
  induction l generalizing c with
  | nil =>
    show (if e.clock < c then false else true) = (true && decide (c ≤ e.clock))
    by_cases h : e.clock < c
    · rw [if_pos h, Bool.true_and, decide_eq_false (by omega)]
    · rw [if_neg h, Bool.true_and, decide_eq_true (by omega)]
  | cons x t ih =>
    simp only [List.cons_append, inPlaceLoop, endClock]
    split
    · rfl
    · exact ih x.clock

theorem regionInPlace_single {l : List Ev} {opn : Nat} (h : opn + 1 = l.length) : regionInPlace l opn = true := by
  have hlt : opn < l.length := by omega
  rw [regionInPlace, List.drop_eq_getElem_cons hlt, clockAt_eq hlt, List.drop_of_length_le (by omega),
    inPlaceLoop, if_neg (Nat.lt_irrefl _)]
  rfl

theorem regionInPlace_snoc {l : List Ev} {opn : Nat} (e : Ev) (h : opn < l.length) :
    regionInPlace (l ++ [e]) opn = (regionInPlace l opn && decide (endClock 0 l ≤ e.clock)) := by
  rw [regionInPlace, regionInPlace, clockAt_snoc e h, List.drop_append_of_le_length (by omega), inPlaceLoop_snoc,
    endClock_drop h _ 0]

theorem sorted_of_inPlace {l : List Ev} {opn : Nat} (h : opn < l.length) (hs : Sorted (l.take (opn + 1)))
    (hip : regionInPlace l opn = true) : Sorted l := by
  rw [regionInPlace, clockAt_eq h] at hip
  obtain ⟨h2, h1⟩ := inPlaceLoop_iff.1 hip
  rw [List.take_succ_eq_append_getElem h] at hs
  unfold Sorted at hs h1 ⊢
  rw [List.pairwise_append] at hs
  rw [← List.take_append_drop opn l, List.pairwise_append]
  refine ⟨hs.1, h1, fun a ha b hb => ?_⟩
  have := hs.2.2 a ha _ (List.mem_singleton.2 rfl)
  have := h2 b hb
  omega

theorem inPlace_of_sorted {l : List Ev} (opn : Nat) (hs : Sorted l) : regionInPlace l opn = true := by
  rw [regionInPlace, inPlaceLoop_iff]
  have hd : Sorted (l.drop opn) := List.Pairwise.sublist (List.drop_sublist _ _) hs
  refine ⟨fun x hx => ?_, hd⟩
  rcases Nat.lt_or_ge opn l.length with h | h
  · rw [clockAt_eq h]
    rw [List.drop_eq_getElem_cons h] at hx hd
    rcases List.mem_cons.1 hx with rfl | hx
    · exact Nat.le_refl _
    · exact (List.pairwise_cons.1 hd).1 x hx
  · rw [List.drop_of_length_le h] at hx; cases hx

/-- What the state of the region automaton says about the buffer `d` before the cursor; `m` and
    `ip` are those of `windowOk`. -/
def RegInv (st : St) (d : List Ev) (opn bad0 m : Nat) (ip : Bool) : Prop :=
  match st with
  | St.S => Sorted d
  | St.U => Sorted d ∧ opn + 1 = d.length
  | St.X => Sorted (d.take bad0) ∧ bad0 < d.length ∧ opn + 1 = bad0 ∧ m = regionMin d bad0 ∧
      ip = regionInPlace d opn

/-- The first event of a region, right after its `OU[`. -/
theorem RegInv.enter {d : List Ev} {opn last : Nat} (e : Ev) (hsrt : Sorted d) (hopn : opn + 1 = d.length)
    (hlast : last = endClock 0 d) :
    RegInv St.X (d ++ [e]) opn d.length e.clock (decide (last ≤ e.clock)) := by
  refine ⟨?_, ?_, hopn, (regionMin_start d e).symm, ?_⟩
  · rw [List.take_left' rfl]; exact hsrt
  · rw [List.length_append]; exact Nat.lt_succ_self _
  · rw [regionInPlace_snoc e (by omega), regionInPlace_single hopn, Bool.true_and, hlast]

theorem RegInv.extend {d : List Ev} {opn bad0 m last : Nat} {ip : Bool} (e : Ev)
    (h : RegInv St.X d opn bad0 m ip) (hlast : last = endClock 0 d) :
    RegInv St.X (d ++ [e]) opn bad0 (min m e.clock) (ip && decide (last ≤ e.clock)) := by
  obtain ⟨hsrt, hb, hopn, hm, hip⟩ := h
  refine ⟨?_, ?_, hopn, ?_, ?_⟩
  · rw [List.take_append_of_le_length (by omega)]; exact hsrt
  · rw [List.length_append]; omega
  · rw [regionMin_snoc hb, hm]
  · rw [regionInPlace_snoc e (by omega), ← hip, hlast]

/-- Invariant of `stream_winsort` in state `st`; `mx` is the argument `regionsOk` has reached
    there, `p`, `m`, `ip`, `last` those of `windowOk`.  `p` holds the events consumed so far (latest
    first) and does not change when a region is sorted: the buffer is tied to it only up to
    permutation, and `windowOkAt_perm` is what makes that enough. -/
structure Inv (n : Nat) (s : WS) (st : St) (mx : Nat) (p : List Ev) (m : Nat) (ip : Bool) (last : Nat) :
    Prop where
  st_eq : s.st = st
  ring : RInv n s.ring s.done.length
  perm : s.done.Perm p
  le_mx : ∀ x ∈ p, x.clock ≤ mx
  last : last = endClock 0 s.done
  reg : RegInv st s.done s.opn s.bad0 m ip

/-- `s0` differs from `s` in the automaton's fields and at most by a permutation of the buffer. -/
theorem Inv.add {n s st0 mx p m0 ip0 last0} (h : Inv n s st0 mx p m0 ip0 last0) {s0 : WS} {st : St}
    {e : Ev} {m : Nat} {ip : Bool} (hst : s0.st = st) (hring : s0.ring = s.ring)
    (hdone : s0.done.Perm s.done) (hreg : RegInv st (s0.done ++ [e]) s0.opn s0.bad0 m ip) :
    Inv n (addEv s0 s.done.length e) st (max mx e.clock) (e :: p) m ip e.clock := by
  refine ⟨hst, ?_, (List.perm_append_singleton e _).trans ((hdone.trans h.perm).cons e), fun x hx => ?_,
    (endClock_snoc 0 _ e).symm, hreg⟩
  · show RInv n (ringAdd s0.ring s.done.length) (s0.done ++ [e]).length
    rw [List.length_append, hring, hdone.length_eq]
    exact ringAdd_inv h.ring
  · rcases List.mem_cons.1 hx with rfl | hx
    · exact Nat.le_max_right _ _
    · exact Nat.le_trans (h.le_mx x hx) (Nat.le_max_left _ _)

theorem wsLoop_main {sortFn : List Ev → List Ev} (hf : IsSort sortFn) {n : Nat} :
    ∀ (rest : List Ev) (s : WS) (st : St) (mx : Nat) (p : List Ev) (m : Nat) (ip : Bool) (last : Nat),
      Inv n s st mx p m ip last →
      (∀ x ∈ p ++ rest, x.clock < 2 ^ 63) →
      regionsOk st mx rest = true →
      (windowOk n st p m ip last rest = true →
        (wsLoop sortFn false s rest).status = Status.ok ∧ Sorted (wsLoop sortFn false s rest).out) ∧
      (windowOk n st p m ip last rest = false → (wsLoop sortFn false s rest).status = Status.errNoDest) := by
  intro rest
  induction rest with
  | nil =>
    intro s st mx p m ip last hinv _ hreg
    have hsrt := hinv.reg
    rw [show st = St.S by simpa [regionsOk] using hreg] at hsrt
    exact ⟨fun _ => ⟨rfl, hsrt⟩, fun h => by rw [windowOk] at h; cases h⟩
  | cons e rest ih =>
    intro s st mx p m ip last hinv hclk hreg
    have hclk' : ∀ x ∈ (e :: p) ++ rest, x.clock < 2 ^ 63 :=
      fun x hx => hclk x (List.perm_middle.mem_iff.2 hx)
    -- a sorted permutation of the buffer stays sorted when an event not below `mx` is appended
    have hsnoc : ∀ {d : List Ev}, d.Perm s.done → Sorted d → mx ≤ e.clock → Sorted (d ++ [e]) :=
      fun hd hs hle => hs.snoc (fun x hx =>
        Nat.le_trans (hinv.le_mx x (hinv.perm.mem_iff.1 (hd.mem_iff.1 hx))) hle)
    have hst := hinv.st_eq
    cases st with
    | S =>
      have hsrt : Sorted s.done := hinv.reg
      simp only [regionsOk, Bool.and_eq_true, decide_eq_true_eq] at hreg
      have hsn := hsnoc (.refl _) hsrt hreg.1
      by_cases hk : e.kind = Kind.start
      · rw [if_pos hk] at hreg
        simp only [wsLoop, wsStep_S_start hst hk, windowOk, if_pos hk]
        exact ih _ _ _ _ 0 true _ (hinv.add (s0 := { s with st := St.U, opn := s.done.length })
          rfl rfl (.refl _) ⟨hsn, (List.length_append (as := s.done) (bs := [e])).symm⟩) hclk' hreg.2
      · rw [if_neg hk] at hreg
        simp only [wsLoop, wsStep_S_other hst hk, windowOk, if_neg hk]
        exact ih _ _ _ _ 0 true _ (hinv.add hst rfl (.refl _) hsn) hclk' hreg.2
    | U =>
      obtain ⟨hsrt, hopn⟩ : Sorted s.done ∧ s.opn + 1 = s.done.length := hinv.reg
      by_cases hk : e.kind = Kind.stop
      · simp only [regionsOk, if_pos hk, Bool.and_eq_true, decide_eq_true_eq] at hreg
        simp only [wsLoop, wsStep_U_stop hst hk, windowOk, if_pos hk]
        exact ih _ _ _ _ 0 true _ (hinv.add (s0 := { s with st := St.S, emptyRegions := s.emptyRegions + 1 })
          rfl rfl (.refl _) (hsnoc (.refl _) hsrt hreg.1)) hclk' hreg.2
      · simp only [regionsOk, if_neg hk] at hreg
        simp only [wsLoop, wsStep_U_other hst hk, windowOk, if_neg hk]
        exact ih _ _ _ _ e.clock (decide (last ≤ e.clock)) _
          (hinv.add (s0 := { s with st := St.X, bad0 := s.done.length }) rfl rfl (.refl _)
            (RegInv.enter e hsrt hopn hinv.last)) hclk' hreg
    | X =>
      obtain ⟨hsrt, hb, hopn, hm, hip⟩ : Sorted (s.done.take s.bad0) ∧ s.bad0 < s.done.length ∧
        s.opn + 1 = s.bad0 ∧ m = regionMin s.done s.bad0 ∧ ip = regionInPlace s.done s.opn := hinv.reg
      by_cases hk : e.kind = Kind.stop
      · simp only [regionsOk, if_pos hk, Bool.and_eq_true, decide_eq_true_eq] at hreg
        simp only [windowOk, if_pos hk]
        cases ip with
        | true =>
          -- region already in place: execute_sort_plan returns at once
          simp only [wsLoop, wsStep_X_stop_ok hst hk (exec_inPlace hip.symm), Bool.true_or, Bool.true_and]
          exact ih _ _ _ _ 0 true _ (hinv.add (s0 := sortedState s s.done s.ring none) rfl rfl (.refl _)
            (hsnoc (.refl _) (sorted_of_inPlace (l := s.done) (by omega) (by rw [hopn]; exact hsrt) hip.symm) hreg.1))
            hclk' hreg.2
        | false =>
          have hex := exec_notInPlace (sortFn := sortFn) (r := s.ring) (bad0 := s.bad0) hip.symm
          have hwp : windowOkAt n m p = windowOkAt n (regionMin s.done s.bad0) s.done := by
            rw [hm]; exact windowOkAt_perm hinv.perm.symm
          rw [hwp, Bool.false_or]
          rcases sortRegion_window hf hinv.ring hb hsrt
              (fun x hx => hclk x (List.mem_append_left _ (hinv.perm.mem_iff.1 hx))) with
            ⟨hw, first, hsr, hsb⟩ | ⟨hw, hsr⟩
          · rw [hsr] at hex
            simp only [wsLoop, wsStep_X_stop_ok hst hk hex, hw, Bool.true_and]
            exact ih _ _ _ _ 0 true _
              (hinv.add (s0 := sortedState s (sortFrom sortFn first s.done) s.ring (some (first, s.done.length)))
                rfl rfl (sortFrom_perm hf _ _) (hsnoc (sortFrom_perm hf _ _) hsb hreg.1)) hclk' hreg.2
          · rw [hsr] at hex
            simp only [wsLoop, wsStep_X_stop_err hst hk hex (fun h => nomatch h), hw, Bool.false_and]
            exact ⟨fun h => (nomatch h), fun _ => trivial⟩
      · simp only [regionsOk, if_neg hk] at hreg
        simp only [wsLoop, wsStep_X_other hst hk, windowOk, if_neg hk]
        exact ih _ _ _ _ (min m e.clock) (ip && decide (last ≤ e.clock)) _
          (hinv.add hst rfl (.refl _) (RegInv.extend e hinv.reg hinv.last)) hclk' hreg

end Ovni.Ovnisort
