import OvniModel.Lemmas.OvnisortSort
import OvniModel.Lemmas.ListLemmas
/-! The ring of `ovnisort.c` after `k` events holds the event indices `k + 1 - n … k - 1`, index `j`
    in slot `j % n`.  From that, `find_destination`, `rebuild_ring`, `ring_check` and
    `execute_sort_plan` in terms of the buffer alone. -/
namespace Ovni.Ovnisort

theorem incWrap_mod (n j : Nat) (hn : 0 < n) : incWrap n (j % n) = (j + 1) % n := by
  have hlt := Nat.mod_lt j hn
  rw [← Nat.mod_add_mod j n 1]
  unfold incWrap
  split
  · rw [show j % n + 1 = n by omega, Nat.mod_self]
  · rw [Nat.mod_eq_of_lt (a := j % n + 1) (by omega)]

theorem decWrap_mod (n j : Nat) (hn : 0 < n) : decWrap n ((j + 1) % n) = j % n := by
  have hlt := Nat.mod_lt j hn
  rw [← incWrap_mod n j hn]
  unfold incWrap decWrap
  split <;> split <;> omega

theorem decWrap_inj {n a b : Nat} (ha : a < n) (hb : b < n) (h : decWrap n a = decWrap n b) : a = b := by
  unfold decWrap at h
  split at h <;> split at h <;> omega

theorem mod_ne_of_lt {n j k : Nat} (h1 : j < k) (h2 : k < j + n) : j % n ≠ k % n := by
  intro h
  have h0 := Nat.sub_mod_eq_zero_of_mod_eq h.symm
  rw [Nat.mod_eq_of_lt (by omega)] at h0
  omega

theorem clockAt_eq {buf : List Ev} {i : Nat} (h : i < buf.length) : clockAt buf i = buf[i].clock := by
  unfold clockAt
  rw [List.getD_eq_getElem?_getD, List.getElem?_eq_getElem h]; rfl

theorem clockAt_snoc {l : List Ev} {i : Nat} (e : Ev) (h : i < l.length) : clockAt (l ++ [e]) i = clockAt l i := by
  rw [clockAt_eq (by rw [List.length_append]; omega), clockAt_eq h, List.getElem_append_left h]

theorem forall_mem_drop {buf : List Ev} {j c : Nat}
    (h : ∀ i, j ≤ i → i < buf.length → c ≤ clockAt buf i) : ∀ y ∈ buf.drop j, c ≤ y.clock := by
  intro y hy
  obtain ⟨i, hi, rfl⟩ := List.mem_drop_iff_getElem.1 hy
  rw [← clockAt_eq]
  exact h _ (by omega) (by omega)

/-- After `k` calls of `ring_add` (event indices `0 … k-1`) on a ring of `n ≥ 1` slots: one slot
    stays free, so the oldest index kept is `k + 1 - n`. -/
structure RInv (n : Nat) (r : Ring) (k : Nat) : Prop where
  pos : 0 < n
  size : r.size = n
  len : r.ev.length = n
  tail : r.tail = k % n
  head : r.head = (k + 1 - n) % n
  slots : ∀ j, j < k → k < j + n → r.ev[j % n]? = some j

theorem RInv.slot_eq {n r k} (h : RInv n r k) {j : Nat} (h1 : j < k) (h2 : k < j + n) :
    slot r (j % n) = j := by
  unfold slot
  rw [List.getD_eq_getElem?_getD, h.slots j h1 h2]; rfl

theorem RInv.new (n : Nat) (hn : 0 < n) : RInv n (Ring.new n) 0 :=
  ⟨hn, rfl, List.length_replicate, (Nat.zero_mod n).symm,
    by rw [show 0 + 1 - n = 0 by omega, Nat.zero_mod]; rfl, fun j hj => by omega⟩

theorem ringAdd_inv {n r k} (h : RInv n r k) : RInv n (ringAdd r k) (k + 1) := by
  have hn := h.pos
  have htail : incWrap r.size r.tail = (k + 1) % n := by rw [h.size, h.tail, incWrap_mod n k hn]
  refine ⟨hn, h.size, ?_, htail, ?_, ?_⟩
  · simp only [ringAdd, List.length_set]; exact h.len
  · -- the head moves on exactly when the ring is full, i.e. when it meets the new tail
    show (if (if r.head = incWrap r.size r.tail then incWrap r.size r.tail + 1 else r.head) ≥ r.size then 0
      else if r.head = incWrap r.size r.tail then incWrap r.size r.tail + 1 else r.head) = (k + 1 + 1 - n) % n
    rw [htail, h.head, h.size]
    by_cases hk : k + 1 < n
    · rw [show k + 1 - n = 0 by omega, show k + 1 + 1 - n = 0 by omega, Nat.zero_mod,
        Nat.mod_eq_of_lt hk, if_neg (by omega : ¬ 0 = k + 1), ite_self]
    · rw [← Nat.mod_eq_sub_mod (by omega : k + 1 ≥ n), ← Nat.mod_eq_sub_mod (by omega : k + 1 + 1 ≥ n),
        if_pos rfl, ← incWrap_mod n (k + 1) hn]
      rfl
  · intro j hj1 hj2
    simp only [ringAdd, h.tail]
    rw [List.getElem?_set]
    by_cases hjk : j = k
    · subst hjk
      simp only [if_true, h.len, Nat.mod_lt j hn]
    · rw [if_neg (fun e => mod_ne_of_lt (by omega : j < k) (by omega) e.symm)]
      exact h.slots j (by omega) (by omega)

/-- The backwards loop of `find_destination` about to look at index `j - 1`, `d` steps from the
    oldest index. -/
theorem findLoop_spec {n r k} (buf : List Ev) (c : Nat) (h : RInv n r k) :
    ∀ d j fuel nback, k + 1 - n + d = j → j ≤ k → d < fuel →
      (∃ i nb, findLoop buf r c (decWrap n r.head) fuel (decWrap n (j % n)) nback = (some (i % n), nb) ∧
          k + 1 - n ≤ i ∧ i < j ∧ clockAt buf i < c ∧ ∀ x, i < x → x < j → c ≤ clockAt buf x) ∨
      (findLoop buf r c (decWrap n r.head) fuel (decWrap n (j % n)) nback = (none, nback + d) ∧
          ∀ x, k + 1 - n ≤ x → x < j → c ≤ clockAt buf x) := by
  have hn := h.pos
  intro d
  induction d with
  | zero =>
    intro j fuel nback hj _ hf
    obtain ⟨f, rfl⟩ := Nat.exists_eq_add_one_of_ne_zero (Nat.ne_zero_of_lt hf)
    obtain rfl : j = k + 1 - n := by omega
    rw [findLoop, h.head, if_pos rfl]
    exact Or.inr ⟨rfl, fun x h1 h2 => by omega⟩
  | succ d ih =>
    intro j fuel nback hj hjk hf
    obtain ⟨f, rfl⟩ := Nat.exists_eq_add_one_of_ne_zero (Nat.ne_zero_of_lt hf)
    obtain ⟨j, rfl⟩ : ∃ j', j = j' + 1 := ⟨j - 1, by omega⟩
    have hne : decWrap n ((j + 1) % n) ≠ decWrap n r.head := by
      rw [h.head]
      exact fun e => mod_ne_of_lt (by omega) (by omega)
        (decWrap_inj (Nat.mod_lt _ hn) (Nat.mod_lt _ hn) e).symm
    rw [findLoop, if_neg hne, decWrap_mod n j hn, h.slot_eq (by omega) (by omega), h.size]
    by_cases hc : clockAt buf j < c
    · rw [if_pos hc]
      exact Or.inl ⟨j, nback, rfl, by omega, by omega, hc, fun x h1 h2 => by omega⟩
    · rw [if_neg hc]
      have hx : ∀ x, x < j + 1 → ¬ x < j → c ≤ clockAt buf x := fun x h1 h2 => by
        rw [show x = j by omega]; omega
      rcases ih j f (nback + 1) (by omega) (by omega) (by omega) with ⟨i, nb, he, h1, h2, h3, h4⟩ | ⟨he, h1⟩
      · exact Or.inl ⟨i, nb, he, h1, by omega, h3, fun x hx1 hx2 =>
          if hlt : x < j then h4 x hx1 hlt else hx x hx2 hlt⟩
      · exact Or.inr ⟨by rw [he, Nat.add_right_comm, Nat.add_assoc], fun x hx1 hx2 =>
          if hlt : x < j then h1 x hx1 hlt else hx x hx2 hlt⟩

theorem findDestination_spec {n r k} (buf : List Ev) (c : Nat) (h : RInv n r k) (hk : 1 ≤ k) :
    (∃ j, findDestination buf r c = Dest.found (j % n) ∧ j < k ∧ k < j + n ∧
        (∀ x, j < x → x < k → c ≤ clockAt buf x) ∧ (clockAt buf j < c ∨ (j = 0 ∧ k + 1 < n))) ∨
    (findDestination buf r c = Dest.notFound ∧ n ≤ k + 1 ∧
        ∀ x, k + 1 - n ≤ x → x < k → c ≤ clockAt buf x) := by
  have hn := h.pos
  simp only [findDestination, h.size, h.tail]
  rcases findLoop_spec buf c h (k - (k + 1 - n)) k (n + 1) 0 (by omega) (Nat.le_refl _) (by omega) with
    ⟨i, nb, he, h1, h2, h3, h4⟩ | ⟨he, h1⟩
  · rw [he]
    exact Or.inl ⟨i, rfl, h2, by omega, h4, Or.inl h3⟩
  · rw [he]
    by_cases hkn : k + 1 < n
    · have hh : r.head = 0 := by rw [h.head, show k + 1 - n = 0 by omega, Nat.zero_mod]
      have ht : k % n = k := Nat.mod_eq_of_lt (by omega)
      refine Or.inl ⟨0, ?_, hk, by omega, fun x _ hx => h1 x (by omega) hx, Or.inr ⟨rfl, hkn⟩⟩
      simp only [hh, ht]
      rw [if_pos (by omega), if_neg (by omega), if_neg (by omega), Nat.zero_mod]
    · refine Or.inr ⟨?_, by omega, h1⟩
      simp only
      rw [if_neg (by omega)]

theorem rebuildLoop_id {n r k} (h : RInv n r k) :
    ∀ d ev fuel, ev + d = k → k < ev + n → d < fuel →
      rebuildLoop r k fuel (ev % n) ev = some (r, k) := by
  intro d
  induction d with
  | zero =>
    intro ev fuel he _ hf
    obtain ⟨f, rfl⟩ := Nat.exists_eq_add_one_of_ne_zero (Nat.ne_zero_of_lt hf)
    rw [rebuildLoop, if_pos (by rw [h.tail, ← he]; rfl), ← he]; rfl
  | succ d ih =>
    intro ev fuel he hlt hf
    obtain ⟨f, rfl⟩ := Nat.exists_eq_add_one_of_ne_zero (Nat.ne_zero_of_lt hf)
    have hne : ev % n ≠ r.tail := by rw [h.tail]; exact mod_ne_of_lt (by omega) hlt
    have hset := List.set_eq_self (h.slots ev (by omega) (by omega))
    have hr : ({ r with ev := r.ev.set (ev % n) ev } : Ring) = r := by rw [hset]
    rw [rebuildLoop, if_neg hne, if_neg (by omega), hr, h.size, incWrap_mod n ev h.pos]
    exact ih (ev + 1) f (by omega) (by omega) (by omega)

/-- With the events in the order of the buffer the ring is already what
    `rebuild_ring` makes of it. -/
theorem rebuildRing_id {n r k first} (h : RInv n r k) (h1 : first < k) (h2 : k < first + n) :
    rebuildRing r (first % n) first k = some r := by
  unfold rebuildRing
  rw [h.size, rebuildLoop_id h (k - first) first (n + 1) (by omega) h2 (by omega)]
  exact if_neg (fun hne => hne rfl)

theorem ringCheckLoop_eq {n r} {buf : List Ev} (h : RInv n r buf.length) :
    ∀ d j fuel last, j + d = buf.length → buf.length < j + n → d < fuel →
      ringCheckLoop buf r fuel (j % n) last = inPlaceLoop last (buf.drop j) := by
  intro d
  induction d with
  | zero =>
    intro j fuel last he _ hf
    obtain ⟨f, rfl⟩ := Nat.exists_eq_add_one_of_ne_zero (Nat.ne_zero_of_lt hf)
    rw [ringCheckLoop, if_pos (by rw [h.tail, ← he]; rfl), List.drop_of_length_le (by omega)]; rfl
  | succ d ih =>
    intro j fuel last he hlt hf
    obtain ⟨f, rfl⟩ := Nat.exists_eq_add_one_of_ne_zero (Nat.ne_zero_of_lt hf)
    have hj : j < buf.length := by omega
    have hne : j % n ≠ r.tail := by rw [h.tail]; exact mod_ne_of_lt hj hlt
    rw [ringCheckLoop, if_neg hne, h.slot_eq hj (by omega), List.drop_eq_getElem_cons hj, clockAt_eq hj,
      inPlaceLoop, h.size, incWrap_mod n j h.pos]
    dsimp only
    split
    · rfl
    · exact ih (j + 1) f _ (by omega) (by omega) (by omega)

theorem ringCheck_eq {n r} {buf : List Ev} (h : RInv n r buf.length) {first : Nat}
    (h1 : first < buf.length) (h2 : buf.length < first + n) :
    ringCheck buf r (first % n) = inPlaceLoop 0 (buf.drop first) := by
  unfold ringCheck
  rw [h.size]
  exact ringCheckLoop_eq h (buf.length - first) first (n + 1) 0 (by omega) h2 (by omega)

/-- non-decreasing clocks, none below `c`, as the loops of `region_in_place`,
    `ring_check` and `stream_check` test it -/
theorem inPlaceLoop_iff {c : Nat} {l : List Ev} :
    inPlaceLoop c l = true ↔ (∀ e ∈ l, c ≤ e.clock) ∧ Sorted l := by
  unfold Sorted
  induction l generalizing c with
  | nil => exact ⟨fun _ => ⟨fun _ h => (nomatch h), List.Pairwise.nil⟩, fun _ => rfl⟩
  | cons a t ih =>
    rw [inPlaceLoop, List.pairwise_cons, List.forall_mem_cons]
    split
    · exact ⟨fun h => (nomatch h), fun h => by omega⟩
    · rw [ih]
      exact ⟨fun h => ⟨⟨by omega, fun e he => Nat.le_trans (by omega) (h.1 e he)⟩, h⟩, fun h => h.2⟩

theorem minClock_le_init (init : Nat) (l : List Ev) : minClock init l ≤ init := by
  unfold minClock
  induction l generalizing init with
  | nil => exact Nat.le_refl _
  | cons a t ih =>
    rw [List.foldl_cons]
    exact Nat.le_trans (ih _) (by split <;> omega)

theorem minClock_le_mem (init : Nat) (l : List Ev) : ∀ e ∈ l, minClock init l ≤ e.clock := by
  induction l generalizing init with
  | nil => intro e he; cases he
  | cons a t ih =>
    intro e he
    rw [minClock, List.foldl_cons]
    rcases List.mem_cons.1 he with rfl | he
    · exact Nat.le_trans (minClock_le_init _ t) (by split <;> omega)
    · exact ih _ e he

theorem minClock_snoc (init : Nat) (l : List Ev) (e : Ev) :
    minClock init (l ++ [e]) = min (minClock init l) e.clock := by
  unfold minClock
  rw [List.foldl_append, List.foldl_cons, List.foldl_nil]
  split <;> omega

/-- the clock `find_destination` is asked about: the least of the region -/
def regionMin (buf : List Ev) (bad0 : Nat) : Nat := minClock (clockAt buf bad0) (buf.drop bad0)

theorem regionMin_start (l : List Ev) (e : Ev) : regionMin (l ++ [e]) l.length = e.clock := by
  have hlt : l.length < (l ++ [e]).length := by rw [List.length_append]; exact Nat.lt_succ_self _
  rw [regionMin, clockAt_eq hlt, List.drop_left' rfl, List.getElem_concat_length rfl]
  exact if_neg (Nat.lt_irrefl _)

theorem regionMin_snoc {l : List Ev} {e : Ev} {b : Nat} (h : b < l.length) :
    regionMin (l ++ [e]) b = min (regionMin l b) e.clock := by
  rw [regionMin, clockAt_snoc e h, List.drop_append_of_le_length (by omega), minClock_snoc, regionMin]

/-- `execute_sort_plan` past the `region_in_place` test, with the ring arithmetic done. -/
theorem sortRegion_eq {n r} (sortFn : List Ev → List Ev) (buf : List Ev) (bad0 : Nat)
    (h : RInv n r buf.length) (hk : 1 ≤ buf.length) (hlen : ∀ l, (sortFn l).length = l.length) :
    (∃ first, first < buf.length ∧ buf.length < first + n ∧
        (∀ y ∈ buf.drop (first + 1), regionMin buf bad0 ≤ y.clock) ∧
        (clockAt buf first < regionMin buf bad0 ∨ (first = 0 ∧ buf.length + 1 < n)) ∧
        sortRegion sortFn buf r bad0 =
          (if inPlaceLoop 0 (sortFn (buf.drop first)) then Status.ok else Status.errRingNotSorted,
            sortFrom sortFn first buf, r, some (first, buf.length))) ∨
    (n ≤ buf.length + 1 ∧ (∀ y ∈ buf.drop (buf.length + 1 - n), regionMin buf bad0 ≤ y.clock) ∧
        sortRegion sortFn buf r bad0 = (Status.errNoDest, buf, r, none)) := by
  have hm : (if minClock (clockAt buf bad0) (buf.drop bad0) < clockAt buf bad0
      then minClock (clockAt buf bad0) (buf.drop bad0) else clockAt buf bad0) = regionMin buf bad0 := by
    have := minClock_le_init (clockAt buf bad0) (buf.drop bad0)
    unfold regionMin
    split <;> omega
  unfold sortRegion
  simp only [hm]
  rcases findDestination_spec buf (regionMin buf bad0) h hk with ⟨first, hd, h1, h2, h3, h4⟩ | ⟨hd, h1, h2⟩
  · refine Or.inl ⟨first, h1, h2, forall_mem_drop (fun i hi => h3 i (by omega)), h4, ?_⟩
    have h' : RInv n r (sortFrom sortFn first buf).length := by rw [sortFrom_length hlen]; exact h
    rw [hd]
    simp only [h.slot_eq h1 (by omega), if_neg (by omega : ¬ first ≥ buf.length), rebuildRing_id h h1 h2]
    rw [← sortFrom, ringCheck_eq h' (by rw [sortFrom_length hlen]; exact h1) (by rw [sortFrom_length hlen]; exact h2),
      sortFrom, List.drop_left' (by rw [List.length_take]; omega)]
    split <;> rfl
  · exact Or.inr ⟨h1, forall_mem_drop h2, by rw [hd]⟩

end Ovni.Ovnisort
