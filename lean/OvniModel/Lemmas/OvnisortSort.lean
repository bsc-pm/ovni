import OvniModel.Tools.Ovnisort
import OvniModel.Lemmas.InsertSort
/-! Order notions for C16.  A list with non-decreasing clocks is determined by its
    sublists of equal clock (`sorted_ext`), so there is only one stable sort.  A sort plan as an
    operation on the buffer (`sortFrom`) and on the whole stream (`applyPlan`). -/
namespace Ovni.Ovnisort

/-- non-decreasing (unsigned) clocks -/
def Sorted (l : List Ev) : Prop := l.Pairwise (fun a b => a.clock ≤ b.clock)

/-- non-decreasing in the order of `cmp_ev` (clocks cast to int64) -/
def SSorted (l : List Ev) : Prop := l.Pairwise (fun a b => skey a.clock ≤ skey b.clock)

/-- what is assumed of `qsort`: a permutation, sorted by `cmp_ev` -/
def IsSort (f : List Ev → List Ev) : Prop := ∀ l, (f l).Perm l ∧ SSorted (f l)

def atClock (c : Nat) (l : List Ev) : List Ev := l.filter (fun e => e.clock = c)

/-- stability, as a named hypothesis on `qsort` -/
def Stable (f : List Ev → List Ev) : Prop := ∀ l c, atClock c (f l) = atClock c l

instance (l : List Ev) : Decidable (Sorted l) := by unfold Sorted; infer_instance

theorem skey_le_iff {a b : Nat} (ha : a < 2 ^ 63) (hb : b < 2 ^ 63) : skey a ≤ skey b ↔ a ≤ b := by
  unfold skey; simp only [ha, hb, if_true]; omega

theorem skey_inj {a b : Nat} (ha : a < 2 ^ 64) (hb : b < 2 ^ 64) (h : skey a = skey b) : a = b := by
  unfold skey at h
  split at h <;> split at h <;> omega

theorem SSorted.sorted {l : List Ev} (h : SSorted l) (hc : ∀ e ∈ l, e.clock < 2 ^ 63) : Sorted l :=
  List.Pairwise.imp_of_mem (fun ha hb hab => (skey_le_iff (hc _ ha) (hc _ hb)).1 hab) h

theorem Sorted.ssorted {l : List Ev} (h : Sorted l) (hc : ∀ e ∈ l, e.clock < 2 ^ 63) : SSorted l :=
  List.Pairwise.imp_of_mem (fun ha hb hab => (skey_le_iff (hc _ ha) (hc _ hb)).2 hab) h

theorem Sorted.snoc {l : List Ev} {e : Ev} (h : Sorted l) (he : ∀ x ∈ l, x.clock ≤ e.clock) :
    Sorted (l ++ [e]) := by
  unfold Sorted at *
  rw [List.pairwise_append]
  refine ⟨h, List.pairwise_singleton _ _, fun a ha b hb => ?_⟩
  rw [List.mem_singleton] at hb; subst hb; exact he a ha

open Ovni.Emu.System (insertBy) in
theorem insertEv_eq (x : Ev) (l : List Ev) : insertEv x l = insertBy cmpLe x l := by
  induction l with
  | nil => rfl
  | cons y t ih => simp only [insertEv, insertBy, cmpLe, decide_eq_true_eq, ih]

open Ovni.Emu.System (sortBy) in
theorem isort_eq (l : List Ev) : isort l = sortBy cmpLe l := by
  induction l with
  | nil => rfl
  | cons x t ih => rw [isort, sortBy, ih, insertEv_eq]

theorem isort_perm (l : List Ev) : (isort l).Perm l := isort_eq l ▸ Ovni.Emu.System.sortBy_perm _ l

theorem isort_ssorted (l : List Ev) : SSorted (isort l) := by
  rw [isort_eq]
  refine (Ovni.Emu.System.sortBy_sorted cmpLe ?_ ?_ l).imp (fun h => of_decide_eq_true h)
  · intro a b; simp only [cmpLe, decide_eq_true_eq]; omega
  · intro a b c; simp only [cmpLe, decide_eq_true_eq]; omega

theorem atClock_insertEv (c : Nat) (x : Ev) (l : List Ev) :
    atClock c (insertEv x l) = atClock c (x :: l) := by
  induction l with
  | nil => rfl
  | cons y t ih =>
    rw [insertEv]
    split
    · rfl
    · -- `x` only moves past `y` when its key is strictly larger, so not both have clock `c`
      rename_i hxy
      simp only [atClock, List.filter_cons] at ih ⊢
      rw [ih]
      by_cases hy : y.clock = c
      · have hx : x.clock ≠ c := fun hx => hxy (by rw [hx, hy]; exact Int.le_refl _)
        simp [hx, hy]
      · simp [hy]

theorem isort_atClock (c : Nat) (l : List Ev) : atClock c (isort l) = atClock c l := by
  induction l with
  | nil => rfl
  | cons x t ih =>
    show atClock c (insertEv x (isort t)) = _
    rw [atClock_insertEv]
    simp only [atClock, List.filter_cons] at ih ⊢
    rw [ih]

theorem head_clock_le {a b : Ev} {t₁ t₂ : List Ev} (h₂ : Sorted (b :: t₂))
    (h : atClock a.clock (a :: t₁) = atClock a.clock (b :: t₂)) : b.clock ≤ a.clock := by
  have ha : a ∈ atClock a.clock (b :: t₂) := by rw [← h]; simp [atClock]
  rcases List.mem_cons.1 (List.mem_filter.1 ha).1 with e | e
  · rw [e]; exact Nat.le_refl _
  · exact (List.pairwise_cons.1 h₂).1 a e

theorem sorted_ext {l₁ l₂ : List Ev} (h₁ : Sorted l₁) (h₂ : Sorted l₂)
    (h : ∀ c, atClock c l₁ = atClock c l₂) : l₁ = l₂ := by
  induction l₁ generalizing l₂ with
  | nil =>
    cases l₂ with
    | nil => rfl
    | cons b t =>
      have := h b.clock
      simp [atClock] at this
  | cons a t₁ ih =>
    cases l₂ with
    | nil =>
      have := h a.clock
      simp [atClock] at this
    | cons b t₂ =>
      have hab : a.clock = b.clock :=
        Nat.le_antisymm (head_clock_le h₁ (h b.clock).symm) (head_clock_le h₂ (h a.clock))
      have hh := h a.clock
      simp only [atClock, List.filter_cons, decide_true, if_true, hab.symm] at hh
      have heq : a = b := by injection hh
      subst heq
      congr 1
      apply ih (List.pairwise_cons.1 h₁).2 (List.pairwise_cons.1 h₂).2
      intro c
      have hc := h c
      simp only [atClock, List.filter_cons] at hc
      split at hc
      · injection hc
      · exact hc

theorem stable_sort_sorted_eq_self {f : List Ev → List Ev} (hf : IsSort f) (hs : Stable f) {l : List Ev}
    (hl : Sorted l) (hc : ∀ e ∈ l, e.clock < 2 ^ 63) : f l = l := by
  apply sorted_ext _ hl (hs l)
  exact (hf l).2.sorted (fun e he => hc e ((hf l).1.mem_iff.1 he))

/-- one application of `sort_buf` + `write_stream` from event index `first` -/
def sortFrom (sortFn : List Ev → List Ev) (first : Nat) (buf : List Ev) : List Ev :=
  buf.take first ++ sortFn (buf.drop first)

theorem sortFrom_perm {sortFn : List Ev → List Ev} (hf : IsSort sortFn) (first : Nat) (d : List Ev) :
    (sortFrom sortFn first d).Perm d := by
  conv => rhs; rw [← List.take_append_drop first d]
  exact List.Perm.append_left _ (hf _).1

theorem sortFrom_length {sortFn : List Ev → List Ev} (hlen : ∀ l, (sortFn l).length = l.length)
    (first : Nat) (d : List Ev) : (sortFrom sortFn first d).length = d.length := by
  unfold sortFrom
  rw [List.length_append, hlen, List.length_take, List.length_drop]; omega

theorem sortFrom_take {sortFn : List Ev → List Ev} (hlen : ∀ l, (sortFn l).length = l.length)
    {q first : Nat} (h : q ≤ first) (d : List Ev) : (sortFrom sortFn first d).take q = d.take q := by
  unfold sortFrom
  rcases Nat.lt_or_ge d.length first with hlt | hge
  · have h1 : d.take first = d := List.take_of_length_le (by omega)
    have h2 : d.drop first = [] := List.drop_of_length_le (by omega)
    have h3 : sortFn [] = [] := List.eq_nil_of_length_eq_zero (by rw [hlen]; rfl)
    rw [h1, h2, h3, List.append_nil]
  · rw [List.take_append_of_le_length (by rw [List.length_take]; omega), List.take_take]
    congr 1; omega

theorem sortFrom_atClock {sortFn : List Ev → List Ev} (hs : Stable sortFn) (first c : Nat) (d : List Ev) :
    atClock c (sortFrom sortFn first d) = atClock c d := by
  conv => rhs; rw [← List.take_append_drop first d]
  unfold sortFrom atClock
  rw [List.filter_append, List.filter_append]
  congr 1
  exact hs _ c

/-- A logged plan `(first, next)` as an operation on the whole stream: `sort_buf` + `write_stream`
    saw the `next` events before the cursor. -/
def applyPlan (sortFn : List Ev → List Ev) (l : List Ev) (p : Nat × Nat) : List Ev :=
  sortFrom sortFn p.1 (l.take p.2) ++ l.drop p.2

theorem applyPlan_append (sortFn : List Ev → List Ev) (first : Nat) (d t : List Ev) :
    applyPlan sortFn (d ++ t) (first, d.length) = sortFrom sortFn first d ++ t := by
  rw [applyPlan, List.take_left' rfl, List.drop_left' rfl]

theorem applyPlan_perm {sortFn : List Ev → List Ev} (hf : IsSort sortFn) (l : List Ev) (p : Nat × Nat) :
    (applyPlan sortFn l p).Perm l := by
  conv => rhs; rw [← List.take_append_drop p.2 l]
  exact (sortFrom_perm hf _ _).append_right _

theorem applyPlan_take {sortFn : List Ev → List Ev} (hlen : ∀ l, (sortFn l).length = l.length)
    {q : Nat} {p : Nat × Nat} (h : q ≤ p.1) (l : List Ev) : (applyPlan sortFn l p).take q = l.take q := by
  rw [applyPlan, List.take_append, sortFrom_take hlen h, sortFrom_length hlen, ← List.take_append,
    List.take_append_drop]

theorem applyPlan_atClock {sortFn : List Ev → List Ev} (hs : Stable sortFn) (c : Nat) (l : List Ev)
    (p : Nat × Nat) : atClock c (applyPlan sortFn l p) = atClock c l := by
  conv => rhs; rw [← List.take_append_drop p.2 l]
  unfold applyPlan
  rw [atClock, List.filter_append, ← atClock, sortFrom_atClock hs, atClock, atClock, List.filter_append]

theorem foldl_applyPlan {sortFn : List Ev → List Ev} {P : List Ev → Prop} {plans : List (Nat × Nat)}
    (h : ∀ p ∈ plans, ∀ l, P l → P (applyPlan sortFn l p)) {l : List Ev} (h0 : P l) :
    P (plans.foldl (applyPlan sortFn) l) := by
  induction plans generalizing l with
  | nil => exact h0
  | cons p ps ih =>
    simp only [List.forall_mem_cons] at h
    exact ih h.2 (h.1 l h0)

end Ovni.Ovnisort
