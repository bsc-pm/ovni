import OvniModel.Lemmas.OvnisortInv
/-! `winsort` from the initial state, check mode and the emulator's stream test. -/
namespace Ovni.Ovnisort

theorem winsort_main {sortFn : List Ev → List Ev} (hf : IsSort sortFn) {n : Nat} (hn : 1 ≤ n)
    {evs : List Ev} (hne : evs ≠ []) (hr : OnlyRegionsUnsorted evs) (hc : ClocksSigned evs) :
    (WithinWindow n evs →
      (winsort sortFn n evs).status = Status.ok ∧ Sorted (winsort sortFn n evs).out ∧
        (winsort sortFn n evs).out.Perm evs) ∧
    (¬ WithinWindow n evs → (winsort sortFn n evs).status = Status.errNoDest) := by
  cases evs with
  | nil => exact absurd rfl hne
  | cons e t =>
    have hinv : Inv n (WS.init n) St.S 0 [] 0 true 0 :=
      ⟨rfl, RInv.new n hn, .refl _, fun _ h => (nomatch h), rfl, List.Pairwise.nil⟩
    have := wsLoop_main hf (e :: t) _ _ _ _ _ _ _ hinv hc hr
    exact ⟨fun hw => ⟨(this.1 hw).1, (this.1 hw).2, winsort_perm hf n _ false⟩,
      fun hw => this.2 (Bool.eq_false_iff.2 hw)⟩

theorem checkLoop_eq (last : Nat) (l : List Ev) (back : Bool) :
    checkLoop last l back = (!back && inPlaceLoop last l) := by
  induction l generalizing last back with
  | nil => simp [checkLoop, inPlaceLoop]
  | cons e t ih =>
    unfold checkLoop inPlaceLoop
    rw [ih]
    by_cases h : e.clock < last <;> simp [h]

/-- `inPlaceLoop_iff` for the emulator's test, which compares the clocks as `int64_t` -/
theorem stepsMonotone_iff {last : Int} {l : List Ev} :
    stepsMonotone last l = true ↔ (∀ e ∈ l, last ≤ skey e.clock) ∧ SSorted l := by
  unfold SSorted
  induction l generalizing last with
  | nil => exact ⟨fun _ => ⟨fun _ h => (nomatch h), List.Pairwise.nil⟩, fun _ => rfl⟩
  | cons a t ih =>
    rw [stepsMonotone, List.pairwise_cons, List.forall_mem_cons]
    split
    · exact ⟨fun h => (nomatch h), fun h => by omega⟩
    · rw [ih]
      exact ⟨fun h => ⟨⟨by omega, fun e he => Int.le_trans (by omega) (h.1 e he)⟩, h⟩, fun h => h.2⟩

theorem emuStreamAccepts_iff (l : List Ev) : emuStreamAccepts l = true ↔ SSorted l := by
  cases l with
  | nil => exact ⟨fun _ => List.Pairwise.nil, fun _ => rfl⟩
  | cons e t =>
    exact stepsMonotone_iff.trans (List.pairwise_cons (R := fun a b : Ev => skey a.clock ≤ skey b.clock)).symm

/-- The window condition without the in-place exemption (what the code
    before `region_in_place` needed of every non-empty region). -/
def windowOkAll (n : Nat) : St → List Ev → Nat → List Ev → Bool
  | _, _, _, [] => true
  | St.S, pre, _, e :: rest =>
    windowOkAll n (if e.kind = Kind.start then St.U else St.S) (e :: pre) 0 rest
  | St.U, pre, _, e :: rest =>
    if e.kind = Kind.stop then windowOkAll n St.S (e :: pre) 0 rest
    else windowOkAll n St.X (e :: pre) e.clock rest
  | St.X, pre, m, e :: rest =>
    if e.kind = Kind.stop then windowOkAt n m pre && windowOkAll n St.S (e :: pre) 0 rest
    else windowOkAll n St.X (e :: pre) (min m e.clock) rest

theorem windowOk_of_all (n : Nat) : ∀ (rest : List Ev) (st : St) (pre : List Ev) (m : Nat) (ip : Bool) (last : Nat),
    windowOkAll n st pre m rest = true → windowOk n st pre m ip last rest = true := by
  intro rest
  induction rest with
  | nil => intro st pre m ip last _; cases st <;> rfl
  | cons e rest ih =>
    intro st pre m ip last h
    cases st with
    | S => exact ih _ _ _ _ _ h
    | U =>
      rw [windowOkAll] at h
      rw [windowOk]
      split
      · rename_i hk; rw [if_pos hk] at h; exact ih _ _ _ _ _ h
      · rename_i hk; rw [if_neg hk] at h; exact ih _ _ _ _ _ h
    | X =>
      rw [windowOkAll] at h
      rw [windowOk]
      split
      · rename_i hk
        rw [if_pos hk, Bool.and_eq_true] at h
        rw [Bool.and_eq_true, Bool.or_eq_true]
        exact ⟨Or.inr h.1, ih _ _ _ _ _ h.2⟩
      · rename_i hk; rw [if_neg hk] at h; exact ih _ _ _ _ _ h

/-- On a sorted input every closed region is in place, so the loop only
    appends: no precondition on the regions, the ring or `sortFn`. -/
theorem wsLoop_sorted_noop (sortFn : List Ev → List Ev) (trunc : Bool) :
    ∀ (rest : List Ev) (s : WS), Sorted (s.done ++ rest) →
      (wsLoop sortFn trunc s rest).out = s.done ++ rest ∧
      (wsLoop sortFn trunc s rest).plans = s.plans ∧
      (wsLoop sortFn trunc s rest).status = (if trunc then Status.errStream else Status.ok) := by
  intro rest
  induction rest with
  | nil => intro s _; exact ⟨(List.append_nil _).symm, rfl, rfl⟩
  | cons e rest ih =>
    intro s hs
    have hsd : Sorted s.done := (List.pairwise_append.1 hs).1
    obtain ⟨s', hstep, hd, hp⟩ := wsStep_append (sortFn := sortFn) (e := e) (fun _ _ => inPlace_of_sorted s.opn hsd)
    have hassoc : s.done ++ e :: rest = s'.done ++ rest := by
      rw [hd, List.append_assoc, List.singleton_append]
    rw [hassoc] at hs ⊢
    simp only [wsLoop, hstep, ← hp]
    exact ih s' hs

theorem winsort_sorted_noop (sortFn : List Ev → List Ev) (n : Nat) {evs : List Ev} (hne : evs ≠ [])
    (hs : Sorted evs) (trunc : Bool) :
    (winsort sortFn n evs trunc).out = evs ∧ (winsort sortFn n evs trunc).plans = [] ∧
    (winsort sortFn n evs trunc).status = (if trunc then Status.errStream else Status.ok) := by
  cases evs with
  | nil => exact absurd rfl hne
  | cons e t => exact wsLoop_sorted_noop sortFn trunc (e :: t) (WS.init n) hs

end Ovni.Ovnisort
