import OvniModel.Emu.Player
import OvniModel.Lemmas.Heap
import OvniModel.Lemmas.ListLemmas
import OvniModel.Lemmas.Merge

/-! The replay is a greedy merge (`Lemmas/Merge`) of the streams' events by corrected clock.  Streams
    move by `adv`; `stepStream_spec` is `step_stream` for `player_init` and `player_step` alike.  One
    step of the concrete player (heap, re-insertion, clocks) is characterised by `EvCond`
    (`playerStep_cases`); `run` is then such a merge of the live streams (`run_merge`), `replay` one
    of all loaded streams (`replay_merge`); the clocks by `run_induct`.  Totality (`run_total`) has a
    fuel induction of its own, since `run_induct` presupposes a successful run: a step keeps `Good`
    and lowers `mu` by one.  Last, what precedes the player: `trace_load`'s sort by relpath and the
    clock offsets. -/
namespace Ovni.Player
open Ovni.Heap

def Wf (s : Stream) : Prop := ∃ e, s.cur = some e ∧ s.lastclock = e.clock + s.offset

/-- `stream_step` without its error check: move to the next event. -/
def adv (s : Stream) : Option Stream :=
  match s.rest with
  | [] => none
  | e :: r => some { s with cur := some e, rest := r, lastclock := e.clock + s.offset }

/-- pending event tagged with the stream's relpath and clock offset -/
abbrev PE := Str × Int × Ev

def PE.corr (x : PE) : Int := x.2.2.clock + x.2.1

def pendS (s : Stream) : List Ev := s.cur.toList ++ s.rest

/-- what an output line says about its event: stream, offset used, event -/
def peOut (o : Out) : PE := (o.relpath, o.sclock - o.ev.clock, o.ev)

/-- the stream `s` in the bag of a `Merge`, with the events `l` still to come -/
def entry (s : Stream) (l : List Ev) : Str × List (Int × Ev) := (s.relpath, l.map (s.offset, ·))

theorem adv_eq_some {s s' : Stream} (h : adv s = some s') : ∃ e r, s.rest = e :: r ∧
    s' = { s with cur := some e, rest := r, lastclock := e.clock + s.offset } := by
  unfold adv at h
  cases hr : s.rest with
  | nil => rw [hr] at h; cases h
  | cons e r => rw [hr] at h; cases h; exact ⟨e, r, rfl, rfl⟩

theorem adv_eq_none {s : Stream} : adv s = none ↔ s.rest = [] := by
  unfold adv
  cases s.rest <;> simp

theorem adv_pendS (s : Stream) : (adv s).toList.flatMap pendS = s.rest := by
  unfold adv
  cases h : s.rest with
  | nil => simp
  | cons e r => simp [pendS]

/-- The advanced stream takes the place of `s` in the bag; an exhausted stream leaves it. -/
theorem merge_adv {s : Stream} {H : List (Str × List (Int × Ev))} {os : List PE}
    (h : Merge PE.corr ((adv s).toList.map (fun x => entry x (pendS x)) ++ H) os) :
    Merge PE.corr (entry s s.rest :: H) os := by
  unfold adv at h
  cases hr : s.rest with
  | nil =>
    simp only [hr] at h
    exact h.pad (E := [entry s []]) (by simp [entry])
  | cons e r => simpa [hr, entry, pendS] using h

/-- corrected clocks of a stream never go backwards from its cursor on -/
def SortedS (s : Stream) : Prop :=
  (∀ e ∈ s.rest, s.lastclock ≤ e.clock + s.offset) ∧
  s.rest.Pairwise (fun a b => a.clock + s.offset ≤ b.clock + s.offset)

theorem adv_sorted (s s' : Stream) (hs : SortedS s) (h : adv s = some s') :
    SortedS s' ∧ s.lastclock ≤ s'.lastclock := by
  obtain ⟨e, r, hr, rfl⟩ := adv_eq_some h
  obtain ⟨h1, h2⟩ := hs
  rw [hr] at h1 h2
  rw [List.pairwise_cons] at h2
  exact ⟨⟨h2.1, h2.2⟩, h1 e List.mem_cons_self⟩

def skey (s : Stream) : Int := - s.lastclock

theorem sgt_key : GtKey sgt skey := by
  intro a b
  unfold sgt streamCmp skey
  by_cases h1 : a.lastclock < b.lastclock
  · simp [h1]
  · by_cases h2 : a.lastclock > b.lastclock
    · simp [h1, h2]
    · simp [h1, h2]

/-- a stepped stream as it sits in the heap or in `player->stream` -/
def WfA (s : Stream) : Prop := s.active = true ∧ Wf s

/-- What `playerStep` needs of the player to behave like a step of a `Merge`. -/
structure Inv (p : Player) : Prop where
  shape : Shape p.heap.root p.heap.size
  ordered : Ordered skey p.heap.root
  heapWf : ∀ s ∈ p.heap.root.toList, WfA s
  streamWf : ∀ s, p.stream = some s → WfA s

/-- the bag of streams that compete for the next event -/
def live (p : Player) : List Stream := (p.stream.bind adv).toList ++ p.heap.root.toList

/-- streams the player holds: the last emitted one and the heap -/
def sources (p : Player) : List Stream := p.stream.toList ++ p.heap.root.toList

theorem adv_wfA (s s' : Stream) (h : s.active = true) (ha : adv s = some s') : WfA s' := by
  obtain ⟨e, r, _, rfl⟩ := adv_eq_some ha
  exact ⟨h, e, rfl, rfl⟩

theorem adv_unsorted (s s' : Stream) (h : adv s = some s') : s'.unsorted = s.unsorted := by
  obtain ⟨e, r, _, rfl⟩ := adv_eq_some h
  rfl

/-- `stream_step` on an active stream is `adv` behind a check: the clock of a stream that is not
    flagged unsorted may not step back, except that the first event (`cur_ev == NULL`) is not
    compared with the zero-initialised `lastclock`. -/
theorem streamStep_adv (s s' : Stream) (ha : s.active = true) (h : adv s = some s') :
    streamStep s =
      if (!s.unsorted && s.cur.isSome && decide (s'.lastclock < s.lastclock)) then .err else .ok s' := by
  obtain ⟨e, r, hr, rfl⟩ := adv_eq_some h
  unfold streamStep
  simp only [ha, hr, Bool.not_true, Bool.false_eq_true, if_false]
  rfl

theorem streamStep_end (s : Stream) (c : Ev) (ha : s.active = true) (hc : s.cur = some c) (h : s.rest = []) :
    streamStep s = .eof { s with active := false, cur := none } := by
  unfold streamStep
  simp only [ha, hc, h, Bool.not_true, Bool.false_eq_true, if_false]

/-- `step_stream` for both its callers.  The stream is active iff it has a current or a further
    event: a freshly loaded one (`player_init`) or the one of the last emitted event (`player_step`).
    Either a backward clock is refused, or the stream advanced by one event enters the heap; a stream
    without further events leaves the heap alone.  Heap and counter are all that changes. -/
theorem stepStream_spec (p : Player) (s : Stream) (hi : Inv p)
    (hr : s.active = (s.cur.isSome || !s.rest.isEmpty)) :
    (stepStream p s = none ∧ ∃ s', adv s = some s' ∧ s.unsorted = false ∧ s.cur.isSome ∧
        s'.lastclock < s.lastclock) ∨
    ∃ h1 n1 s1 k, stepStream p s = some ({ p with heap := h1, nprocessed := n1 }, s1, k) ∧
      Inv { p with heap := h1, nprocessed := n1 } ∧
      h1.root.toList.Perm ((adv s).toList ++ p.heap.root.toList) ∧
      (s.cur = none → s1 = (adv s).getD s) := by
  unfold stepStream
  cases hadv : adv s with
  | none =>
    have hrest := adv_eq_none.1 hadv
    right
    cases hc : s.cur with
    | none =>
      have ha : s.active = false := by rw [hr, hc, hrest]; rfl
      simp only [ha, Bool.not_false, if_true]
      exact ⟨p.heap, p.nprocessed, s, 1, rfl, hi, .refl _, fun _ => rfl⟩
    | some c =>
      have ha : s.active = true := by rw [hr, hc]; rfl
      simp only [ha, streamStep_end s c ha hc hrest, Bool.not_true, Bool.false_eq_true, if_false]
      exact ⟨p.heap, p.nprocessed, _, 1, rfl, hi, .refl _, nofun⟩
  | some s' =>
    obtain ⟨e, r, hrest, _⟩ := adv_eq_some hadv
    have ha : s.active = true := by rw [hr, hrest]; exact Bool.or_true _
    simp only [ha, streamStep_adv s s' ha hadv, Bool.not_true, Bool.false_eq_true, if_false]
    by_cases hb : s.unsorted = false ∧ s.cur.isSome ∧ s'.lastclock < s.lastclock
    · rw [if_pos (by simp [hb])]
      exact Or.inl ⟨rfl, s', rfl, hb⟩
    · rw [if_neg (by simpa using hb)]
      obtain ⟨h', hins, _, hs', hp', ho'⟩ := insert_inv sgt p.heap s' hi.shape
      simp only [hins]
      refine Or.inr ⟨h', _, s', 0, rfl, ⟨hs', ho' skey sgt_key hi.ordered, fun x hx => ?_, hi.streamWf⟩, hp',
        fun _ => rfl⟩
      rcases List.mem_cons.1 (hp'.subset hx) with rfl | hx
      · exact adv_wfA s _ ha hadv
      · exact hi.heapWf x hx

/-- `readd` touches the heap, the counter and `player->stream` only; the heap then holds the live
    streams. -/
theorem readd_spec (p : Player) (hi : Inv p) :
    (readd p = none ∧ ∃ s s', p.stream = some s ∧ adv s = some s' ∧ s.unsorted = false ∧
        s'.lastclock < s.lastclock) ∨
    (∃ h1 n1 st1, readd p = some { p with heap := h1, nprocessed := n1, stream := st1 } ∧
       Inv { p with heap := h1, nprocessed := n1 } ∧ h1.root.toList.Perm (live p)) := by
  unfold readd live
  cases hst : p.stream with
  | none => exact Or.inr ⟨p.heap, p.nprocessed, p.stream, rfl, hst ▸ hi, .refl _⟩
  | some s =>
    obtain ⟨ha, c, hc, _⟩ := hi.streamWf s hst
    simp only [Option.bind_some]
    rcases stepStream_spec p s hi (by rw [ha, hc]; rfl) with
      ⟨he, s', hadv, hu, _, hlt⟩ | ⟨h1, n1, s1, k, he, hi1, hp1, _⟩ <;> rw [he]
    · exact Or.inl ⟨rfl, s, s', rfl, hadv, hu, hlt⟩
    · exact Or.inr ⟨h1, n1, some s1, rfl, hst ▸ hi1, hp1⟩

/-- What an emitting `player_step` establishes. -/
structure EvCond (p p' : Player) (o : Out) (s : Stream) (e : Ev) : Prop where
  inv : Inv p'
  stream : p'.stream = some s
  perm : (live p).Perm (s :: p'.heap.root.toList)
  cur : s.cur = some e
  clock : s.lastclock = e.clock + s.offset
  min : ∀ x ∈ p'.heap.root.toList, s.lastclock ≤ x.lastclock
  relpath : o.relpath = s.relpath
  ev : o.ev = e
  sclock : o.sclock = s.lastclock
  started : p'.firstEvent = false
  lastclock : p'.lastclock = s.lastclock
  firstclock : p'.firstclock = if p.firstEvent then s.lastclock else p.firstclock
  dclock : o.dclock = o.sclock - p'.firstclock
  unsorted : p'.unsorted = p.unsorted
  guard : p.unsorted = false → p.firstEvent = false → p.lastclock ≤ s.lastclock

theorem updateClocks_cases (p : Player) (s : Stream) :
    (p.firstEvent = false ∧ p.unsorted = false ∧ s.lastclock < p.lastclock ∧ updateClocks p s = none) ∨
    ((p.unsorted = false → p.firstEvent = false → p.lastclock ≤ s.lastclock) ∧
      updateClocks p s = some { p with
        firstEvent := false
        firstclock := if p.firstEvent then s.lastclock else p.firstclock
        lastclock := s.lastclock
        deltaclock := s.lastclock - if p.firstEvent then s.lastclock else p.firstclock }) := by
  unfold updateClocks
  cases hfe : p.firstEvent with
  | true =>
    refine Or.inr ⟨fun _ h => Bool.noConfusion h, ?_⟩
    simp only [if_true, Int.lt_irrefl, decide_false, Bool.false_and, Bool.false_eq_true, if_false]
  | false =>
    simp only [Bool.false_eq_true, if_false]
    by_cases hg : s.lastclock < p.lastclock ∧ p.unsorted = false
    · exact Or.inl ⟨trivial, hg.2, hg.1, if_pos (by simp [hg.1, hg.2])⟩
    · refine Or.inr ⟨fun hu _ => Int.not_lt.1 fun hh => hg ⟨hh, hu⟩, ?_⟩
      rw [if_neg fun hh => hg (by simpa using hh), hfe]

/-- `.err` of `player_step` has exactly two causes: the stream to re-insert (not flagged unsorted)
    steps backwards in its own clock, or (player not in unsorted mode, not the first event) some
    live stream is older than the clock emitted before. -/
theorem playerStep_cases (p : Player) (hi : Inv p) :
    (playerStep p = .err ∧
      ((∃ s s', p.stream = some s ∧ adv s = some s' ∧ s.unsorted = false ∧ s'.lastclock < s.lastclock) ∨
       (p.unsorted = false ∧ p.firstEvent = false ∧ ∃ s ∈ live p, s.lastclock < p.lastclock))) ∨
    (∃ p1, playerStep p = .fin p1 ∧ live p = []) ∨
    (∃ p' o s e, playerStep p = .ev p' o ∧ EvCond p p' o s e) := by
  unfold playerStep
  rcases readd_spec p hi with ⟨hr, hc⟩ | ⟨h1, n1, st1, hr, hi1, hp1⟩
  · left; rw [hr]; exact ⟨rfl, Or.inl hc⟩
  · rw [hr]
    simp only
    by_cases hnil : h1.root = .nil
    · right; left
      rw [popMax_empty sgt h1 hnil]
      refine ⟨_, rfl, ?_⟩
      rw [hnil] at hp1
      exact (List.Perm.nil_eq hp1).symm
    · obtain ⟨m, h', hpop, _, hs', hperm, hord⟩ := popMax_inv sgt h1 hi1.shape hnil
      obtain ⟨ho', hmax⟩ := hord skey sgt_key hi1.ordered
      rw [hpop]
      simp only
      have hwf : ∀ x ∈ m :: h'.root.toList, WfA x := fun x hx => hi1.heapWf x (hperm.symm.subset hx)
      obtain ⟨hma, e, hmc, hml⟩ := hwf m List.mem_cons_self
      -- the fields `update_clocks` reads are still those of `p`
      rcases updateClocks_cases { p with heap := h', nprocessed := n1, stream := st1 } m with
        ⟨g1, g2, g3, hu⟩ | ⟨hg, hu⟩ <;> rw [hu]
      · left
        exact ⟨rfl, Or.inr ⟨g2, g1, m, hp1.subset (hperm.symm.subset List.mem_cons_self), g3⟩⟩
      · right; right
        simp only [hmc]
        refine ⟨_, _, m, e, rfl, ?_⟩
        exact { inv := ⟨hs', ho', fun x hx => hwf x (List.mem_cons_of_mem _ hx),
                  fun s hs => by cases hs; exact ⟨hma, e, hmc, hml⟩⟩
                stream := rfl
                perm := hp1.symm.trans hperm
                cur := hmc
                clock := hml
                min := fun x hx => by
                  have := hmax x (hperm.symm.subset (List.mem_cons_of_mem _ hx))
                  unfold skey at this; omega
                relpath := rfl
                ev := rfl
                sclock := rfl
                started := rfl
                lastclock := rfl
                firstclock := rfl
                dclock := rfl
                unsorted := rfl
                guard := hg }

theorem live_of_ev {p p' : Player} {o : Out} {s : Stream} {e : Ev} (c : EvCond p p' o s e) :
    live p' = (adv s).toList ++ p'.heap.root.toList := by
  unfold live; rw [c.stream]; rfl

theorem run_induct {P : Player → List Out → Prop} (nil : ∀ {p}, live p = [] → P p [])
    (cons : ∀ {p p' o s e os}, EvCond p p' o s e → P p' os → P p (o :: os)) :
    ∀ (f : Nat) (p : Player) (out : List Out), Inv p → run f p = some out → P p out := by
  intro f
  induction f with
  | zero => intro p out _ h; simp [run] at h
  | succ f ih =>
    intro p out hi h
    unfold run at h
    rcases playerStep_cases p hi with ⟨he, _⟩ | ⟨p1, he, hl⟩ | ⟨p', o, s, e, he, c⟩ <;> rw [he] at h
    · cases h
    · cases h; exact nil hl
    · obtain ⟨out', hrun, rfl⟩ := Option.map_eq_some_iff.1 h
      exact cons c (ih p' out' c.inv hrun)

theorem run_merge : ∀ (f : Nat) (p : Player) (out : List Out), Inv p → run f p = some out →
    Merge PE.corr ((live p).map fun s => entry s (pendS s)) (out.map peOut) :=
  run_induct (P := fun p out => Merge PE.corr ((live p).map fun s => entry s (pendS s)) (out.map peOut))
    (fun hl => by rw [hl]; exact .nil nofun)
    fun {p p' o s e os} c ih => by
      have e1 : peOut o = (s.relpath, s.offset, e) := by
        simp only [peOut, c.relpath, c.ev, c.sclock, c.clock]
        congr 2; omega
      have e2 : entry s (pendS s) = (s.relpath, (s.offset, e) :: s.rest.map (s.offset, ·)) := by
        simp [entry, pendS, c.cur]
      rw [live_of_ev c, List.map_append] at ih
      rw [List.map_cons, e1]
      refine .cons ((c.perm.map _).trans (.of_eq (by rw [List.map_cons, e2]))) (fun b hb y hy => ?_) (merge_adv ih)
      obtain ⟨x, hx, rfl⟩ := List.mem_map.1 hb
      obtain ⟨_, ex, hxc, hxl⟩ := c.inv.heapWf x hx
      simp only [entry, pendS, hxc, Option.toList_some, List.singleton_append, List.map_cons, List.head?_cons,
        Option.some.injEq] at hy
      subst hy
      show e.clock + s.offset ≤ ex.clock + x.offset
      rw [← c.clock, ← hxl]; exact c.min x hx

/-- `dclock` counts from the player's `firstclock`, which the first emitted event sets. -/
theorem run_dclock : ∀ (f : Nat) (p : Player) (out : List Out), Inv p → run f p = some out →
    ∀ o0 ∈ out.head?, ∀ o ∈ out,
      o.dclock = o.sclock - if p.firstEvent then o0.sclock else p.firstclock :=
  run_induct (P := fun p out => ∀ o0 ∈ out.head?, ∀ o ∈ out,
      o.dclock = o.sclock - if p.firstEvent then o0.sclock else p.firstclock)
    (fun _ _ _ o ho => by cases ho)
    fun {p p' o _ _ os} c ih o0 h0 o' ho' => by
      cases h0
      have hfc : p'.firstclock = if p.firstEvent then o.sclock else p.firstclock := by
        rw [c.firstclock, c.sclock]
      rcases List.mem_cons.1 ho' with rfl | hin
      · rw [c.dclock, hfc]
      · cases os with
        | nil => cases hin
        | cons o1 os =>
          rw [ih o1 rfl o' hin, c.started, ← hfc]
          rfl

theorem run_sorted_mode : ∀ (f : Nat) (p : Player) (out : List Out), Inv p → run f p = some out →
    p.unsorted = false →
    out.Pairwise (fun a b => a.sclock ≤ b.sclock) ∧
    (p.firstEvent = false → ∀ o ∈ out, p.lastclock ≤ o.sclock) :=
  run_induct (P := fun p out => p.unsorted = false → out.Pairwise (fun a b => a.sclock ≤ b.sclock) ∧
      (p.firstEvent = false → ∀ o ∈ out, p.lastclock ≤ o.sclock))
    (fun _ _ => ⟨List.Pairwise.nil, fun _ o ho => by cases ho⟩)
    fun c ih hu => by
      obtain ⟨i1, i2⟩ := ih (by rw [c.unsorted]; exact hu)
      have i3 := i2 c.started
      rw [c.lastclock, ← c.sclock] at i3
      refine ⟨List.pairwise_cons.2 ⟨i3, i1⟩, fun hf o' ho' => ?_⟩
      have hg := c.guard hu hf
      rw [← c.sclock] at hg
      rcases List.mem_cons.1 ho' with rfl | hin
      · exact hg
      · exact Int.le_trans hg (i3 o' hin)

/-- Why `playerStep` never takes its two `.err` exits: `sorted` excludes a backward step inside a
    stream, `lb` one between streams, and under the player's `unsorted` flag every stream carries it. -/
structure Good (p : Player) : Prop where
  flag : p.unsorted = true → ∀ s ∈ sources p, s.unsorted = true
  sorted : p.unsorted = false → ∀ s ∈ sources p, SortedS s
  lb : p.unsorted = false → p.firstEvent = false → ∀ s ∈ live p, p.lastclock ≤ s.lastclock

/-- Number of steps the replay of the bag `B` takes: the events not yet emitted. -/
def mu (B : List Stream) : Nat := (B.flatMap pendS).length

section step
variable {p p' : Player} {o : Out} {s : Stream} {e : Ev}

/-- The streams `p'` holds were live in `p`: in its heap, or the last emitted one advanced. -/
theorem EvCond.keep (c : EvCond p p' o s e) {P : Stream → Prop} (h : ∀ x ∈ sources p, P x)
    (hadv : ∀ a b, P a → adv a = some b → P b) : ∀ x ∈ sources p', P x := by
  intro x hx
  unfold sources at hx
  rw [c.stream] at hx
  rcases List.mem_append.1 (c.perm.symm.subset hx) with hx | hx
  · obtain ⟨s0, hst, ha⟩ := Option.bind_eq_some_iff.1 (Option.mem_toList.1 hx)
    exact hadv s0 x (h s0 (List.mem_append_left _ (Option.mem_toList.2 hst))) ha
  · exact h x (List.mem_append_right _ hx)

theorem EvCond.good (c : EvCond p p' o s e) (hg : Good p) : Good p' := by
  have hS := fun hu => c.keep (hg.sorted hu) fun a b ha hab => (adv_sorted a b ha hab).1
  refine ⟨fun hu => ?_, fun hu => ?_, fun hu _ x hx => ?_⟩ <;> rw [c.unsorted] at hu
  · exact c.keep (hg.flag hu) fun a b ha hab => by rw [adv_unsorted a b hab]; exact ha
  · exact hS hu
  · rw [c.lastclock]
    rw [live_of_ev c] at hx
    rcases List.mem_append.1 hx with hx | hx
    · have hs : s ∈ sources p' := by unfold sources; rw [c.stream]; exact List.mem_cons_self
      exact (adv_sorted s x (hS hu s hs) (Option.mem_toList.1 hx)).2
    · exact c.min x hx

theorem EvCond.mu_live (c : EvCond p p' o s e) : mu (live p) = mu (live p') + 1 := by
  unfold mu
  rw [(List.Perm.flatMap_right pendS c.perm).length_eq, live_of_ev c, List.flatMap_cons, List.flatMap_append,
    adv_pendS]
  simp [pendS, c.cur]

end step

/-- Each `.ev` step lowers `mu (live p)` by one, and `init` starts with `mu = totalEvents`
    (`starts_mu`): hence the fuel `totalEvents + 1` of `replay`. -/
theorem run_total : ∀ (f : Nat) (p : Player), Inv p → Good p → mu (live p) < f →
    ∃ out, run f p = some out := by
  intro f
  induction f with
  | zero => intro p _ _ h; omega
  | succ f ih =>
    intro p hi hg hmu
    unfold run
    rcases playerStep_cases p hi with ⟨he, hc⟩ | ⟨p1, he, hl⟩ | ⟨p', o, s, e, he, c⟩ <;> rw [he]
    · exfalso
      rcases hc with ⟨s, s', hst, hadv, hu, hlt⟩ | ⟨hu, hfe, s, hs, hlt⟩
      · have hsrc : s ∈ sources p := List.mem_append_left _ (Option.mem_toList.2 hst)
        cases hpu : p.unsorted with
        | true => have := hg.flag hpu s hsrc; rw [hu] at this; cases this
        | false => have := (adv_sorted s s' (hg.sorted hpu s hsrc) hadv).2; omega
      · have := hg.lb hu hfe s hs; omega
    · exact ⟨[], rfl⟩
    · obtain ⟨out', hrun⟩ := ih p' c.inv (c.good hg) (by have := c.mu_live; omega)
      exact ⟨o :: out', by simp only [hrun]; rfl⟩

/-- a stream as `stream_load` (+ `stream_clkoff_set`) leaves it -/
def Loaded (s : Stream) : Prop :=
  s.cur = none ∧ s.active = !s.rest.isEmpty ∧ s.lastclock = 0 ∧ s.unsorted = false

/-- `stream_allow_unsorted` when the player runs in unsorted mode -/
def flag (u : Bool) (s : Stream) : Stream := if u then { s with unsorted := true } else s

/-- the stream positioned on its first event (`none` for a stream without events) -/
def start (u : Bool) (s : Stream) : Option Stream := adv (flag u s)

/-- the stream as the first `step_stream` leaves it in the trace list -/
def stepped (u : Bool) (s : Stream) : Stream := (start u s).getD (flag u s)

theorem flag_eq (u : Bool) (s : Stream) : flag u s = { s with unsorted := u || s.unsorted } := by
  cases u <;> rfl

theorem initLoop_spec (u : Bool) : ∀ (ss : List Stream) (p : Player), Inv p → (∀ s ∈ ss, Loaded s) →
    ∃ h n, initLoop u p ss = some ({ p with heap := h, nprocessed := n }, ss.map (stepped u)) ∧
      Inv { p with heap := h, nprocessed := n } ∧
      h.root.toList.Perm (ss.filterMap (start u) ++ p.heap.root.toList) := by
  intro ss
  induction ss with
  | nil => exact fun p hi _ => ⟨p.heap, p.nprocessed, rfl, hi, List.Perm.refl _⟩
  | cons s ss ih =>
    intro p hi hl
    obtain ⟨hc, ha, _⟩ := hl s List.mem_cons_self
    have hc' : (flag u s).cur = none := by rw [flag_eq]; exact hc
    rcases stepStream_spec p (flag u s) hi (by rw [flag_eq]; simp only [hc, ha]; rfl) with
      ⟨_, _, _, _, h, _⟩ | ⟨h1, n1, s1, k, he, hi1, hp1, hs1⟩
    · rw [hc'] at h; cases h
    · obtain ⟨h', n', e', hi', hp'⟩ := ih _ hi1 fun x hx => hl x (List.mem_cons_of_mem _ hx)
      -- `he` speaks of `flag u s`; `initLoop` contains its unfolding, the same term up to reduction
      have he' : stepStream p (if u = true then { s with unsorted := true } else s) = _ := he
      cases hs1 hc'
      refine ⟨h', n', by simp only [initLoop, he', e', List.map_cons]; rfl, hi', ?_⟩
      rw [filterMap_cons_toList, List.append_assoc]
      exact hp'.trans ((hp1.append_left _).trans (List.perm_append_comm_assoc _ _ _))

theorem inv_init0 (u : Bool) : Inv (Player.init0 u) :=
  ⟨shape_empty, trivial, (fun s hs => by cases hs), (fun s hs => by cases hs)⟩

theorem playerInit_cases (u : Bool) (ss : List Stream) (hl : ∀ s ∈ ss, Loaded s) :
    (playerInit ss u = none ∧ u = false ∧ clockGate (ss.map (stepped false)) = false) ∨
    (∃ p, playerInit ss u = some p ∧ Inv p ∧ p.stream = none ∧
      p.heap.root.toList.Perm (ss.filterMap (start u)) ∧ p.firstEvent = true ∧ p.unsorted = u) := by
  unfold playerInit
  obtain ⟨h, n, h1, h2, h4⟩ := initLoop_spec u ss (Player.init0 u) (inv_init0 u) hl
  rw [h1]
  simp only
  by_cases hg : (!u && !clockGate (ss.map (stepped u))) = true
  · left
    rw [if_pos hg]
    simp only [Bool.and_eq_true, Bool.not_eq_true'] at hg
    refine ⟨rfl, hg.1, ?_⟩
    have := hg.2
    rw [hg.1] at this; exact this
  · right
    rw [if_neg hg]
    exact ⟨_, rfl, h2, rfl, by simpa [Player.init0, Heap.empty, Tree.toList] using h4, rfl, rfl⟩

theorem start_pendS (u : Bool) (s : Stream) : (start u s).toList.flatMap pendS = s.rest := by
  rw [start, adv_pendS, flag_eq]

theorem starts_mu (u : Bool) (ss : List Stream) : mu (ss.filterMap (start u)) = totalEvents ss := by
  unfold mu totalEvents
  rw [filterMap_flatMap, congrArg (ss.flatMap ·) (funext (start_pendS u)), List.length_flatMap]

/-- A merge of the streams that enter the heap merges all loaded streams: those without events
    stay in the bag as exhausted. -/
theorem merge_starts (u : Bool) {os : List PE} : ∀ (ss : List Stream) (H : List (Str × List (Int × Ev))),
    Merge PE.corr ((ss.filterMap (start u)).map (fun s => entry s (pendS s)) ++ H) os →
      Merge PE.corr (ss.map (fun s => entry s s.rest) ++ H) os := by
  intro ss
  induction ss with
  | nil => exact fun _ h => h
  | cons s ss ih =>
    intro H h
    have he : entry (flag u s) (flag u s).rest = entry s s.rest := by rw [flag_eq]; rfl
    rw [filterMap_cons_toList, List.map_append, List.append_assoc] at h
    exact (ih _ ((he ▸ merge_adv h).of_perm List.perm_middle)).of_perm List.perm_middle.symm

def SortedRest (s : Stream) : Prop :=
  s.rest.Pairwise fun a b => a.clock + s.offset ≤ b.clock + s.offset

theorem start_sorted (u : Bool) (s s' : Stream) (hs : SortedRest s)
    (hst : start u s = some s') : SortedS s' := by
  rw [start, flag_eq] at hst
  obtain ⟨e, r, hr, rfl⟩ := adv_eq_some hst
  have hr : s.rest = e :: r := hr
  unfold SortedRest at hs
  rw [hr] at hs
  exact List.pairwise_cons.1 hs

/-- A successful replay is a run from the player that holds every stream with events, on its first. -/
theorem replay_some (u : Bool) (ss : List Stream) (out : List Out) (hl : ∀ s ∈ ss, Loaded s)
    (h : replay u ss = some out) :
    ∃ p, run (totalEvents ss + 1) p = some out ∧ Inv p ∧
      (live p).Perm (ss.filterMap (start u)) ∧ p.firstEvent = true ∧ p.unsorted = u := by
  unfold replay at h
  rcases playerInit_cases u ss hl with ⟨h1, _⟩ | ⟨p, h1, h2, h3, h4, h5, h6⟩ <;> rw [h1] at h
  · cases h
  · exact ⟨p, h, h2, by unfold live; rw [h3]; exact h4, h5, h6⟩

theorem replay_merge (u : Bool) (ss : List Stream) (out : List Out) (hl : ∀ s ∈ ss, Loaded s)
    (h : replay u ss = some out) : Merge PE.corr (ss.map fun s => entry s s.rest) (out.map peOut) := by
  obtain ⟨p, h1, h2, h4, _, _⟩ := replay_some u ss out hl h
  have := merge_starts u ss [] (by
    rw [List.append_nil]; exact (run_merge _ p out h2 h1).of_perm (h4.map _).symm)
  rwa [List.append_nil] at this

theorem replay_pending (u : Bool) (ss : List Stream) (out : List Out) (hl : ∀ s ∈ ss, Loaded s)
    (h : replay u ss = some out) : (out.map peOut).Perm (ss.flatMap fun s => s.rest.map fun e => (s.relpath, s.offset, e)) := by
  refine (replay_merge u ss out hl h).perm.trans (.of_eq ?_)
  simp only [Merge.elems, List.flatMap_map, entry, List.map_map]
  rfl

/-- In `ovnidump`'s mode, or on sorted streams that pass the clock gate, the replay never fails. -/
theorem replay_total_of (u : Bool) (ss : List Stream) (hl : ∀ s ∈ ss, Loaded s)
    (hu : u = false → clockGate (ss.map (stepped false)) = true ∧ ∀ s ∈ ss, SortedRest s) :
    ∃ out, replay u ss = some out := by
  unfold replay
  rcases playerInit_cases u ss hl with ⟨_, h, hg⟩ | ⟨p, h1, h2, h3, h4, h5, h6⟩
  · rw [(hu h).1] at hg; cases hg
  · rw [h1]
    have hlive : live p = p.heap.root.toList := by unfold live; rw [h3]; rfl
    have hsrc : ∀ x ∈ sources p, ∃ s ∈ ss, start u s = some x := fun x hx => by
      unfold sources at hx; rw [h3] at hx
      exact List.mem_filterMap.1 (h4.subset hx)
    refine run_total _ p h2 ⟨fun h x hx => ?_, fun h x hx => ?_, fun _ hf => ?_⟩ ?_
    · obtain ⟨s, _, hst⟩ := hsrc x hx
      rw [adv_unsorted _ _ hst, flag_eq, ← h6, h]; rfl
    · obtain ⟨s, hs, hst⟩ := hsrc x hx
      exact start_sorted u s x ((hu (h6 ▸ h)).2 s hs) hst
    · rw [h5] at hf; cases hf
    · rw [hlive, mu, (List.Perm.flatMap_right pendS h4).length_eq, ← mu, starts_mu]
      omega

/-- `strcmp(a, b) <= 0` is the lexicographic order of the byte lists. -/
theorem strLe_iff : ∀ (a b : Str), strLe a b = true ↔ a ≤ b
  | [], b => by simp [strLe]
  | _ :: _, [] => by simp [strLe]
  | x :: a, y :: b => by
    rw [strLe, List.cons_le_cons_iff, ← strLe_iff a b]
    by_cases h1 : x < y
    · simp [h1]
    · by_cases h2 : y < x
      · simp [h1, h2]; omega
      · simp [h1, h2]; omega

theorem strLe_total (a b : Str) : (strLe a b || strLe b a) = true := by
  rw [Bool.or_eq_true, strLe_iff, strLe_iff]
  exact List.le_total a b

theorem strLe_trans (a b c : Str) (h1 : strLe a b = true) (h2 : strLe b c = true) : strLe a c = true :=
  (strLe_iff a c).2 (List.le_trans ((strLe_iff a b).1 h1) ((strLe_iff b c).1 h2))

theorem strLe_antisymm (a b : Str) (h1 : strLe a b = true) (h2 : strLe b a = true) : a = b :=
  List.le_antisymm ((strLe_iff a b).1 h1) ((strLe_iff b a).1 h2)

def mkStream (ls : List (Str × Int)) (r : Raw) : Stream :=
  { Stream.load r.relpath r.evs with offset := offOf ls r.loom }

/-- The guards of `stream_clkoff_set` are dead on freshly loaded streams. -/
theorem setOffsets_eq (ls : List (Str × Int)) : ∀ (rs : List Raw),
    setOffsets ls rs = some (rs.map (mkStream ls)) := by
  intro rs
  induction rs with
  | nil => rfl
  | cons r rs ih =>
    unfold setOffsets
    rw [ih]
    simp [Stream.clkoffSet, Stream.load, mkStream]

theorem mkStream_loaded (ls : List (Str × Int)) (r : Raw) : Loaded (mkStream ls r) :=
  ⟨rfl, rfl, rfl, rfl⟩

theorem load_loaded (rp : Str) (evs : List Ev) : Loaded (Stream.load rp evs) :=
  ⟨rfl, rfl, rfl, rfl⟩

end Ovni.Player
