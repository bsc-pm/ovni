import OvniModel.Lemmas.PvText

/- C13 text level: the lines of a .pcf text (`blockLines`), and that the types it declares
   (`pcfDeclared`) contain the id of every type of the structure it was printed from.  No hypothesis
   on the labels there: `pcfDeclared` reads a type line only up to the blank after the id. -/
namespace Ovni.Emu.PvText
open Ovni.Emu Ovni.Generated

/-- what `%-Wd %s` prints after the number: the blanks that fill the `W` columns, the separating blank, the label -/
def padLabel (w : Nat) (num label : Text) : Text := List.replicate (w - num.length) ' ' ++ ' ' :: label

def typeLineBody (id : Nat) (label : Text) : Text := ['0', ' '] ++ (natDec id ++ padLabel 10 (natDec id) label)

def valueLineBody (v : Int × Text) : Text := intDec v.1 ++ padLabel 4 (intDec v.1) v.2

theorem pcfTypeLine_eq (id : Nat) (label : Text) : pcfTypeLine id label = typeLineBody id label ++ ['\n'] := by
  simp only [pcfTypeLine, typeLineBody, padLabel, padRight, List.append_assoc, List.cons_append, List.nil_append]

theorem pcfValueLine_eq (v : Int × Text) : pcfValueLine v = valueLineBody v ++ ['\n'] := by
  simp only [pcfValueLine, valueLineBody, padLabel, padRight, List.append_assoc, List.cons_append, List.nil_append]

theorem typeLineBody_append (id : Nat) (label rest : Text) :
    typeLineBody id label ++ rest = typeLineBody id (label ++ rest) := by
  simp only [typeLineBody, padLabel, List.append_assoc, List.cons_append]

theorem padLabel_blank (w : Nat) (num label : Text) : ∃ t, padLabel w num label = ' ' :: t := by
  unfold padLabel
  cases w - num.length with
  | zero => exact ⟨label, rfl⟩
  | succ k => exact ⟨List.replicate k ' ' ++ ' ' :: label, rfl⟩

theorem padLabel_head (w : Nat) (num label : Text) : NoDigitHead (padLabel w num label) := by
  obtain ⟨t, e⟩ := padLabel_blank w num label
  rw [e]
  exact .cons rfl t

theorem padLabel_no_nl (w : Nat) (num label : Text) (h : '\n' ∉ label) : '\n' ∉ padLabel w num label := by
  simp [padLabel, h]

theorem typeLineBody_no_nl (id : Nat) (label : Text) (h : '\n' ∉ label) : '\n' ∉ typeLineBody id label := by
  simp [typeLineBody, natDec_no_nl, padLabel_no_nl _ _ _ h]

theorem valueLineBody_no_nl (v : Int × Text) (h : '\n' ∉ v.2) : '\n' ∉ valueLineBody v := by
  simp [valueLineBody, intDec_no_nl, padLabel_no_nl _ _ _ h]

theorem litPcf_no_nl : '\n' ∉ litEventType ∧ '\n' ∉ litValues := by
  unfold litEventType litValues
  rw [String.toList_ofList, String.toList_ofList]
  decide

/-- what `parsePcfBlock` reads of a block: the type, `VALUES`, the values -/
def blockTail (t : PcfType) : List Text := typeLineBody t.id t.label :: litValues :: t.values.map valueLineBody

/-- the lines `write_type` prints: two blank lines, `EVENT_TYPE`, the block -/
def blockLines (t : PcfType) : List Text := [] :: [] :: litEventType :: blockTail t

theorem pcfTypeText_lines (t : PcfType) : pcfTypeText t = unlines (blockLines t) := by
  simp only [pcfTypeText, unlines, blockLines, blockTail, List.flatMap_cons, List.flatMap_map, pcfTypeLine_eq,
    ← pcfValueLine_eq, List.append_assoc, List.cons_append, List.nil_append]

theorem pcfScan_mem (b : Text) (n : Nat) (hb : pcfTypeOfLine b = some n) :
    ∀ (pre post : List Text), n ∈ pcfScan (pre ++ litEventType :: b :: post) := by
  intro pre post
  induction pre with
  | nil =>
    simp only [List.nil_append, pcfScan, if_true, hb]
    simp
  | cons x pre ih =>
    -- `pcfScan` matches on two leading lines: a second line is exhibited so that its equation applies
    obtain ⟨y, rest, e⟩ : ∃ y rest, pre ++ litEventType :: b :: post = y :: rest := by
      cases pre with
      | nil => exact ⟨_, _, rfl⟩
      | cons y pre' => exact ⟨_, _, rfl⟩
    rw [List.cons_append, e, pcfScan, ← e]
    exact List.mem_append_right _ ih

theorem pcfTypeOfLine_body (id : Nat) (label : Text) : pcfTypeOfLine (typeLineBody id label) = some id := by
  obtain ⟨t, e⟩ := padLabel_blank 10 (natDec id) label
  unfold pcfTypeOfLine typeLineBody
  rw [expect_append]
  simp only
  rw [readNat_natDec id _ (padLabel_head _ _ _), e]
  rfl

def typeIds (p : Pcf) : List Nat := p.map (·.id)

theorem pcf_declares {p : Pcf} {ty : Nat} (h : ty ∈ typeIds p) : ty ∈ pcfDeclared (pcfText p) := by
  obtain ⟨t, ht, rfl⟩ := List.mem_map.mp h
  obtain ⟨p1, p2, rfl⟩ := List.append_of_mem ht
  -- the label may contain newlines: the type line is known only up to the blank after the id, `typeLineBody t.id []`
  obtain ⟨rest, e⟩ : ∃ rest, pcfText (p1 ++ t :: p2) = (pcfHeader ++ pcfColors ++ p1.flatMap pcfTypeText) ++ '\n' ::
      ([] ++ '\n' :: (litEventType ++ '\n' :: (typeLineBody t.id [] ++ rest))) := by
    refine ⟨t.label ++ '\n' :: (litValues ++ '\n' :: (t.values.flatMap pcfValueLine ++ p2.flatMap pcfTypeText)), ?_⟩
    simp only [pcfText, List.flatMap_append, List.flatMap_cons, pcfTypeText, pcfTypeLine_eq, typeLineBody_append,
      List.append_assoc, List.cons_append, List.nil_append]
  unfold pcfDeclared
  obtain ⟨r0, rs, e3⟩ := splitNl_prefix (typeLineBody t.id []) rest (typeLineBody_no_nl t.id [] List.not_mem_nil)
  rw [e, splitNl_nl, splitNl_line _ _ List.not_mem_nil, splitNl_line _ _ litPcf_no_nl.1, e3, typeLineBody_append,
    List.append_cons]
  exact pcfScan_mem _ t.id (pcfTypeOfLine_body t.id _) _ rs

end Ovni.Emu.PvText
