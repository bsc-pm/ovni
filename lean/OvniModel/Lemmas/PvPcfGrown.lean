import OvniModel.Lemmas.PvPcfRt

/-
  C13 text level: what the emulator puts into thread.pcf and cpu.pcf — which
  types, which (type, value) pairs — and that its labels contain no newline
  when those of the metadata contain none.
-/
namespace Ovni.Emu.PvText
open Ovni.Generated

def HasVal (p : Pcf) (id : Nat) (v : Int) : Prop := ∃ t ∈ p, t.id = id ∧ ∃ l, (v, l) ∈ t.values

def Ext (p p' : Pcf) : Prop := ∀ id v, HasVal p id v → HasVal p' id v

theorem Ext.trans {p q r : Pcf} (h1 : Ext p q) (h2 : Ext q r) : Ext p r := fun id v h => h2 id v (h1 id v h)

theorem hasVal_text {p : Pcf} (hwf : PcfWf p) {id : Nat} {v : Int} (h : HasVal p id v) :
    v ∈ pcfValuesOf (pcfText p) id := by
  obtain ⟨t, ht, hid, l, hl⟩ := h
  rw [pcfValuesOf_of_parse (parsePcfTypes_pcfText p hwf)]
  simp only [List.mem_flatMap, List.mem_filter, List.mem_map]
  refine ⟨(t.id, t.label, t.values), ⟨?_, by simp [hid]⟩, (v, l), hl, rfl⟩
  exact List.mem_map.mpr ⟨t, ht, rfl⟩

/-! All that `threadPcf` / `cpuPcf` do is call `pcf_add_type` and `pcf_add_value`; `Grown` records what a
    series of such calls leaves behind.  `P` is "no newline" for the round trip, and trivial where only
    the types or the values matter. -/

def AllLabels (P : Text → Prop) (p : Pcf) : Prop := ∀ t ∈ p, P t.label ∧ ∀ v ∈ t.values, P v.2

structure Grown (P : Text → Prop) (tys : List Nat) (vals : List (Nat × Int)) (p p' : Pcf) : Prop where
  ids : typeIds p' = typeIds p ++ tys
  ext : Ext p p'
  has : ∀ x ∈ vals, HasVal p' x.1 x.2
  labels : AllLabels P p → AllLabels P p'

section
variable {P : Text → Prop}

theorem Grown.refl (P : Text → Prop) (p : Pcf) : Grown P [] [] p p :=
  ⟨(List.append_nil _).symm, fun _ _ h => h, nofun, id⟩

theorem Grown.trans {a b : List Nat} {va vb : List (Nat × Int)} {p q r : Pcf} (h1 : Grown P a va p q)
    (h2 : Grown P b vb q r) : Grown P (a ++ b) (va ++ vb) p r :=
  ⟨by rw [h2.ids, h1.ids, List.append_assoc], h1.ext.trans h2.ext,
    fun x hx => (List.mem_append.mp hx).elim (fun h => h2.ext _ _ (h1.has x h)) (h2.has x),
    fun h => h2.labels (h1.labels h)⟩

theorem Grown.sub {tys : List Nat} {vals vals' : List (Nat × Int)} {p p' : Pcf} (h : Grown P tys vals p p')
    (hs : ∀ x ∈ vals', x ∈ vals) : Grown P tys vals' p p' :=
  ⟨h.ids, h.ext, fun x hx => h.has x (hs x hx), h.labels⟩

theorem pcfAddType_grown {p p' : Pcf} {id : Nat} {label : Text} (hl : P label)
    (h : pcfAddType p id label = .ok p') : Grown P [id] [] p p' := by
  unfold pcfAddType at h
  split at h
  · cases h
  · split at h
    · cases h
    · cases h
      refine ⟨by simp [typeIds], ?_, nofun, fun hp t ht => ?_⟩
      · rintro id v ⟨t, ht, r⟩
        exact ⟨t, List.mem_append_left _ ht, r⟩
      · rcases List.mem_append.mp ht with ht | ht
        · exact hp t ht
        · rw [List.mem_singleton.mp ht]
          exact ⟨hl, nofun⟩

theorem pcfAddValue_grown {p p' : Pcf} {id : Nat} {v : Int} {label : Text} (hl : P label)
    (h : pcfAddValue p id v label = .ok p') : Grown P [] [(id, v)] p p' := by
  unfold pcfAddValue at h
  split at h
  · cases h
  · rename_i t hfind
    split at h
    · cases h
    · split at h
      · cases h
      · cases h
        have hid := List.find?_some hfind
        refine ⟨?_, ?_, ?_, fun hp t' ht' => ?_⟩
        · simp only [typeIds, List.map_map, List.append_nil]
          apply List.map_congr_left
          intro x _
          simp only [Function.comp]
          split <;> rfl
        · rintro id0 v0 ⟨t0, ht0, hid0, l0, hl0⟩
          refine ⟨_, List.mem_map.mpr ⟨t0, ht0, rfl⟩, ?_, l0, ?_⟩
          · split <;> exact hid0
          · split
            · exact List.mem_append_left _ hl0
            · exact hl0
        · intro x hx
          rw [List.mem_singleton.mp hx]
          refine ⟨_, List.mem_map.mpr ⟨t, List.mem_of_find?_eq_some hfind, rfl⟩, ?_, label, ?_⟩
          · rw [if_pos hid]; simpa using hid
          · rw [if_pos hid]; simp
        · obtain ⟨t0, ht0, rfl⟩ := List.mem_map.mp ht'
          split
          · refine ⟨(hp t0 ht0).1, fun x hx => ?_⟩
            rcases List.mem_append.mp hx with hx | hx
            · exact (hp t0 ht0).2 x hx
            · rw [List.mem_singleton.mp hx]; exact hl
          · exact hp t0 ht0

theorem pcfAddValues_grown {id : Nat} : ∀ (vs : List (Int × Text)) {p p' : Pcf}, (∀ v ∈ vs, P v.2) →
    pcfAddValues p id vs = .ok p' → Grown P [] (vs.map fun v => (id, v.1)) p p'
  | [], p, p', _, h => by
    cases h
    exact Grown.refl P p
  | (v, l) :: r, p, p', hl, h => by
    simp only [pcfAddValues] at h
    split at h
    · cases h
    · rename_i p1 ha
      exact (pcfAddValue_grown (hl (v, l) (by simp)) ha).trans
        (pcfAddValues_grown r (fun x hx => hl x (by simp [hx])) h)

def TableLabels (P : Text → Prop) (pre : String) (vals : List (Int × String)) : Prop :=
  (∀ mode, P (pre.toList ++ [' '] ++ (pcfSuffix mode).toList)) ∧ ∀ v ∈ vals, P v.2.toList

theorem pcfAddType_addValues_grown {α : Type} {p p1 p2 : Pcf} {id : Nat} {label : Text} {vals : List α}
    {f : α → Int × Text} (hl : P label) (hv : ∀ v ∈ vals, P (f v).2) (h1 : pcfAddType p id label = .ok p1)
    (h2 : pcfAddValues p1 id (vals.map f) = .ok p2) : Grown P [id] (vals.map fun v => (id, (f v).1)) p p2 := by
  have := (pcfAddType_grown hl h1).trans (pcfAddValues_grown _ (fun v hv' => by
    obtain ⟨w, hw, rfl⟩ := List.mem_map.mp hv'
    exact hv w hw) h2)
  rwa [List.map_map] at this

theorem pcfCreateType_grown {p p' : Pcf} {type mode : Nat} {pre : String} {vals : List (Int × String)}
    (hl : TableLabels P pre vals) (h : pcfCreateType p type mode pre vals = .ok p') :
    Grown P [type] (vals.map fun v => (type, v.1)) p p' := by
  unfold pcfCreateType at h
  simp only at h
  split at h
  · cases h
  · split at h
    · cases h
    · rename_i p1 ha
      exact pcfAddType_addValues_grown (hl.1 mode) hl.2 ha h

theorem pcfInitModel_grown (types tracks : List Nat) (info : PcfInfo)
    (hi : ∀ i, TableLabels P (info.prefixes.getD i "") (info.labels.getD i [])) :
    ∀ (is : List Nat) {p p' : Pcf}, pcfInitModel types tracks info is p = .ok p' →
      Grown P (is.map (types.getD · 0))
        (is.flatMap fun i => (info.labels.getD i []).map fun v => (types.getD i 0, v.1)) p p'
  | [], p, p', h => by
    cases h
    exact Grown.refl P p
  | i :: r, p, p', h => by
    simp only [pcfInitModel] at h
    split at h
    · cases h
    · rename_i p1 ha
      exact (pcfCreateType_grown (hi i) ha).trans (pcfInitModel_grown types tracks info hi r h)

def markTypeId (t : MarkType) : Nat := prvOvniMark + t.type.toNat

def MarkLabels (P : Text → Prop) (ms : List MarkType) : Prop :=
  ∀ m ∈ ms, P m.title.toList ∧ ∀ l ∈ m.labels, P l.2.toList

theorem pcfInitMarks_grown : ∀ (ms : List MarkType) {p p' : Pcf}, MarkLabels P ms →
    pcfInitMarks ms p = .ok p' → Grown P (ms.map markTypeId) [] p p'
  | [], p, p', _, h => by
    cases h
    exact Grown.refl P p
  | t :: r, p, p', hm, h => by
    simp only [pcfInitMarks] at h
    split at h
    · cases h
    · rename_i p1 ha
      split at h
      · cases h
      · rename_i p2 hb
        have ht := hm t (by simp)
        exact ((pcfAddType_addValues_grown ht.1 ht.2 ha hb).trans
          (pcfInitMarks_grown r (fun x hx => hm x (by simp [hx])) h)).sub nofun

/-- the ids one channel group contributes to a PCF (`cpu`: cpu.pcf) -/
def specPcfTypes (cpu : Bool) (marks : List MarkType) (s : ModelSpec) : List Nat :=
  if s.char = markGroup then marks.map markTypeId
  else match pcfInfo s.char with
    | none => []
    | some info => (List.range s.nch).map ((if cpu then info.cpuType else s.pvtType).getD · 0)

/-- the (type, value) pairs a model labels: per channel its label table (the labels of the marks are not
    followed) -/
def specPcfVals (cpu : Bool) (s : ModelSpec) : List (Nat × Int) :=
  if s.char = markGroup then []
  else match pcfInfo s.char with
    | none => []
    | some info => (List.range s.nch).flatMap fun i =>
        (info.labels.getD i []).map fun v => ((if cpu then info.cpuType else s.pvtType).getD i 0, v.1)

theorem pcfInitModels_grown (cpu : Bool) (marks : List MarkType) (hm : MarkLabels P marks)
    (hinfo : ∀ ch info, pcfInfo ch = some info → ∀ i, TableLabels P (info.prefixes.getD i "") (info.labels.getD i [])) :
    ∀ (ss : List ModelSpec) {p p' : Pcf}, pcfInitModels cpu marks ss p = .ok p' →
      Grown P (ss.flatMap (specPcfTypes cpu marks)) (ss.flatMap (specPcfVals cpu)) p p'
  | [], p, p', h => by
    cases h
    exact Grown.refl P p
  | s :: r, p, p', h => by
    simp only [pcfInitModels] at h
    rw [List.flatMap_cons, List.flatMap_cons, specPcfTypes, specPcfVals]
    split at h
    · rename_i hmk
      split at h
      · cases h
      · rename_i p1 ha
        rw [if_pos hmk, if_pos hmk]
        exact (pcfInitMarks_grown marks hm ha).trans (pcfInitModels_grown cpu marks hm hinfo r h)
    · rename_i hmk
      split at h
      · cases h
      · rename_i info hi
        split at h
        · cases h
        · rename_i p1 ha
          rw [if_neg hmk, if_neg hmk, hi]
          exact (pcfInitModel_grown _ _ info (hinfo _ _ hi) _ ha).trans (pcfInitModels_grown cpu marks hm hinfo r h)

def SysLabels (P : Text → Prop) (l : List (Nat × String × List (Int × String))) : Prop :=
  ∀ x ∈ l, P x.2.1.toList ∧ ∀ v ∈ x.2.2, P v.2.toList

theorem pcfSysTypes_grown : ∀ (l : List (Nat × String × List (Int × String))) {p p' : Pcf}, SysLabels P l →
    pcfSysTypes l p = .ok p' →
      Grown P (l.map (·.1)) (l.flatMap fun x => x.2.2.map fun v => (x.1, v.1)) p p'
  | [], p, p', _, h => by
    cases h
    exact Grown.refl P p
  | (ty, name, vals) :: r, p, p', hl, h => by
    simp only [pcfSysTypes] at h
    split at h
    · cases h
    · rename_i p1 ha
      split at h
      · cases h
      · rename_i p2 hb
        have hx := hl (ty, name, vals) (by simp)
        exact (pcfAddType_addValues_grown hx.1 hx.2 ha hb).trans
          (pcfSysTypes_grown r (fun x hx => hl x (by simp [hx])) h)

theorem pcfTaskTypes_grown {id : Nat} : ∀ (ts : List (Int × Text)) {p p' : Pcf}, (∀ t ∈ ts, P t.2) →
    pcfTaskTypes p id ts = .ok p' → Grown P [] [] p p'
  | [], p, p', _, h => by
    cases h
    exact Grown.refl P p
  | (gid, label) :: r, p, p', hl, h => by
    simp only [pcfTaskTypes] at h
    have hr : ∀ t ∈ r, P t.2 := fun x hx => hl x (by simp [hx])
    split at h
    · split at h
      · exact pcfTaskTypes_grown r hr h
      · cases h
    · split at h
      · cases h
      · rename_i p1 ha
        exact ((pcfAddValue_grown (hl (gid, label) (by simp)) ha).trans (pcfTaskTypes_grown r hr h)).sub
          nofun

theorem pcfFinishTasks_go_grown {ty : Nat} : ∀ (ps : List (List (Int × Text))) {p p' : Pcf},
    (∀ ts ∈ ps, ∀ t ∈ ts, P t.2) → pcfFinishTasks.go ty ps p = .ok p' → Grown P [] [] p p'
  | [], p, p', _, h => by
    cases h
    exact Grown.refl P p
  | ts :: r, p, p', hl, h => by
    simp only [pcfFinishTasks.go] at h
    split at h
    · cases h
    · rename_i p1 ha
      exact (pcfTaskTypes_grown ts (hl ts (by simp)) ha).trans
        (pcfFinishTasks_go_grown r (fun x hx => hl x (by simp [hx])) h)

def TaskLabels (P : Text → Prop) (l : List (Nat × List (List (Int × Text)))) : Prop :=
  ∀ x ∈ l, ∀ ps ∈ x.2, ∀ t ∈ ps, P t.2

theorem pcfFinishTasks_grown : ∀ (l : List (Nat × List (List (Int × Text)))) {p p' : Pcf}, TaskLabels P l →
    pcfFinishTasks l p = .ok p' → Grown P [] [] p p'
  | [], p, p', _, h => by
    cases h
    exact Grown.refl P p
  | (ch, procs) :: r, p, p', hl, h => by
    simp only [pcfFinishTasks] at h
    split at h
    · cases h
    · split at h
      · cases h
      · rename_i p1 ha
        exact (pcfFinishTasks_go_grown procs (hl (ch, procs) (by simp)) ha).trans
          (pcfFinishTasks_grown r (fun y hy => hl y (by simp [hy])) h)

end

/-! Every label of thread.pcf / cpu.pcf comes from a fixed table of the emulator (checked by
    evaluation), from a CPU name (`cpuName_no_nl`) or from the trace metadata: mark titles and
    labels, task type labels — those are the only hypotheses (`NamesWf`). -/

def NamesWf (n : Names) : Prop :=
  (∀ m ∈ n.marks, '\n' ∉ m.title.toList ∧ ∀ l ∈ m.labels, '\n' ∉ l.2.toList) ∧
  ∀ x ∈ n.tasks, ∀ ps ∈ x.2, ∀ t ∈ ps, '\n' ∉ t.2

instance (n : Names) : Decidable (NamesWf n) := by unfold NamesWf; infer_instance

/-- No newline in a string of the emulator's tables, checked on its UTF-8 bytes (`'\n'` is the byte 10):
    the kernel gets at the bytes of a string literal directly, at its characters only by decoding. -/
def strOk (s : String) : Bool := s.toByteArray.data.toList.all (· != 10)

theorem strOk_no_nl {s : String} (h : strOk s = true) : '\n' ∉ s.toList := by
  intro hm
  have e : s.toByteArray.data.toList = s.toList.flatMap String.utf8EncodeChar := by
    have := String.toByteArray_ofList (l := s.toList)
    rw [String.ofList_toList] at this
    rw [this, List.utf8Encode, List.toList_data_toByteArray]
  have hb : (10 : UInt8) ∈ s.toByteArray.data.toList := by
    rw [e]
    exact List.mem_flatMap.mpr ⟨'\n', hm, by decide⟩
  exact absurd (List.all_eq_true.mp h _ hb) (by decide)

def valsOk (vals : List (Int × String)) : Bool := vals.all fun l => strOk l.2

def infoOk (i : PcfInfo) : Bool := i.prefixes.all strOk && i.labels.all valsOk

def sysOk (l : List (Nat × String × List (Int × String))) : Bool := l.all fun x => strOk x.2.1 && valsOk x.2.2

theorem pcfSuffix_ok (mode : Nat) : strOk (pcfSuffix mode) = true := by
  unfold pcfSuffix
  split
  · decide
  · split <;> decide

theorem tableLabels_of_ok {pre : String} {vals : List (Int × String)} (hp : strOk pre = true)
    (hv : valsOk vals = true) : TableLabels ('\n' ∉ ·) pre vals := by
  refine ⟨fun mode hm => ?_, fun v hv' => strOk_no_nl (List.all_eq_true.mp hv v hv')⟩
  rcases List.mem_append.mp hm with hm | hm
  · rcases List.mem_append.mp hm with hm | hm
    · exact strOk_no_nl hp hm
    · revert hm; decide
  · exact strOk_no_nl (pcfSuffix_ok mode) hm

theorem of_ite_some {α : Type} {P : α → Prop} {c : Prop} [Decidable c] {a x : α} {r : Option α}
    (ha : P a) (hr : r = some x → P x) (h : (if c then some a else r) = some x) : P x := by
  split at h
  · cases h; exact ha
  · exact hr h

/-- The tables are evaluated once, as a list in the order of the `if` cascade of `pcfInfo`;
    `of_ite_some` peels one branch per entry. -/
theorem pcfInfo_ok {ch : Nat} {info : PcfInfo} (h : pcfInfo ch = some info) : infoOk info = true := by
  have ok : ([⟨Ovni.pcfPrefix, Ovni.labels, Ovni.cpuPvtType⟩, ⟨Nanos6.pcfPrefix, Nanos6.labels, Nanos6.cpuPvtType⟩,
      ⟨Nosv.pcfPrefix, Nosv.labels, Nosv.cpuPvtType⟩, ⟨Nodes.pcfPrefix, Nodes.labels, Nodes.cpuPvtType⟩,
      ⟨Tampi.pcfPrefix, Tampi.labels, Tampi.cpuPvtType⟩, ⟨Mpi.pcfPrefix, Mpi.labels, Mpi.cpuPvtType⟩,
      ⟨Kernel.pcfPrefix, Kernel.labels, Kernel.cpuPvtType⟩, ⟨Openmp.pcfPrefix, Openmp.labels, Openmp.cpuPvtType⟩] :
      List PcfInfo).all infoOk = true := by decide +kernel
  simp only [List.all_cons, List.all_nil, Bool.and_eq_true, Bool.and_true] at ok
  obtain ⟨h1, h2, h3, h4, h5, h6, h7, h8⟩ := ok
  have step := @of_ite_some PcfInfo (fun i => infoOk i = true)
  exact step h1 (step h2 (step h3 (step h4 (step h5 (step h6 (step h7 (step h8 (fun h => by cases h)))))))) h

theorem sysLabels_of_ok {l : List (Nat × String × List (Int × String))} (h : sysOk l = true) :
    SysLabels ('\n' ∉ ·) l := by
  intro x hx
  obtain ⟨h1, h2⟩ := Bool.and_eq_true_iff.mp (List.all_eq_true.mp h x hx)
  exact ⟨strOk_no_nl h1, fun v hv => strOk_no_nl (List.all_eq_true.mp h2 v hv)⟩

theorem cpuNames_no_nl (e : Emu) (n : Names) : ∀ nm ∈ cpuNames e n, '\n' ∉ nm := by
  intro nm hnm
  simp only [cpuNames, List.mem_mapIdx] at hnm
  obtain ⟨i, _, rfl⟩ := hnm
  exact cpuName_no_nl _ _ _

structure EmuLabels (P : Text → Prop) (e : Emu) (n : Names) : Prop where
  thread : SysLabels P threadPcfTypes
  cpu : SysLabels P cpuPcfTypes
  cpuNames : ∀ nm ∈ cpuNames e n, P nm
  infos : ∀ ch info, pcfInfo ch = some info → ∀ i, TableLabels P (info.prefixes.getD i "") (info.labels.getD i [])
  marks : MarkLabels P n.marks
  tasks : TaskLabels P n.tasks

theorem EmuLabels.trivial (e : Emu) (n : Names) : EmuLabels (fun _ => True) e n where
  thread _ _ := ⟨⟨⟩, fun _ _ => ⟨⟩⟩
  cpu _ _ := ⟨⟨⟩, fun _ _ => ⟨⟩⟩
  cpuNames _ _ := ⟨⟩
  infos _ _ _ _ := ⟨fun _ => ⟨⟩, fun _ _ => ⟨⟩⟩
  marks _ _ := ⟨⟨⟩, fun _ _ => ⟨⟩⟩
  tasks _ _ _ _ _ _ := ⟨⟩

theorem EmuLabels.of_namesWf (e : Emu) {n : Names} (hn : NamesWf n) : EmuLabels ('\n' ∉ ·) e n := by
  have sys : sysOk threadPcfTypes = true ∧ sysOk cpuPcfTypes = true := by decide +kernel
  refine ⟨sysLabels_of_ok sys.1, sysLabels_of_ok sys.2, cpuNames_no_nl e n, fun ch info h i => ?_, hn.1, hn.2⟩
  obtain ⟨h1, h2⟩ := Bool.and_eq_true_iff.mp (pcfInfo_ok h)
  exact tableLabels_of_ok (getD_all _ _ _ _ h1 (by decide)) (getD_all _ _ _ _ h2 (by decide))

/-- The three thread types, then per channel group (in `model_connect` order) the types of its
    channels; labels for the six thread states, for `gindex + 1` of every CPU under the affinity
    type, and for every enabled model the label table of each of its channels. -/
theorem threadPcf_grown {P : Text → Prop} {e : Emu} {n : Names} {p : Pcf} (hl : EmuLabels P e n) (h : threadPcf e n = .ok p) :
    Grown P (threadPcfTypes.map (·.1) ++ (connectOrder e.enabled e.extra).flatMap (specPcfTypes false n.marks))
      ((threadPcfTypes.flatMap fun x => x.2.2.map fun v => (x.1, v.1)) ++
        (((cpuNames e n).mapIdx fun g nm => ((g : Int) + 1, nm)).map fun v => (prvThreadCpu, v.1)) ++
        (connectOrder e.enabled e.extra).flatMap (specPcfVals false)) [] p := by
  unfold threadPcf at h
  split at h
  · cases h
  · rename_i p1 h1
    split at h
    · cases h
    · rename_i p2 h2
      split at h
      · cases h
      · rename_i p3 h3
        have g := (((pcfSysTypes_grown _ hl.thread h1).trans (pcfAddValues_grown _ (fun v hv => by
          obtain ⟨i, hi, rfl⟩ := List.mem_mapIdx.mp hv
          exact hl.cpuNames _ (List.getElem_mem hi)) h2)).trans
            (pcfInitModels_grown false n.marks hl.marks hl.infos _ h3)).trans (pcfFinishTasks_grown _ hl.tasks h)
        simpa only [List.append_nil, List.nil_append] using g

theorem cpuPcf_grown {P : Text → Prop} {e : Emu} {n : Names} {p : Pcf} (hl : EmuLabels P e n) (h : cpuPcf e n = .ok p) :
    Grown P (cpuPcfTypes.map (·.1) ++ (connectOrder e.enabled e.extra).flatMap (specPcfTypes true n.marks))
      [] [] p := by
  unfold cpuPcf at h
  split at h
  · cases h
  · rename_i p1 h1
    split at h
    · cases h
    · rename_i p3 h3
      have g := (((pcfSysTypes_grown _ hl.cpu h1).trans
        (pcfInitModels_grown true n.marks hl.marks hl.infos _ h3)).trans (pcfFinishTasks_grown _ hl.tasks h)).sub
          (vals' := []) nofun
      simp only [List.append_nil] at g
      exact g

theorem threadPcf_ids {e : Emu} {n : Names} {p : Pcf} (h : threadPcf e n = .ok p) :
    typeIds p = threadPcfTypes.map (·.1) ++ (connectOrder e.enabled e.extra).flatMap (specPcfTypes false n.marks) :=
  (threadPcf_grown (EmuLabels.trivial e n) h).ids

theorem cpuPcf_ids {e : Emu} {n : Names} {p : Pcf} (h : cpuPcf e n = .ok p) :
    typeIds p = cpuPcfTypes.map (·.1) ++ (connectOrder e.enabled e.extra).flatMap (specPcfTypes true n.marks) :=
  (cpuPcf_grown (EmuLabels.trivial e n) h).ids

theorem threadPcf_hasVal {e : Emu} {n : Names} {p : Pcf} (h : threadPcf e n = .ok p) :
    (∀ x ∈ threadPcfTypes, ∀ v ∈ x.2.2, HasVal p x.1 v.1) ∧
    (∀ g < e.cpus.length, HasVal p prvThreadCpu ((g : Int) + 1)) ∧
    (∀ s ∈ connectOrder e.enabled e.extra, s.char ≠ markGroup → ∀ info, pcfInfo s.char = some info → ∀ i < s.nch,
      ∀ v ∈ info.labels.getD i [], HasVal p (s.pvtType.getD i 0) v.1) := by
  have g := threadPcf_grown (EmuLabels.trivial e n) h
  refine ⟨fun x hx v hv => g.has (x.1, v.1) ?_, fun c hc => g.has (prvThreadCpu, (c : Int) + 1) ?_,
    fun s hs hne info hinfo i hi v hv => g.has (s.pvtType.getD i 0, v.1) ?_⟩
  · exact List.mem_append_left _ (List.mem_append_left _
      (List.mem_flatMap.mpr ⟨x, hx, List.mem_map.mpr ⟨v, hv, rfl⟩⟩))
  · have hlen : c < (cpuNames e n).length := by simpa [cpuNames] using hc
    exact List.mem_append_left _ (List.mem_append_right _
      (List.mem_map.mpr ⟨((c : Int) + 1, (cpuNames e n)[c]), List.mem_mapIdx.mpr ⟨c, hlen, rfl⟩, rfl⟩))
  · refine List.mem_append_right _ (List.mem_flatMap.mpr ⟨s, hs, ?_⟩)
    rw [specPcfVals, if_neg hne, hinfo]
    exact List.mem_flatMap.mpr ⟨i, List.mem_range.mpr hi, List.mem_map.mpr ⟨v, hv, rfl⟩⟩

theorem threadPcf_wf {e : Emu} {n : Names} {p : Pcf} (hn : NamesWf n) (h : threadPcf e n = .ok p) : PcfWf p :=
  (threadPcf_grown (EmuLabels.of_namesWf e hn) h).labels nofun

theorem cpuPcf_wf {e : Emu} {n : Names} {p : Pcf} (hn : NamesWf n) (h : cpuPcf e n = .ok p) : PcfWf p :=
  (cpuPcf_grown (EmuLabels.of_namesWf e hn) h).labels nofun

end Ovni.Emu.PvText
