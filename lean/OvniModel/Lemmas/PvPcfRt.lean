import OvniModel.Lemmas.PvPcf

/- C13 text level: the event-type section of a .pcf reads back, `parsePcfTypes (pcfText p) =
   some (pcfBlocks p)`, when no label contains a newline.  A second reader next to `pcfDeclared` of
   Lemmas/PvPcf (type ids only, no hypothesis on the labels); neither is derived from the other. -/
namespace Ovni.Emu.PvText
open Ovni.Emu Ovni.Generated

/-- All the round trip needs: labels may be empty, begin or end with blanks, contain digits, be equal
    to `EVENT_TYPE` or `VALUES`; ids and values are arbitrary; ids may repeat.  After a newline in a
    type label the rest is read where `VALUES` is expected and the file is unreadable
    (`rt_fails_type_label`); in a value label the rest is read as a value line, or ends the block if
    it is empty (`rt_fails_value_label`, `rt_truncates_value_label`). -/
def PcfWf (p : Pcf) : Prop := ∀ t ∈ p, '\n' ∉ t.label ∧ ∀ v ∈ t.values, '\n' ∉ v.2

instance (p : Pcf) : Decidable (PcfWf p) := by unfold PcfWf; infer_instance

def pcfBlocks (p : Pcf) : List PcfBlock := p.map fun t => (t.id, t.label, t.values)

theorem pcfBlocks_inj {p q : Pcf} (h : pcfBlocks p = pcfBlocks q) : p = q :=
  (List.map_inj_right fun a b hab => by
    cases a; cases b
    simp only [Prod.mk.injEq] at hab
    obtain ⟨rfl, rfl, rfl⟩ := hab
    rfl).mp h

/-- For comparing a PCF the model builds with an expected one by evaluation: as tuples, which the
    kernel compares faster than it runs the derived `DecidableEq PcfType`. -/
theorem pcf_ok_of_blocks {r : Except Err Pcf} {q : Pcf} (h : r.toOption.map pcfBlocks = some (pcfBlocks q)) :
    r = .ok q := by
  obtain ⟨p, hp, hk⟩ := Option.map_eq_some_iff.mp h
  rw [toOption_eq_some hp, pcfBlocks_inj hk]

theorem skipPad_padLabel (w : Nat) (num label : Text) : skipPad w num.length (padLabel w num label) = some label := by
  unfold skipPad padLabel
  have e : List.replicate (w - num.length) ' ' ++ ' ' :: label =
      (List.replicate (w - num.length) ' ' ++ [' ']) ++ label := by simp
  rw [e, expect_append]

theorem parsePcfTypeLine_body (id : Nat) (label : Text) :
    parsePcfTypeLine (typeLineBody id label) = some (id, label) := by
  simp only [parsePcfTypeLine, typeLineBody, expect_append, readNat_natDec id _ (padLabel_head _ _ _),
    List.length_append, Nat.add_sub_cancel, skipPad_padLabel]
  rfl

theorem parsePcfValueLine_body (v : Int × Text) : parsePcfValueLine (valueLineBody v) = some v := by
  simp only [parsePcfValueLine, valueLineBody, readInt_intDec v.1 _ (padLabel_head _ _ _),
    List.length_append, Nat.add_sub_cancel, skipPad_padLabel]
  rfl

theorem valueLineBody_head (v : Int × Text) : ∃ d t, valueLineBody v = d :: t ∧ d ≠ 'E' := by
  obtain ⟨i, l⟩ := v
  unfold valueLineBody
  cases i with
  | ofNat n =>
    show ∃ d t, natDec n ++ _ = d :: t ∧ d ≠ 'E'
    cases h : natDec n with
    | nil => exact absurd h (natDec_ne_nil n)
    | cons d ds =>
      refine ⟨d, _, rfl, ?_⟩
      intro e
      have := natDec_digits n d (by rw [h]; simp)
      rw [e] at this; revert this; decide
  | negSucc n => exact ⟨'-', _, rfl, by decide⟩

theorem litEventType_head : ∃ t, litEventType = 'E' :: t := by
  unfold litEventType
  rw [String.toList_ofList]
  exact ⟨_, rfl⟩

theorem valueLineBody_ne (v : Int × Text) : valueLineBody v ≠ [] ∧ valueLineBody v ≠ litEventType := by
  obtain ⟨d, t, e, hd⟩ := valueLineBody_head v
  obtain ⟨t', e'⟩ := litEventType_head
  rw [e, e']
  exact ⟨by simp, fun h => hd (List.cons.inj h).1⟩

theorem typeLineBody_ne (id : Nat) (label : Text) : typeLineBody id label ≠ litEventType := by
  obtain ⟨t', e'⟩ := litEventType_head
  rw [e']
  intro h
  exact absurd (List.cons.inj h).1 (by decide)

theorem litEventType_ne : litValues ≠ litEventType ∧ ([] : Text) ≠ litEventType := by
  unfold litValues litEventType
  rw [String.toList_ofList, String.toList_ofList]
  decide

theorem blockLines_no_nl {t : PcfType} (h : '\n' ∉ t.label ∧ ∀ v ∈ t.values, '\n' ∉ v.2) :
    ∀ l ∈ blockLines t, '\n' ∉ l := by
  intro l hl
  simp only [blockLines, blockTail, List.mem_cons, List.mem_map] at hl
  rcases hl with rfl | rfl | rfl | rfl | rfl | ⟨v, hv, rfl⟩
  · exact List.not_mem_nil
  · exact List.not_mem_nil
  · exact litPcf_no_nl.1
  · exact typeLineBody_no_nl _ _ h.1
  · exact litPcf_no_nl.2
  · exact valueLineBody_no_nl v (h.2 v hv)

theorem splitNl_types (p : Pcf) (h : PcfWf p) :
    splitNl (p.flatMap pcfTypeText) = p.flatMap blockLines ++ [[]] := by
  have e : p.flatMap pcfTypeText = unlines (p.flatMap blockLines) := by
    rw [unlines, List.flatMap_assoc]
    exact congrArg p.flatMap (funext pcfTypeText_lines)
  rw [e, splitNl_unlines _ (List.forall_mem_flatMap.mpr fun t ht => blockLines_no_nl (h t ht))]

theorem parsePcfLines_skip (A B : List Text) (h : ∀ l ∈ A, l ≠ litEventType) :
    parsePcfLines (A ++ B) = parsePcfLines B := by
  induction A with
  | nil => rfl
  | cons a r ih =>
    rw [List.cons_append, parsePcfLines, if_neg (h a (by simp)), ih (fun x hx => h x (by simp [hx]))]

theorem pcfValueLines_body (vs : List (Int × Text)) (R : List Text) :
    pcfValueLines (vs.map valueLineBody ++ [] :: R) = some vs := by
  induction vs with
  | nil => simp [pcfValueLines]
  | cons v r ih =>
    rw [List.map_cons, List.cons_append, pcfValueLines, if_neg (valueLineBody_ne v).1, parsePcfValueLine_body, ih]

theorem blockTail_ne (t : PcfType) : ∀ l ∈ blockTail t, l ≠ litEventType := by
  intro l hl
  simp only [blockTail, List.mem_cons, List.mem_map] at hl
  rcases hl with rfl | rfl | ⟨v, _, rfl⟩
  · exact typeLineBody_ne _ _
  · exact litEventType_ne.1
  · exact (valueLineBody_ne v).2

theorem parsePcfBlock_tail (t : PcfType) (R : List Text) :
    parsePcfBlock (blockTail t ++ [] :: R) = some (t.id, t.label, t.values) := by
  simp only [blockTail, List.cons_append, parsePcfBlock, if_true, parsePcfTypeLine_body, pcfValueLines_body]

theorem parsePcfLines_blocks (p : Pcf) : parsePcfLines (p.flatMap blockLines ++ [[]]) = some (pcfBlocks p) := by
  induction p with
  | nil => simp [parsePcfLines, pcfBlocks, litEventType_ne.2]
  | cons t r ih =>
    -- the blank line that ends the values of `t`: the first line of the next block, or the last piece of the text
    obtain ⟨R, hR⟩ : ∃ R, r.flatMap blockLines ++ [[]] = [] :: R := by
      cases r with
      | nil => exact ⟨[], rfl⟩
      | cons t' r' => exact ⟨_, rfl⟩
    simp only [List.flatMap_cons, blockLines, List.cons_append, List.append_assoc]
    rw [parsePcfLines, if_neg litEventType_ne.2, parsePcfLines, if_neg litEventType_ne.2, parsePcfLines, if_pos rfl,
      parsePcfLines_skip _ _ (blockTail_ne t), ih, hR, parsePcfBlock_tail]
    rfl

theorem pcfHead_lines : (pcfHeader ++ pcfColors).getLast? = some '\n' ∧
    ∀ l ∈ splitNl (pcfHeader ++ pcfColors).dropLast, l ≠ litEventType := by
  -- the literals are opened as in `lit_no_nl`
  unfold pcfHeader
  rw [String.toList_append, String.toList_append, String.toList_append,
    String.toList_ofList, String.toList_ofList, String.toList_ofList, String.toList_ofList]
  decide +kernel

theorem parsePcfTypes_pcfText_eq (p : Pcf) : parsePcfTypes (pcfText p) = parsePcfTypes (p.flatMap pcfTypeText) := by
  obtain ⟨head, e⟩ := List.getLast?_eq_some_iff.mp pcfHead_lines.1
  have hskip := pcfHead_lines.2
  rw [e, List.dropLast_concat] at hskip
  unfold parsePcfTypes pcfText
  rw [e, List.append_assoc, List.singleton_append, splitNl_nl, parsePcfLines_skip _ _ hskip]

theorem parsePcfTypes_pcfText (p : Pcf) (h : PcfWf p) : parsePcfTypes (pcfText p) = some (pcfBlocks p) := by
  rw [parsePcfTypes_pcfText_eq, parsePcfTypes, splitNl_types p h, parsePcfLines_blocks]

theorem rt_fails_type_label :
    parsePcfTypes (pcfText [{ id := 1, label := ['a', '\n', 'b'] }]) = none := by
  rw [parsePcfTypes_pcfText_eq]
  decide +kernel

theorem rt_fails_value_label :
    parsePcfTypes (pcfText [{ id := 1, label := ['a'], values := [(1, ['x', '\n', 'y'])] }]) = none := by
  rw [parsePcfTypes_pcfText_eq]
  decide +kernel

/-- a value label with a blank second line silently ends the block: the file
    is readable but a value is lost -/
theorem rt_truncates_value_label :
    parsePcfTypes (pcfText [{ id := 1, label := ['a'], values := [(1, ['x', '\n']), (2, ['y'])] }]) =
      some [(1, ['a'], [(1, ['x'])])] := by
  rw [parsePcfTypes_pcfText_eq]
  decide +kernel

theorem pcfValuesOf_of_parse {t : Text} {bs : List PcfBlock} (h : parsePcfTypes t = some bs) (ty : Nat) :
    pcfValuesOf t ty = (bs.filter (·.1 == ty)).flatMap fun b => b.2.2.map (·.1) := by
  unfold pcfValuesOf
  rw [h]

end Ovni.Emu.PvText
