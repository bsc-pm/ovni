import OvniModel.Emu.PvText
import OvniModel.Lemmas.ExceptLemmas
import OvniModel.Lemmas.ListLemmas

/-
  C13 text level: lines split back, decimal numbers read back, the `.prv` and
  `.row` readers on what the writers print, and the width of the padded
  duration field of the header.
-/
namespace Ovni.Emu.PvText

theorem splitNl_ne_nil (t : Text) : splitNl t ≠ [] := by
  induction t with
  | nil => simp [splitNl]
  | cons c cs ih =>
    unfold splitNl
    split
    · simp
    · split <;> simp

theorem splitNl_last (l : Text) (h : '\n' ∉ l) : splitNl l = [l] := by
  induction l with
  | nil => rfl
  | cons c cs ih =>
    have hc : c ≠ '\n' := by intro e; apply h; simp [e]
    have hcs : '\n' ∉ cs := by intro e; apply h; simp [e]
    rw [splitNl, if_neg hc, ih hcs]

theorem splitNl_nl (p q : Text) : splitNl (p ++ '\n' :: q) = splitNl p ++ splitNl q := by
  induction p with
  | nil => rfl
  | cons c cs ih =>
    rw [List.cons_append, splitNl, splitNl, ih]
    split
    · rfl
    · cases h : splitNl cs with
      | nil => exact absurd h (splitNl_ne_nil cs)
      | cons l ls => rfl

theorem splitNl_line (l rest : Text) (h : '\n' ∉ l) : splitNl (l ++ '\n' :: rest) = l :: splitNl rest := by
  rw [splitNl_nl, splitNl_last l h]
  rfl

theorem splitNl_prefix (x r : Text) (h : '\n' ∉ x) :
    ∃ r0 rs, splitNl (x ++ r) = (x ++ r0) :: rs := by
  induction x with
  | nil =>
    cases hs : splitNl r with
    | nil => exact absurd hs (splitNl_ne_nil r)
    | cons a as => exact ⟨a, as, by simpa using hs⟩
  | cons c cs ih =>
    have hc : c ≠ '\n' := by intro e; apply h; simp [e]
    obtain ⟨r0, rs, e⟩ := ih (by intro e; apply h; simp [e])
    refine ⟨r0, rs, ?_⟩
    rw [List.cons_append, splitNl, if_neg hc, e]
    rfl

/-- Every writer prints whole lines: its text is `unlines` of them, and `splitNl` gives them back. -/
def unlines (ls : List Text) : Text := ls.flatMap (· ++ ['\n'])

theorem splitNl_unlines (ls : List Text) (h : ∀ l ∈ ls, '\n' ∉ l) : splitNl (unlines ls) = ls ++ [[]] := by
  induction ls with
  | nil => rfl
  | cons l r ih =>
    rw [unlines, List.flatMap_cons, List.append_assoc, List.singleton_append, splitNl_line _ _ (h l (by simp)),
      ← unlines, ih fun x hx => h x (by simp [hx])]
    rfl

theorem expect_append (lit rest : Text) : expect lit (lit ++ rest) = some rest := by
  induction lit with
  | nil => cases rest <;> rfl
  | cons c cs ih => simp [expect, ih]

theorem natDec_digits (n : Nat) : ∀ c ∈ natDec n, c.isDigit = true :=
  fun _ hc => Nat.isDigit_of_mem_toDigits (by decide) (by decide) hc

theorem natDec_ne_nil (n : Nat) : natDec n ≠ [] := Nat.toDigits_ne_nil

theorem natDec_no_nl (n : Nat) : '\n' ∉ natDec n := by
  intro h; have := natDec_digits n _ h; revert this; decide

theorem natDec_val (n : Nat) : Nat.ofDigitChars 10 (natDec n) 0 = n := Nat.ofDigitChars_ten_toDigits

/-- the text does not go on with a digit: a number printed in front of it is read back whole -/
def NoDigitHead (t : Text) : Prop := ∀ c r, t = c :: r → c.isDigit = false

theorem NoDigitHead.nil : NoDigitHead [] := nofun

theorem NoDigitHead.cons {c : Char} (h : c.isDigit = false) (t : Text) : NoDigitHead (c :: t) :=
  fun _ _ e => by cases e; exact h

theorem readNat_digits (ds rest : Text) (hne : ds ≠ []) (hd : ∀ c ∈ ds, c.isDigit = true) (hr : NoDigitHead rest) :
    readNat (ds ++ rest) = some (Nat.ofDigitChars 10 ds 0, rest) := by
  have stop : rest.takeWhile Char.isDigit = [] ∧ rest.dropWhile Char.isDigit = rest := by
    cases rest with
    | nil => exact ⟨rfl, rfl⟩
    | cons c r =>
      have hc : ¬c.isDigit = true := by simp [hr c r rfl]
      exact ⟨List.takeWhile_cons_of_neg hc, List.dropWhile_cons_of_neg hc⟩
  obtain ⟨d, ds', rfl⟩ := List.exists_cons_of_ne_nil hne
  unfold readNat
  rw [List.takeWhile_append_of_pos hd, List.dropWhile_append_of_pos hd, stop.1, stop.2, List.append_nil]
  rfl

theorem padded_digits (k n : Nat) : ∀ c ∈ List.replicate k '0' ++ natDec n, c.isDigit = true := by
  intro c hc
  rcases List.mem_append.mp hc with h | h
  · rw [(List.mem_replicate.mp h).2]; decide
  · exact natDec_digits n c h

theorem readNat_padded (k n : Nat) (rest : Text) (hr : NoDigitHead rest) :
    readNat (List.replicate k '0' ++ natDec n ++ rest) = some (n, rest) := by
  rw [readNat_digits _ rest (by simp [natDec_ne_nil]) (padded_digits k n) hr, Nat.ofDigitChars_append,
    Nat.ofDigitChars_replicate_zero, Nat.mul_zero, natDec_val]

theorem readNat_natDec (n : Nat) (rest : Text) (hr : NoDigitHead rest) :
    readNat (natDec n ++ rest) = some (n, rest) := readNat_padded 0 n rest hr

theorem readInt_minus (t : Text) : readInt ('-' :: t) = (readNat t).map fun nr => (-(nr.1 : Int), nr.2) := by
  unfold readInt
  split
  · rename_i t' heq; cases heq; rfl
  · rename_i h; exact absurd rfl (h t)

theorem readInt_digits (ds rest : Text) (hne : ds ≠ []) (hd : ∀ c ∈ ds, c.isDigit = true) :
    readInt (ds ++ rest) = (readNat (ds ++ rest)).map fun nr => ((nr.1 : Int), nr.2) := by
  cases ds with
  | nil => exact absurd rfl hne
  | cons d t =>
    unfold readInt
    split
    · rename_i heq
      have := hd d (by simp)
      rw [(List.cons.inj heq).1] at this
      exact absurd this (by decide)
    · rfl

theorem readInt_intPad0 (w : Nat) (i : Int) (rest : Text) (hr : NoDigitHead rest) :
    readInt (intPad0 w i ++ rest) = some (i, rest) := by
  cases i with
  | ofNat n =>
    show readInt (List.replicate _ '0' ++ natDec n ++ rest) = _
    rw [readInt_digits _ _ (by simp [natDec_ne_nil]) (padded_digits _ n), readNat_padded _ n rest hr]
    rfl
  | negSucc n =>
    show readInt ('-' :: (List.replicate _ '0' ++ natDec (n + 1)) ++ rest) = _
    rw [List.cons_append, readInt_minus, readNat_padded _ (n + 1) rest hr]
    simp only [Option.map_some, Option.some.injEq, Prod.mk.injEq, and_true]
    omega

theorem intPad0_no_nl (w : Nat) (i : Int) : '\n' ∉ intPad0 w i := by
  cases i <;> simp [intPad0, natDec_no_nl]

/-- `%lld` is `%0Wlld` without a width -/
theorem intDec_eq (i : Int) : intDec i = intPad0 0 i := by
  cases i <;> simp [intDec, intPad0]

theorem readInt_intDec (i : Int) (rest : Text) (hr : NoDigitHead rest) :
    readInt (intDec i ++ rest) = some (i, rest) := intDec_eq i ▸ readInt_intPad0 0 i rest hr

theorem intDec_no_nl (i : Int) : '\n' ∉ intDec i := intDec_eq i ▸ intPad0_no_nl 0 i

def prvHeaderLine (nrows : Nat) (duration : Int) : Text :=
  litParaver ++ (intPad0 20 duration ++ (litNs ++ (natDec nrows ++ litHdrEnd)))

theorem prvHeader_eq (nrows : Nat) (duration : Int) :
    prvHeader nrows duration = prvHeaderLine nrows duration ++ ['\n'] := by
  simp only [prvHeader, prvHeaderLine, List.append_assoc]

theorem lit_no_nl : '\n' ∉ litParaver ∧ '\n' ∉ litNs ∧ '\n' ∉ litHdrEnd ∧ '\n' ∉ litRec := by
  unfold litParaver litNs litHdrEnd litRec
  -- `String.toList_ofList` unifies with a literal and leaves its characters: nothing has to decode the literal
  rw [String.toList_ofList, String.toList_ofList, String.toList_ofList, String.toList_ofList]
  decide

theorem litNs_head : NoDigitHead (litNs ++ t) := by
  unfold litNs
  rw [String.toList_ofList]
  exact .cons rfl _

theorem litHdrEnd_head : NoDigitHead litHdrEnd := by
  unfold litHdrEnd
  rw [String.toList_ofList]
  exact .cons rfl _

theorem prvHeaderLine_no_nl (nrows : Nat) (duration : Int) : '\n' ∉ prvHeaderLine nrows duration := by
  simp only [prvHeaderLine, List.mem_append, not_or]
  exact ⟨lit_no_nl.1, intPad0_no_nl _ _, lit_no_nl.2.1, natDec_no_nl _, lit_no_nl.2.2.1⟩

theorem parsePrvHeader_line (nrows : Nat) (duration : Int) :
    parsePrvHeader (prvHeaderLine nrows duration) = some (duration, nrows) := by
  have e := expect_append litHdrEnd []
  rw [List.append_nil] at e
  simp only [parsePrvHeader, prvHeaderLine, expect_append, Option.bind_eq_bind, Option.bind_some,
    readInt_intPad0 20 duration _ litNs_head, readNat_natDec nrows _ litHdrEnd_head, e]
  rfl

def prvLineBody (l : Int × Nat × Nat × Int) : Text :=
  litRec ++ (natDec l.2.1 ++ (':' :: (intDec l.1 ++ (':' :: (natDec l.2.2.1 ++ (':' :: intDec l.2.2.2))))))

theorem prvLine_eq (l : Int × Nat × Nat × Int) : prvLine l = prvLineBody l ++ ['\n'] := by
  simp only [prvLine, prvLineBody, List.append_assoc, List.cons_append, List.nil_append]

theorem prvLineBody_no_nl (l : Int × Nat × Nat × Int) : '\n' ∉ prvLineBody l := by
  simp only [prvLineBody, List.mem_append, List.mem_cons, not_or]
  exact ⟨lit_no_nl.2.2.2, natDec_no_nl _, by decide, intDec_no_nl _, by decide, natDec_no_nl _, by decide, intDec_no_nl _⟩

theorem parsePrvLine_body (l : Int × Nat × Nat × Int) : parsePrvLine (prvLineBody l) = some l := by
  obtain ⟨t, row, ty, v⟩ := l
  have hc : ∀ x : Text, NoDigitHead (':' :: x) := .cons rfl
  have e := readInt_intDec v [] .nil
  rw [List.append_nil] at e
  simp only [parsePrvLine, prvLineBody, expect_append, Option.bind_eq_bind, Option.bind_some, expect, if_true,
    readNat_natDec row _ (hc _), readInt_intDec t _ (hc _), readNat_natDec ty _ (hc _), e]
  rfl

theorem prvText_lines (nrows : Nat) (duration : Int) (ls : List (Int × Nat × Nat × Int)) :
    prvHeader nrows duration ++ prvBody ls = unlines (prvHeaderLine nrows duration :: ls.map prvLineBody) := by
  simp only [unlines, List.flatMap_cons, List.flatMap_map, ← prvHeader_eq, ← prvLine_eq]
  rfl

theorem parsePrv_text (nrows : Nat) (duration : Int) (ls : List (Int × Nat × Nat × Int)) :
    parsePrv (prvHeader nrows duration ++ prvBody ls) = some ((duration, nrows), ls) := by
  unfold parsePrv
  rw [prvText_lines, splitNl_unlines _ (List.forall_mem_cons.mpr
    ⟨prvHeaderLine_no_nl nrows duration, List.forall_mem_map.mpr fun l _ => prvLineBody_no_nl l⟩)]
  simp only [List.cons_append, parsePrvHeader_line]
  rw [if_pos (by simp), List.dropLast_concat, mapM_map_some parsePrvLine_body]
  rfl

theorem litRow_no_nl : '\n' ∉ litRowNode ∧ '\n' ∉ litRowHost ∧ '\n' ∉ litRowThread := by
  unfold litRowNode litRowHost litRowThread
  rw [String.toList_ofList, String.toList_ofList, String.toList_ofList]
  decide

theorem rowText_lines (names : List Text) : rowText names =
    unlines (litRowNode :: litRowHost :: [] :: (litRowThread ++ natDec names.length) :: names) := by
  simp only [rowText, unlines, List.flatMap_cons, List.append_assoc, List.cons_append, List.nil_append]

theorem parseRow_rowText (names : List Text) (h : ∀ nm ∈ names, '\n' ∉ nm) :
    parseRow (rowText names) = some (names.length, names) := by
  unfold parseRow
  rw [rowText_lines, splitNl_unlines _ (List.forall_mem_cons.mpr ⟨litRow_no_nl.1, List.forall_mem_cons.mpr
    ⟨litRow_no_nl.2.1, List.forall_mem_cons.mpr ⟨List.not_mem_nil, List.forall_mem_cons.mpr
      ⟨by simp [litRow_no_nl.2.2, natDec_no_nl], h⟩⟩⟩⟩)]
  simp only [List.cons_append, true_and, List.getLast?_concat, if_true]
  rw [expect_append]
  have := readNat_natDec names.length [] .nil
  rw [List.append_nil] at this
  simp only [this, List.dropLast_concat]

/-- The rows are the names `done` already set, then one unset row per name still `todo`; `Prf.add` finds
    row `done.length` unset and sets it, unless the name is too long. -/
theorem Prf.addFrom_spec (todo : List Text) : ∀ (done : List Text) (p : Prf),
    p.rows = done.map some ++ List.replicate todo.length none →
    p.addFrom done.length todo =
      if ∀ nm ∈ todo, nm.length < maxPrfLabel then .ok ⟨(done ++ todo).map some⟩ else .error .other := by
  induction todo with
  | nil =>
    intro done p hp
    obtain ⟨rows⟩ := p
    simp only [List.length_nil, List.replicate_zero, List.append_nil] at hp
    simp [Prf.addFrom, hp]
  | cons nm r ih =>
    intro done p hp
    have hget : p.rows[done.length]? = some none := by
      rw [hp, List.getElem?_append_right (by simp)]
      simp [List.replicate_succ]
    rw [Prf.addFrom, Prf.add, hget]
    by_cases hlen : nm.length ≥ maxPrfLabel
    · simp only [if_pos hlen]
      rw [if_neg fun h => absurd (h nm (by simp)) (by omega)]
    · have hp1 : (⟨p.rows.set done.length (some nm)⟩ : Prf).rows =
          (done ++ [nm]).map some ++ List.replicate r.length none := by
        show p.rows.set done.length (some nm) = _
        rw [hp, List.set_append_right _ _ (by simp)]
        simp [List.replicate_succ]
      have := ih (done ++ [nm]) _ hp1
      rw [List.length_append, List.length_singleton, List.append_assoc, List.singleton_append] at this
      simp only [if_neg hlen, this, List.forall_mem_cons, Nat.lt_of_not_ge hlen, true_and]

/-- `system_connect` names every row; the only way for the `.row` file to fail is a name of
    `MAX_PRF_LABEL` characters or more. -/
theorem rowFileOf_spec (names : List Text) : rowFileOf names =
    if ∀ nm ∈ names, nm.length < maxPrfLabel then .ok (rowText names) else .error .other := by
  unfold rowFileOf
  rw [show (Prf.open names.length).addFrom 0 names = _ from Prf.addFrom_spec names [] _ (by simp [Prf.open])]
  by_cases h : ∀ nm ∈ names, nm.length < maxPrfLabel
  · simp only [if_pos h, List.nil_append, Prf.close, mapM_map_some (f := id) fun _ => rfl]
  · simp only [if_neg h]

theorem rowFile_reads {names : List Text} {t : Text} (hnl : ∀ nm ∈ names, '\n' ∉ nm) (h : rowFileOf names = .ok t) :
    parseRow t = some (names.length, names) ∧ ∀ nm ∈ names, nm.length < maxPrfLabel := by
  rw [rowFileOf_spec] at h
  split at h
  · rename_i hl
    cases h
    exact ⟨parseRow_rowText names hnl, hl⟩
  · cases h

theorem threadName_no_nl (appid tid : Int) : '\n' ∉ threadName appid tid := by
  simp [threadName, intDec_no_nl]

theorem cpuName_no_nl (loom phyid : Nat) (virt : Bool) : '\n' ∉ cpuName loom phyid virt := by
  unfold cpuName
  split <;> simp [natDec_no_nl]

theorem natDec_length_le (n k : Nat) (hk : 0 < k) : (natDec n).length ≤ k ↔ n < 10 ^ k :=
  Nat.length_toDigits_le_iff (by decide) hk

theorem intPad0_length (w : Nat) (hw : 2 ≤ w) (d : Int) :
    (intPad0 w d).length = w ↔ (-(10 : Int) ^ (w - 1) < d ∧ d < (10 : Int) ^ w) := by
  -- `2 ≤ w`: a minus sign and one digit must fit, else `-1` is wider than `w` although above the lower bound
  have e : ∀ k, ((10 : Int) ^ k) = ((10 ^ k : Nat) : Int) := fun k => by norm_cast
  have hpos : 0 < 10 ^ (w - 1) ∧ 0 < 10 ^ w := ⟨Nat.pow_pos (by decide), Nat.pow_pos (by decide)⟩
  rw [e, e]
  cases d with
  | ofNat n =>
    show (List.replicate (w - (natDec n).length) '0' ++ natDec n).length = w ↔ _
    rw [List.length_append, List.length_replicate]
    have h := natDec_length_le n w (by omega)
    constructor
    · intro hl
      have : n < 10 ^ w := h.mp (by omega)
      exact ⟨by show _ < (n : Int); omega, Int.ofNat_lt.mpr this⟩
    · rintro ⟨_, h2⟩
      have := h.mpr (Int.ofNat_lt.mp h2)
      omega
  | negSucc n =>
    show ('-' :: (List.replicate (w - 1 - (natDec (n + 1)).length) '0' ++ natDec (n + 1))).length = w ↔ _
    rw [List.length_cons, List.length_append, List.length_replicate, Int.negSucc_eq]
    have h := natDec_length_le (n + 1) (w - 1) (by omega)
    constructor
    · intro hl
      have : n + 1 < 10 ^ (w - 1) := h.mp (by omega)
      exact ⟨by omega, by omega⟩
    · rintro ⟨h1, _⟩
      have := h.mpr (by omega)
      omega

theorem prvHeader_length (nrows : Nat) (d : Int) :
    (prvHeader nrows d).length = litParaver.length + (intPad0 20 d).length + litNs.length + (natDec nrows).length +
      litHdrEnd.length + 1 := by
  simp only [prvHeader, List.length_append, List.length_cons, List.length_nil]

theorem overwrite_same_length (new old0 body : Text) (h : new.length = old0.length) :
    overwrite new (old0 ++ body) = new ++ body := by
  unfold overwrite
  rw [h, List.drop_left]

end Ovni.Emu.PvText
