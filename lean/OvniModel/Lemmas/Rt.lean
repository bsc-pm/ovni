import OvniModel.Rt.Buffer

/-! The buffer model (`Rt/Buffer`) for C01 and C02: `ovni_ev_add` and `ovni_flush` in closed
    form (the re-entrant call never goes deeper than the two markers), the bookkeeping
    invariant `Inv`, and `run` over lists of operations. -/
-- `[JData D]` is in scope for every statement, also for those that never look at jumbo data
set_option linter.unusedSectionVars false
namespace Ovni.Rt
variable {D : Type} [JData D]

def St.all (s : St D) : List (Rec D × Origin) := s.disk ++ s.buf

def sizes : List (Rec D × Origin) → Nat
  | [] => 0
  | x :: xs => x.1.size + sizes xs

theorem sizes_append (a b : List (Rec D × Origin)) : sizes (a ++ b) = sizes a + sizes b := by
  induction a with
  | nil => simp [sizes]
  | cons x xs ih => simp [sizes, ih]; omega

@[simp] theorem sizes_nil : sizes ([] : List (Rec D × Origin)) = 0 := rfl
@[simp] theorem sizes_single (x : Rec D × Origin) : sizes [x] = x.1.size := by simp [sizes]

@[simp] theorem markerOpen_size (t : Nat) : (markerOpen t : Rec D).size = 12 := rfl
@[simp] theorem markerClose_size (t : Nat) : (markerClose t : Rec D).size = 12 := rfl

section proj
variable (s : St D) (r : Rec D) (o : Origin)
@[simp] theorem append_ready : (s.append r o).ready = s.ready := rfl
@[simp] theorem append_finished : (s.append r o).finished = s.finished := rfl
@[simp] theorem append_evlen : (s.append r o).evlen = s.evlen + r.size := rfl
@[simp] theorem append_buf : (s.append r o).buf = s.buf ++ [(r, o)] := rfl
@[simp] theorem append_disk : (s.append r o).disk = s.disk := rfl
@[simp] theorem append_now : (s.append r o).now = s.now := rfl
@[simp] theorem append_tick : (s.append r o).tick = s.tick := rfl
@[simp] theorem append_hdr : (s.append r o).hdrOnDisk = s.hdrOnDisk := rfl
@[simp] theorem flushBuf_ready : s.flushBuf.ready = s.ready := rfl
@[simp] theorem flushBuf_finished : s.flushBuf.finished = s.finished := rfl
@[simp] theorem flushBuf_evlen : s.flushBuf.evlen = 0 := rfl
@[simp] theorem flushBuf_buf : s.flushBuf.buf = [] := rfl
@[simp] theorem flushBuf_disk : s.flushBuf.disk = s.disk ++ s.buf := rfl
@[simp] theorem flushBuf_now : s.flushBuf.now = s.now := rfl
@[simp] theorem flushBuf_tick : s.flushBuf.tick = s.tick := rfl
@[simp] theorem flushBuf_hdr : s.flushBuf.hdrOnDisk = s.hdrOnDisk := rfl
@[simp] theorem clockNow_fst : s.clockNow.1 = s.now := rfl
@[simp] theorem clockNow_ready : s.clockNow.2.ready = s.ready := rfl
@[simp] theorem clockNow_finished : s.clockNow.2.finished = s.finished := rfl
@[simp] theorem clockNow_evlen : s.clockNow.2.evlen = s.evlen := rfl
@[simp] theorem clockNow_buf : s.clockNow.2.buf = s.buf := rfl
@[simp] theorem clockNow_disk : s.clockNow.2.disk = s.disk := rfl
@[simp] theorem clockNow_now : s.clockNow.2.now = s.now + s.tick := rfl
@[simp] theorem clockNow_tick : s.clockNow.2.tick = s.tick := rfl
@[simp] theorem clockNow_hdr : s.clockNow.2.hdrOnDisk = s.hdrOnDisk := rfl
-- none of the four nested updates sets these fields: `rfl` proves them too, but only after unfolding all
-- four, at about three times the cost of going step by step
@[simp] theorem forcedFlush_ready : (forcedFlush s r o).ready = s.ready := by
  rw [forcedFlush, append_ready, clockNow_ready, flushBuf_ready, clockNow_ready]
@[simp] theorem forcedFlush_finished : (forcedFlush s r o).finished = s.finished := by
  rw [forcedFlush, append_finished, clockNow_finished, flushBuf_finished, clockNow_finished]
@[simp] theorem forcedFlush_evlen : (forcedFlush s r o).evlen = 0 + r.size := rfl
@[simp] theorem forcedFlush_buf : (forcedFlush s r o).buf = [] ++ [(r, o)] := rfl
@[simp] theorem forcedFlush_disk : (forcedFlush s r o).disk = s.disk ++ s.buf := rfl
@[simp] theorem forcedFlush_now : (forcedFlush s r o).now = s.now + s.tick + s.tick := rfl
@[simp] theorem forcedFlush_tick : (forcedFlush s r o).tick = s.tick := by
  rw [forcedFlush, append_tick, clockNow_tick, flushBuf_tick, clockNow_tick]
@[simp] theorem forcedFlush_hdr : (forcedFlush s r o).hdrOnDisk = s.hdrOnDisk := by
  rw [forcedFlush, append_hdr, clockNow_hdr, flushBuf_hdr, clockNow_hdr]
end proj

section room
variable (cap : Nat) (s : St D)
@[simp] theorem makeRoom_ready : (makeRoom cap s).ready = s.ready := by unfold makeRoom; split <;> rfl
@[simp] theorem makeRoom_finished : (makeRoom cap s).finished = s.finished := by unfold makeRoom; split <;> rfl
@[simp] theorem makeRoom_now : (makeRoom cap s).now = s.now := by unfold makeRoom; split <;> rfl
@[simp] theorem makeRoom_tick : (makeRoom cap s).tick = s.tick := by unfold makeRoom; split <;> rfl
@[simp] theorem makeRoom_hdr : (makeRoom cap s).hdrOnDisk = s.hdrOnDisk := by unfold makeRoom; split <;> rfl
@[simp] theorem makeRoom_all : (makeRoom cap s).all = s.all := by
  unfold makeRoom St.all; split <;> simp
theorem makeRoom_evlen (h24 : 24 < cap) : (makeRoom cap s).evlen + 24 < cap := by
  unfold makeRoom; split
  · simp; exact h24
  · omega
end room

/-- The bookkeeping between two API calls.  Inside `ovni_ev_add` it may fail: after a forced flush the
    record is copied to the start of the buffer without a test, so `evlen` is then the record's size,
    which `Props.C01.run_sizes` bounds by `max cap 29`. -/
structure Inv (cap : Nat) (s : St D) : Prop where
  len : s.evlen = sizes s.buf
  lt : s.evlen < cap

/-- `s'` has the records of `s`, in the file and in the buffer as they were, and a clock that is
    not behind: a clock reading, and every call that emits nothing. -/
structure Frame (s s' : St D) : Prop where
  disk : s'.disk = s.disk
  buf : s'.buf = s.buf
  evlen : s'.evlen = s.evlen
  now : s.now ≤ s'.now
  hdr : s.hdrOnDisk = true → s'.hdrOnDisk = true

theorem Frame.refl (s : St D) : Frame s s := ⟨rfl, rfl, rfl, Nat.le_refl _, id⟩

theorem Frame.clockNow (s : St D) : Frame s s.clockNow.2 := ⟨rfl, rfl, rfl, Nat.le_add_right _ _, id⟩

theorem Frame.all {s s' : St D} (h : Frame s s') : s'.all = s.all := by rw [St.all, h.disk, h.buf]; rfl

theorem Inv.frame {cap : Nat} {s s' : St D} (hi : Inv cap s) (h : Frame s s') : Inv cap s' :=
  ⟨by rw [h.evlen, h.buf]; exact hi.len, by rw [h.evlen]; exact hi.lt⟩

/-- `ovni_ev_add` of `r` on a full buffer, in closed form: the timed flush and the copy of `r`
    (`forcedFlush`), a second flush if `r` leaves no room for the markers, then the two markers. -/
def flushedForm (cap : Nat) (s : St D) (r : Rec D) (o : Origin) : St D :=
  ((makeRoom cap (forcedFlush s r o)).append (markerOpen s.now) .lib).append
    (markerClose (s.now + s.tick)) .lib

theorem evAdd_not_ready (cap fuel : Nat) (s : St D) (r : Rec D) (o : Origin) (hr : s.ready = false) :
    evAdd cap fuel s r o = none := by
  cases fuel with
  | zero => rfl
  | succ n => rw [evAdd]; simp [hr]

theorem evAdd_fits (cap fuel : Nat) (s : St D) (r : Rec D) (o : Origin) (hr : s.ready = true)
    (hfit : s.evlen + r.size < cap) : evAdd cap (fuel + 1) s r o = some (s.append r o) := by
  rw [evAdd, if_neg (by simp [hr]), if_neg (by omega)]

theorem evAdd_two_markers (cap : Nat) (fuel : Nat) (x : St D) (hx : x.ready = true)
    (t0 t1 : Nat) (hlt : x.evlen + 24 < cap) {s' : St D}
    (h : (match evAdd cap (fuel + 1) x (markerOpen t0) .lib with
      | none => none
      | some s5 => evAdd cap (fuel + 1) s5 (markerClose t1) .lib) = some s') :
    s' = (x.append (markerOpen t0) .lib).append (markerClose t1) .lib := by
  simp only [evAdd_fits cap fuel x _ _ hx (show x.evlen + (markerOpen t0 : Rec D).size < cap by
    rw [markerOpen_size]; omega)] at h
  rw [evAdd_fits cap fuel (x.append _ _) _ _ hx
    (by rw [append_evlen, markerOpen_size, markerClose_size]; omega)] at h
  exact (Option.some.inj h).symm

theorem evAdd_cases {cap : Nat} (hcap : 24 < cap) {s s' : St D} {r : Rec D} {o : Origin}
    (h : evAdd cap addFuel s r o = some s') :
    s.ready = true ∧ (s.evlen + r.size < cap ∧ s' = s.append r o ∨ s' = flushedForm cap s r o) := by
  cases hr : s.ready with
  | false => rw [evAdd_not_ready cap addFuel s r o hr] at h; cases h
  | true =>
    -- one level for this call and one for each marker (which fit after `makeRoom`): fuel 2 would
    -- do, and `evAdd_two_markers` takes whatever is left of `addFuel = 4`
    rw [show addFuel = 2 + 2 from rfl, evAdd, if_neg (by simp [hr])] at h
    refine ⟨rfl, ?_⟩
    split at h
    · exact .inr (evAdd_two_markers cap 2 _ (by simp [hr]) _ _ (makeRoom_evlen cap _ hcap) h)
    · cases h; exact .inl ⟨by omega, rfl⟩

theorem flush_cases {cap : Nat} (hcap : 24 < cap) {s s' : St D} (h : flush cap s = some s') :
    s.ready = true ∧ s' = (((s.clockNow.2.flushBuf).clockNow.2).append (markerOpen s.now) .lib).append
      (markerClose (s.now + s.tick)) .lib := by
  cases hr : s.ready with
  | false => simp [flush, hr] at h
  | true =>
    rw [flush, if_neg (by simp [hr])] at h
    -- `addFuel` is `3 + 1` by unfolding
    exact ⟨rfl, evAdd_two_markers cap 3 ((s.clockNow.2.flushBuf).clockNow.2) hr _ _
      (by rw [clockNow_evlen, flushBuf_evlen]; omega) h⟩

theorem emit_eq_some {cap : Nat} {s s' : St D} {e : Ev} {chs : List (List Nat)}
    (h : emit cap s e chs = some s') :
    ∃ e', payloadAddAll e chs = some e' ∧ evAdd cap addFuel s (.ev e') .user = some s' := by
  unfold emit at h
  cases hp : payloadAddAll e chs with
  | none => rw [hp] at h; cases h
  | some e' => rw [hp] at h; exact ⟨e', rfl, h⟩

theorem emitJumbo_eq_some {cap : Nat} {s s' : St D} {e : Ev} {chs : List (List Nat)} {d : D}
    (h : emitJumbo cap s e chs d = some s') :
    ∃ r, jumboRec cap e chs d = some r ∧ evAdd cap addFuel s r .user = some s' := by
  unfold emitJumbo at h
  split at h
  · cases h
  · cases hp : jumboRec cap e chs d with
    | none => rw [hp] at h; cases h
    | some r => rw [hp] at h; exact ⟨r, rfl, h⟩

theorem mark_eq_some {cap : Nat} {s s' : St D} {kind : Nat} {type value : Int}
    (h : mark cap s kind type value = some s') :
    ∃ e', payloadAddAll { m := 79, c := 77, v := kind, clock := s.now } [sle 8 value, sle 4 type] =
        some e' ∧
      evAdd cap addFuel s.clockNow.2 (.ev e') .user = some s' := by
  unfold mark at h
  split at h
  · cases h
  · exact emit_eq_some h

theorem threadInit_eq_some {s s' : St D} (h : threadInit s = some s') :
    s.ready = true ∧ s' = s ∨ s.ready = false ∧ s.finished = false ∧
      s' = { s with ready := true, evlen := 0, buf := [], hdrOnDisk := true, nflush := s.nflush + 1 } := by
  unfold threadInit at h
  split at h
  · rename_i hr; cases h; exact .inl ⟨hr, rfl⟩
  · rename_i hr
    split at h
    · cases h
    · rename_i hf; cases h; exact .inr ⟨by simpa using hr, by simpa using hf, rfl⟩

theorem threadFree_eq_some {s s' : St D} (h : threadFree s = some s') :
    s' = { s with ready := false, finished := true } := by
  unfold threadFree at h
  split at h
  · cases h
  · split at h <;> cases h
    rfl

@[simp] theorem append_all (s : St D) (r : Rec D) (o : Origin) : (s.append r o).all = s.all ++ [(r, o)] := by
  unfold St.all; simp

theorem forcedFlush_all (s : St D) (r : Rec D) (o : Origin) :
    (forcedFlush s r o).all = s.all ++ [(r, o)] := by
  simp [St.all]

theorem flushedForm_all (cap : Nat) (s : St D) (r : Rec D) (o : Origin) :
    (flushedForm cap s r o).all =
      s.all ++ [(r, o), (markerOpen s.now, .lib), (markerClose (s.now + s.tick), .lib)] := by
  rw [flushedForm, append_all, append_all, makeRoom_all, forcedFlush_all]
  simp

theorem flushedForm_inv (cap : Nat) (hcap : 24 < cap) (s : St D) (r : Rec D) (o : Origin) :
    Inv cap (flushedForm cap s r o) := by
  unfold flushedForm
  have hl : (makeRoom cap (forcedFlush s r o)).evlen = sizes (makeRoom cap (forcedFlush s r o)).buf := by
    unfold makeRoom; split <;> simp
  have he := makeRoom_evlen cap (forcedFlush s r o) hcap
  constructor
  · simp only [append_evlen, append_buf, sizes_append, sizes_single, markerOpen_size, markerClose_size]
    omega
  · simp only [append_evlen, markerOpen_size, markerClose_size]; omega

theorem append_inv (cap : Nat) (s : St D) (r : Rec D) (o : Origin) (h : Inv cap s)
    (hfit : ¬ (s.evlen + r.size ≥ cap)) : Inv cap (s.append r o) := by
  constructor
  · simp only [append_evlen, append_buf, sizes_append, sizes_single]; have := h.len; omega
  · simp only [append_evlen]; omega

theorem run_cons (cap : Nat) (s : St D) (op : Op D) (ops : List (Op D)) :
    run cap s (op :: ops) = (step cap s op).bind (fun s1 => run cap s1 ops) := by
  rw [run]; cases step cap s op <;> rfl

theorem run_append (cap : Nat) (s : St D) (l1 l2 : List (Op D)) :
    run cap s (l1 ++ l2) = (run cap s l1).bind (fun s1 => run cap s1 l2) := by
  induction l1 generalizing s with
  | nil => rfl
  | cons o l ih =>
    rw [List.cons_append, run_cons, run_cons]
    cases step cap s o with
    | none => rfl
    | some s1 => exact ih s1

theorem run_invariant {cap : Nat} {P : St D → Prop} {ops : List (Op D)}
    (hstep : ∀ op ∈ ops, ∀ s s', P s → step cap s op = some s' → P s')
    {s s' : St D} (h0 : P s) (h : run cap s ops = some s') : P s' := by
  induction ops generalizing s with
  | nil => cases h; exact h0
  | cons op ops ih =>
    simp only [List.forall_mem_cons] at hstep
    rw [run_cons, Option.bind_eq_some_iff] at h
    obtain ⟨s1, hs, h⟩ := h
    exact ih hstep.2 (hstep.1 s s1 h0 hs) h

end Ovni.Rt
