import OvniModel.Rt.Event

/-! The event encoding (`Rt/Event`) for C01: little-endian fields, the payload API on
    well-formed events in closed form, and decoding of what was encoded, record by record. -/
namespace Ovni.Rt

theorem le_length (n v : Nat) : (le n v).length = n := by
  induction n generalizing v with
  | zero => rfl
  | succ n ih => simp [le, ih]

theorem unle_le (n v : Nat) : unle (le n v) = v % 256 ^ n := by
  induction n generalizing v with
  | zero => simp [le, unle, Nat.mod_one]
  | succ n ih =>
    simp only [le, unle, ih]
    rw [Nat.pow_succ, Nat.mul_comm (256 ^ n) 256, Nat.mod_mul]

theorem le_bytes (n v : Nat) : ∀ b ∈ le n v, b < 256 := by
  induction n generalizing v with
  | zero => simp [le]
  | succ n ih =>
    intro b hb
    simp only [le, List.mem_cons] at hb
    rcases hb with hb | hb
    · subst hb; omega
    · exact ih _ b hb

/-- A user event as the API leaves it. -/
structure Ev.WF (e : Ev) : Prop where
  size : payloadSize e.flags = e.payload.length
  small : e.flags < 16

theorem payloadSize_lt16 (f : Nat) (h : f < 16) : payloadSize f = if f = 0 then 0 else f + 1 := by
  unfold payloadSize
  simp only [Nat.mod_eq_of_lt h]

theorem isJumbo_small (f : Nat) (h : f < 16) : isJumbo f = false := by
  unfold isJumbo
  have : f / 16 = 0 := by omega
  simp [this]

theorem wf_iff (e : Ev) :
    e.WF ↔ e.payload.length ≤ 16 ∧ e.payload.length ≠ 1 ∧ e.flags = e.payload.length - 1 := by
  constructor
  · intro ⟨hs, hsm⟩
    rw [payloadSize_lt16 _ hsm] at hs
    split at hs <;> omega
  · intro ⟨h16, h1, hf⟩
    have hsm : e.flags < 16 := by omega
    refine ⟨?_, hsm⟩
    rw [payloadSize_lt16 _ hsm]
    split <;> omega

theorem payloadAdd_eq (e : Ev) (ch : List Nat) (hw : e.WF) :
    payloadAdd e ch =
      if 2 ≤ ch.length ∧ e.payload.length + ch.length ≤ 16 then
        some { e with payload := e.payload ++ ch, flags := (e.payload ++ ch).length - 1 }
      else none := by
  have hd : e.flags / 16 = 0 := by have := hw.small; omega
  simp only [payloadAdd, isJumbo_small _ hw.small, hw.size, List.take_length, hd, List.length_append,
    Bool.false_eq_true, if_false, Nat.zero_mul, Nat.zero_add]
  split
  · rw [if_neg (by omega)]
  · split
    · rw [if_neg (by omega)]
    · rw [if_pos (by omega), Nat.mod_eq_of_lt (by omega)]

theorem payloadAdd_wf {e e' : Ev} {ch : List Nat} (hw : e.WF) (h : payloadAdd e ch = some e') :
    e'.WF := by
  rw [payloadAdd_eq e ch hw] at h
  split at h
  · cases h; exact (wf_iff _).2 ⟨by simp; omega, by simp; omega, rfl⟩
  · cases h

theorem payloadAddAll_wf {e e' : Ev} {chs : List (List Nat)} (hw : e.WF)
    (h : payloadAddAll e chs = some e') : e'.WF := by
  induction chs generalizing e with
  | nil => cases h; exact hw
  | cons ch chs ih =>
    rw [payloadAddAll] at h
    cases hp : payloadAdd e ch with
    | none => rw [hp] at h; cases h
    | some e1 => rw [hp] at h; exact ih (payloadAdd_wf hw hp) h

theorem payloadAddAll_eq (e : Ev) (chs : List (List Nat)) (hw : e.WF) :
    payloadAddAll e chs =
      if (∀ c ∈ chs, 2 ≤ c.length) ∧ e.payload.length + chs.flatten.length ≤ 16 then
        some { e with payload := e.payload ++ chs.flatten, flags := (e.payload ++ chs.flatten).length - 1 }
      else none := by
  induction chs generalizing e with
  | nil =>
    have := (wf_iff e).1 hw
    simp [payloadAddAll, ← this.2.2, this.1]
  | cons ch chs ih =>
    rw [payloadAddAll, payloadAdd_eq e ch hw]
    by_cases h : 2 ≤ ch.length ∧ e.payload.length + ch.length ≤ 16
    · rw [if_pos h]
      show payloadAddAll _ chs = _
      rw [ih _ (payloadAdd_wf hw (by rw [payloadAdd_eq e ch hw, if_pos h]))]
      simp only [List.forall_mem_cons, List.flatten_cons, List.length_append, h.1, true_and,
        List.append_assoc, Nat.add_assoc]
    · rw [if_neg h, if_neg]
      simp only [List.forall_mem_cons, List.flatten_cons, List.length_append]
      omega

theorem payloadAddAll_fields {e e' : Ev} {chs : List (List Nat)} (hw : e.WF)
    (h : payloadAddAll e chs = some e') :
    e'.m = e.m ∧ e'.c = e.c ∧ e'.v = e.v ∧ e'.clock = e.clock := by
  rw [payloadAddAll_eq e chs hw] at h
  split at h <;> cases h
  exact ⟨rfl, rfl, rfl, rfl⟩

variable {D : Type} [JData D]

/-- Records the library puts in the buffer: API-built events, or jumbo records
    built by `ovni_ev_add_jumbo` (nibble 3 + jumbo bit, size below 2^32). -/
inductive Rec.WF : Rec D → Prop where
  | ev (e : Ev) : e.WF → Rec.WF (.ev e)
  | jumbo (e : Ev) (d : D) : e.flags = 19 → JData.len d < 2 ^ 32 → Rec.WF (.jumbo e d)

theorem headerBytes_length (e : Ev) : (headerBytes e).length = 12 := by
  simp [headerBytes, le_length]

theorem encode_length (r : Rec D) (h : r.WF) : r.encode.length = r.size := by
  cases h with
  | ev e hw =>
    simp only [Rec.encode, Rec.size, List.length_append, headerBytes_length, List.length_take]
    have := hw.size
    omega
  | jumbo e d hf hl =>
    simp only [Rec.encode, Rec.size, List.length_append, headerBytes_length, le_length,
      JData.len_eq]

theorem decodeOne_ev (f m c v : Nat) (clk body rest : List Nat) (hc : clk.length = 8)
    (hj : isJumbo f = false) (hb : body.length = payloadSize f) :
    decodeOne (f :: m :: c :: v :: (clk ++ (body ++ rest))) =
      some (⟨f, m, c, v, unle clk, body, none⟩, rest) := by
  have h8 : ¬ (clk ++ (body ++ rest)).length < 8 := by rw [List.length_append]; omega
  have hn : ¬ (body ++ rest).length < payloadSize f := by rw [List.length_append]; omega
  simp only [decodeOne, h8, if_false, List.take_left' hc, List.drop_left' hc, hj, Bool.false_eq_true, hn,
    List.take_left' hb, List.drop_left' hb]

theorem decodeOne_jumbo (f m c v : Nat) (clk sz data rest : List Nat) (hc : clk.length = 8)
    (hj : isJumbo f = true) (hs : sz.length = 4) (hd : data.length = unle sz) :
    decodeOne (f :: m :: c :: v :: (clk ++ (sz ++ (data ++ rest)))) =
      some (⟨f, m, c, v, unle clk, sz, some data⟩, rest) := by
  have h8 : ¬ (clk ++ (sz ++ (data ++ rest))).length < 8 := by rw [List.length_append]; omega
  have h4 : ¬ (sz ++ (data ++ rest)).length < 4 := by rw [List.length_append]; omega
  have hn : ¬ (data ++ rest).length < unle sz := by rw [List.length_append]; omega
  simp only [decodeOne, h8, if_false, List.take_left' hc, List.drop_left' hc, hj, if_true, h4,
    List.take_left' hs, List.drop_left' hs, hn, List.take_left' hd, List.drop_left' hd]

theorem decodeOne_encode (r : Rec D) (h : r.WF) (rest : List Nat) :
    decodeOne (r.encode ++ rest) = some (r.toDec, rest) := by
  cases h with
  | ev e hw =>
    have hf : e.flags % 256 = e.flags := Nat.mod_eq_of_lt (by have := hw.small; omega)
    have hb : (e.payload.take (payloadSize e.flags)).length = payloadSize (e.flags % 256) := by
      rw [hf, hw.size, List.take_length]
    simp only [Rec.encode, headerBytes, List.cons_append, List.nil_append, List.append_assoc]
    rw [decodeOne_ev _ _ _ _ _ _ _ (le_length 8 _) (by rw [hf]; exact isJumbo_small _ hw.small) hb, unle_le]
    rfl   -- `Rec.toDec` reduces the clock mod 2^64, which is `256 ^ 8` by evaluation
  | jumbo e d hf hl =>
    have hd : (JData.bytes d).length = unle (le 4 (JData.len d)) := by
      rw [unle_le, ← JData.len_eq, Nat.mod_eq_of_lt hl]
    simp only [Rec.encode, headerBytes, List.cons_append, List.nil_append, List.append_assoc]
    rw [decodeOne_jumbo _ _ _ _ _ _ _ _ (le_length 8 _) (by rw [hf]; rfl) (le_length 4 _) hd, unle_le]
    rfl

theorem encode_ne_nil (r : Rec D) : r.encode ≠ [] := by
  cases r <;> simp [Rec.encode, headerBytes]

theorem decodeAll_step (fuel : Nat) (bs : List Nat) (h : bs ≠ []) :
    decodeAll (fuel + 1) bs =
      match decodeOne bs with
      | none => none
      | some (e, rest) =>
        match decodeAll fuel rest with
        | none => none
        | some es => some (e :: es) := by
  cases bs with
  | nil => exact absurd rfl h
  | cons b bs => rfl

theorem decodeAll_encode (rs : List (Rec D)) (h : ∀ r ∈ rs, r.WF) (fuel : Nat)
    (hf : (rs.flatMap Rec.encode).length ≤ fuel) :
    decodeAll fuel (rs.flatMap Rec.encode) = some (rs.map Rec.toDec) := by
  induction rs generalizing fuel with
  | nil => cases fuel <;> rfl
  | cons r rs ih =>
    simp only [List.forall_mem_cons] at h
    simp only [List.flatMap_cons, List.length_append] at hf ⊢
    have hpos : 0 < r.encode.length := List.length_pos_iff.mpr (encode_ne_nil r)
    obtain ⟨fuel, rfl⟩ : ∃ n, fuel = n + 1 := ⟨fuel - 1, by omega⟩
    rw [decodeAll_step fuel _ (by simp [encode_ne_nil]), decodeOne_encode r h.1]
    simp only [ih h.2 fuel (by omega), List.map_cons]

end Ovni.Rt
