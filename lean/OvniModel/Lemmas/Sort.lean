import OvniModel.Emu.Sort
import OvniModel.Lemmas.ListLemmas
import OvniModel.Lemmas.InsertSort

/-! `sort_replace` on a sorted array split as `pre ++ old :: post` around the first `old`:
    what each of its three loops does to that split, and hence `sortReplace_eq`. -/
namespace Ovni.Emu.Sort
open Ovni.Emu.System (insertBy insertBy_perm insertBy_pairwise)

theorem rd_append_at (pre : List Int) (x : Int) (post : List Int) :
    rd (pre ++ x :: post) pre.length = x := by
  simp [rd, List.getD_eq_getElem?_getD]

theorem rd_append_lt (pre l : List Int) (i : Nat) (h : i < pre.length) :
    rd (pre ++ l) i = pre[i] := by
  simp [rd, List.getD_eq_getElem?_getD, List.getElem?_append_left h, h]

theorem rd_append_ge (pre l : List Int) (k : Nat) :
    rd (pre ++ l) (pre.length + k) = rd l k := by
  simp [rd, List.getD_eq_getElem?_getD, List.getElem?_append_right]

/-- `insertSorted` is `insertBy` with the strict test: `x` goes behind the elements equal to it. -/
theorem insertSorted_eq (x : Int) (l : List Int) : insertSorted x l = insertBy (fun a b => decide (a < b)) x l := by
  induction l with
  | nil => rfl
  | cons y ys ih =>
    rw [insertSorted, insertBy, ih]
    by_cases h : y ≤ x
    · rw [if_pos h, if_neg (by simpa using h)]
    · rw [if_neg h, if_pos (by simpa using h)]

theorem insertSorted_perm (x : Int) (l : List Int) : (insertSorted x l).Perm (x :: l) :=
  insertSorted_eq x l ▸ insertBy_perm _ x l

theorem insertSorted_sorted (x : Int) (l : List Int) (h : Sorted l) : Sorted (insertSorted x l) :=
  insertSorted_eq x l ▸ insertBy_pairwise (R := fun a b : Int => a ≤ b) _
    (fun _ _ h => Int.le_of_lt (of_decide_eq_true h)) (fun _ _ h => Int.not_lt.1 (mt decide_eq_true h))
    (fun _ _ _ => Int.le_trans) x l h

theorem isort_isSort : IsSort isort := by
  intro l
  induction l with
  | nil => exact ⟨List.Pairwise.nil, List.Perm.refl _⟩
  | cons x xs ih =>
    exact ⟨insertSorted_sorted _ _ ih.1, (insertSorted_perm _ _).trans (List.Perm.cons x ih.2)⟩

theorem insertSorted_at (x : Int) (pre post : List Int) (h1 : ∀ z ∈ pre, z ≤ x) (h2 : ∀ z ∈ post.head?, x < z) :
    insertSorted x (pre ++ post) = pre ++ x :: post := by
  induction pre with
  | nil =>
    cases post with
    | nil => rfl
    | cons p ps => rw [List.nil_append, insertSorted, if_neg (Int.not_le.mpr (h2 p rfl)), List.nil_append]
  | cons a t ih =>
    rw [List.cons_append, insertSorted, if_pos (h1 a (List.mem_cons_self ..)),
      ih fun z hz => h1 z (List.mem_cons_of_mem _ hz), List.cons_append]

/-- The element at `pre.length` is any `y` not below `old`: the loop tests nothing else. -/
theorem skipLt_spec (pre : List Int) (y : Int) (post : List Int) (old : Int)
    (hpre : ∀ z ∈ pre, z < old) (hy : ¬ y < old) :
    ∀ (fuel i : Nat), i ≤ pre.length → pre.length - i ≤ fuel →
      skipLt (pre ++ y :: post) old fuel i = pre.length := by
  intro fuel
  induction fuel with
  | zero => intro i h1 h2; simp only [skipLt]; omega
  | succ f ih =>
    intro i h1 h2
    simp only [skipLt]
    by_cases hi : i = pre.length
    · subst hi
      rw [rd_append_at]
      simp [hy]
    · have hlt : i < pre.length := by omega
      rw [rd_append_lt _ _ _ hlt]
      have : pre[i] < old := hpre _ (List.getElem_mem hlt)
      simp only [this, if_true]
      exact ih (i + 1) (by omega) (by omega)

/-- The hole is at `pre.length` and everything in front of it is at or below `new`.  Its content
    `x` is arbitrary: after the first shift it holds a stale copy of its right neighbour, so the
    induction over `post` goes through with the hole one slot further. -/
theorem shiftLeft_spec (new : Int) (n : Nat) :
    ∀ (post pre : List Int) (x : Int) (fuel : Nat),
      n = pre.length + 1 + post.length → post.length ≤ fuel → (∀ z ∈ pre, z ≤ new) →
      let r := shiftLeft n new fuel (pre ++ x :: post) pre.length
      r.1.set r.2 new = insertSorted new (pre ++ post) := by
  intro post
  induction post with
  | nil =>
    intro pre x fuel hn _ hp
    have hc : ¬ (pre.length + 1 < n) := by simp at hn; omega
    rw [insertSorted_at new pre [] hp (fun _ h => nomatch h)]
    cases fuel <;> simp [shiftLeft, hc]
  | cons y ys ih =>
    intro pre x fuel hn hf hp
    cases fuel with
    | zero => simp at hf
    | succ f =>
      have hc : pre.length + 1 < n := by simp at hn; omega
      have hrd : rd (pre ++ x :: y :: ys) (pre.length + 1) = y := by
        rw [rd_append_ge]; rfl
      simp only [shiftLeft, hc, hrd, true_and]
      by_cases hle : y ≤ new
      · have := ih (pre ++ [y]) y f (by simp at hn ⊢; omega) (by simp at hf; omega)
          (fun z hz => (List.mem_append.mp hz).elim (hp z) fun h => List.mem_singleton.mp h ▸ hle)
        simp only [List.append_assoc, List.singleton_append, List.length_append, List.length_singleton] at this
        simp only [hle, if_true]
        rw [set_append_at]
        exact this
      · simp only [hle, if_false]
        rw [set_append_at, insertSorted_at new pre (y :: ys) hp (fun z hz => by cases hz; omega)]

/-- The mirror image: everything behind the hole is above `new`.  The loop peels elements off the
    right end of the part in front of the hole, hence the induction over that part reversed; it is
    sorted, so where the scan stops everything in front is at or below `new`. -/
theorem shiftRight_spec (new : Int) :
    ∀ (rpre : List Int) (x : Int) (post : List Int), Sorted rpre.reverse → (∀ z ∈ post, new < z) →
      let r := shiftRight new (rpre.reverse ++ x :: post) rpre.length
      r.1.set r.2 new = insertSorted new (rpre.reverse ++ post) := by
  intro rpre
  induction rpre with
  | nil =>
    intro x post _ hp
    have := insertSorted_at new [] post (fun _ h => nomatch h) fun z hz => hp z (List.mem_of_mem_head? hz)
    simpa [shiftRight] using this.symm
  | cons y ys ih =>
    intro x post hs hp
    have hl2 : ys.length + 1 = (ys.reverse ++ [y]).length := by simp
    have hrd : rd ((ys.reverse ++ [y]) ++ x :: post) ys.length = y := by
      rw [List.append_assoc, List.singleton_append, ← List.length_reverse, rd_append_at]
    simp only [List.length_cons, shiftRight, hrd, List.reverse_cons]
    have hso := List.pairwise_append.1 (show Sorted (ys.reverse ++ [y]) by simpa using hs)
    by_cases hgt : y > new
    · have := ih y (y :: post) hso.1 fun z hz => (List.mem_cons.mp hz).elim (fun e => e ▸ hgt) (hp z)
      simp only [hgt, if_true]
      rw [hl2, set_append_at, List.append_assoc, List.append_assoc]
      exact this
    · simp only [hgt, if_false]
      rw [hl2, set_append_at, insertSorted_at new _ post
        (fun z hz => (List.mem_append.1 hz).elim
          (fun h => by have := hso.2.2 z h y (List.mem_singleton_self y); omega)
          (fun h => by cases List.mem_singleton.mp h; omega))
        fun z hz => hp z (List.mem_of_mem_head? hz)]

theorem sorted_split (arr : List Int) (old : Int) (hs : Sorted arr) (hm : old ∈ arr) :
    ∃ pre post, arr = pre ++ old :: post ∧ (∀ z ∈ pre, z < old) ∧ (∀ z ∈ post, old ≤ z) ∧
      Sorted pre ∧ arr.erase old = pre ++ post := by
  obtain ⟨pre, post, rfl, hn⟩ := List.eq_append_cons_of_mem hm
  obtain ⟨h1, h2, h3⟩ := List.pairwise_append.mp hs
  refine ⟨pre, post, rfl, fun z hz => ?_, (List.pairwise_cons.mp h2).1, h1, by
    rw [List.erase_append_right _ hn, List.erase_cons_head]⟩
  have := h3 z hz old (List.mem_cons_self ..)
  have : z ≠ old := fun e => hn (e ▸ hz)
  omega

/-- Only the part in front of the first `old` is below it. -/
theorem lt_of_rd_lt (pre post : List Int) (old : Int) (h2 : ∀ z ∈ post, old ≤ z) (k : Nat)
    (hkn : k < (pre ++ old :: post).length) (h : rd (pre ++ old :: post) k < old) : k < pre.length := by
  apply Classical.byContradiction
  intro hk
  obtain ⟨j, rfl⟩ : ∃ j, k = pre.length + j := ⟨k - pre.length, by omega⟩
  rw [rd_append_ge] at h
  cases j with
  | zero => simp [rd] at h
  | succ j =>
    have hj : j < post.length := by simp at hkn; omega
    have : rd (old :: post) (j + 1) = post[j] := by
      simp [rd, List.getD_eq_getElem?_getD, hj]
    have := h2 _ (List.getElem_mem hj)
    omega

theorem sortReplace_eq (arr : List Int) (old new : Int)
    (hs : Sorted arr) (hm : old ∈ arr) (hne : old ≠ new) :
    sortReplace arr old new = some (insertSorted new (arr.erase old)) := by
  obtain ⟨pre, post, rfl, h1, h2, h3, he⟩ := sorted_split arr old hs hm
  rw [he]
  have hlen : (pre ++ old :: post).length = pre.length + 1 + post.length := by simp; omega
  unfold sortReplace
  simp only [hne, if_false]
  by_cases hlt : old < new
  · simp only [hlt, if_true]
    -- the n/2 shortcut lands at or before the first `old`
    have hi0 : (if rd (pre ++ old :: post) ((pre ++ old :: post).length / 2) < old
                then (pre ++ old :: post).length / 2 else 0) ≤ pre.length := by
      split
      next hm' => exact Nat.le_of_lt (lt_of_rd_lt pre post old h2 _ (by omega) hm')
      next => omega
    rw [skipLt_spec pre old post old h1 (by omega) _ _ hi0 (by omega)]
    exact congrArg some (shiftLeft_spec new _ post pre old _ hlen (by omega) fun z hz => by
      have := h1 z hz; omega)
  · simp only [hlt, if_false]
    rw [skipLt_spec pre old post old h1 (by omega) _ 0 (by omega) (by omega)]
    have := shiftRight_spec new pre.reverse old post (by simpa using h3) fun z hz => by
      have := h2 z hz; omega
    simp only [List.reverse_reverse, List.length_reverse] at this
    exact congrArg some this

end Ovni.Emu.Sort
