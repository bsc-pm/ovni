import OvniModel.Lemmas.Sort

/-! The `sort_cb_input` state machine: the output loop and its write log, and the
    invariant `Inv` (sorted permutation of the input values once `copied`). -/
namespace Ovni.Emu.Sort

theorem set_perm_erase (l : List Int) (i : Nat) (v : Int) (h : i < l.length) :
    (l.set i v).Perm (v :: l.erase (rd l i)) := by
  induction l generalizing i with
  | nil => simp at h
  | cons a t ih =>
    cases i with
    | zero => simp [rd]
    | succ j =>
      have hj : j < t.length := by simpa using h
      have e : rd (a :: t) (j + 1) = rd t j := by simp [rd]
      rw [e, List.set_cons_succ]
      by_cases ha : a = rd t j
      · rw [← ha, List.erase_cons_head]
        have h1 := ih j hj
        rw [← ha] at h1
        -- a :: t.set j v ~ a :: v :: t.erase a ~ v :: a :: t.erase a ~ v :: t
        have hmem : a ∈ t := by
          rw [ha]; simp [rd, List.getD_eq_getElem?_getD, hj]
        exact ((List.Perm.cons a h1).trans (List.Perm.swap v a _)).trans
          (List.Perm.cons v (List.perm_cons_erase hmem).symm)
      · have : (a :: t).erase (rd t j) = a :: t.erase (rd t j) := by
          simp [ha]
        rw [this]
        exact (List.Perm.cons a (ih j hj)).trans (List.Perm.swap v a _)

theorem rd_mem (l : List Int) (i : Nat) (h : i < l.length) : rd l i ∈ l := by
  simp [rd, List.getD_eq_getElem?_getD, h]

/-- The output loop in closed form: the log holds the positions where the channel does not
    already show the value; afterwards every output shows `s`. -/
theorem writeLoop_eq (s : List Int) : ∀ (i : Nat) (o : List Value),
    (writeLoop i s o).2 = ((s.zip o).zipIdx i).filterMap
      (fun p => if p.1.2 = .int p.1.1 then none else some (p.2, p.1.1)) ∧
    (s.length = o.length → (writeLoop i s o).1 = s.map Value.int) := by
  induction s with
  | nil => intro i o; exact ⟨rfl, fun h => by rw [List.eq_nil_of_length_eq_zero h.symm]; rfl⟩
  | cons x xs ih =>
    intro i o
    cases o with
    | nil => exact ⟨rfl, fun h => nomatch h⟩
    | cons y ys =>
      obtain ⟨h2, h1⟩ := ih (i + 1) ys
      simp only [writeLoop, List.zip_cons_cons, List.zipIdx_cons, List.filterMap_cons, List.length_cons,
        Nat.add_right_cancel_iff, List.map_cons]
      split
      next he => exact ⟨h2, fun h => by rw [h1 h, he]⟩
      next => exact ⟨congrArg _ h2, fun h => by rw [h1 h]⟩

theorem writeLoop_log (s : List Int) (o : List Value) (j : Nat) (v : Int) (h : s.length = o.length) :
    (j, v) ∈ (writeLoop 0 s o).2 ↔ s[j]? = some v ∧ o[j]? ≠ some (Value.int v) := by
  rw [(writeLoop_eq s 0 o).1, List.mem_filterMap]
  constructor
  · rintro ⟨⟨⟨x, y⟩, k⟩, hm, hp⟩
    obtain ⟨hx, hy⟩ := List.getElem?_zip_eq_some.mp (List.mk_mem_zipIdx_iff_getElem?.mp hm)
    split at hp
    · cases hp
    · next hne =>
      cases hp
      exact ⟨hx, by rw [hy]; exact fun e => hne (Option.some.inj e)⟩
  · rintro ⟨hx, hy⟩
    obtain ⟨y, hy'⟩ : ∃ y, o[j]? = some y :=
      ⟨_, List.getElem?_eq_getElem (h ▸ (List.getElem?_eq_some_iff.mp hx).1)⟩
    exact ⟨((v, y), j), List.mk_mem_zipIdx_iff_getElem?.mpr (List.getElem?_zip_eq_some.mpr ⟨hx, hy'⟩),
      if_neg fun e => hy (hy'.trans (congrArg some e))⟩

theorem writeLoop_increasing (s : List Int) (i : Nat) (o : List Value) :
    ((writeLoop i s o).2.map Prod.fst).Pairwise (· < ·) := by
  rw [(writeLoop_eq s i o).1, List.pairwise_map]
  refine List.Pairwise.filterMap _ ?_
    (List.pairwise_map.mp (by rw [List.zipIdx_map_snd]; exact List.pairwise_lt_range'))
  intro a a' hlt b hb b' hb'
  split at hb <;> cases hb
  split at hb' <;> cases hb'
  exact hlt

/-- Before the first change (`copied = 0`) the arrays are the zeroed `calloc` memory and the
    outputs are `NULL`. -/
structure Inv (s : State) : Prop where
  lenV : s.values.length = s.n
  lenO : s.outs.length = s.n
  cop : s.copied = true →
    Sorted s.sorted ∧ s.sorted.Perm s.values ∧ s.outs = s.sorted.map Value.int
  fresh : s.copied = false →
    s.values = List.replicate s.n 0 ∧ s.outs = List.replicate s.n Value.null

theorem inv_init (n : Nat) : Inv (init n) := by
  constructor <;> simp [init]

theorem cbInput_same (qs : List Int → List Int) (s : State) (index : Nat) (cur : Value)
    (h : rd s.values index = cur.toInt ∨ s.n ≤ index) : cbInput qs s index cur = (s, []) := by
  unfold cbInput
  simp only [h, if_true]

theorem cbInput_change (qs : List Int → List Int) (s : State) (index : Nat) (cur : Value)
    (h : ¬ (rd s.values index = cur.toInt ∨ s.n ≤ index)) :
    cbInput qs s index cur =
      ({ s with values := s.values.set index cur.toInt,
                sorted := nextSorted qs s index cur.toInt, copied := true,
                outs := (writeLoop 0 (nextSorted qs s index cur.toInt) s.outs).1 },
       (writeLoop 0 (nextSorted qs s index cur.toInt) s.outs).2) := by
  unfold cbInput
  simp only [h, if_false]

theorem nextSorted_spec (qs : List Int → List Int) (hq : IsSort qs) (s : State) (hi : Inv s)
    (index : Nat) (new : Int) (hidx : index < s.n) (hne : rd s.values index ≠ new) :
    Sorted (nextSorted qs s index new) ∧
      (nextSorted qs s index new).Perm (s.values.set index new) := by
  have hlt : index < s.values.length := by rw [hi.lenV]; exact hidx
  unfold nextSorted
  cases hc : s.copied with
  | false =>
    simp only [Bool.false_eq_true, if_false]
    exact hq _
  | true =>
    obtain ⟨h1, h2, _⟩ := hi.cop hc
    have hm : rd s.values index ∈ s.sorted := h2.mem_iff.2 (rd_mem _ _ hlt)
    simp only [if_true, sortReplace_eq s.sorted _ new h1 hm hne]
    refine ⟨insertSorted_sorted _ _ (h1.erase _), ?_⟩
    exact (insertSorted_perm _ _).trans
      ((List.Perm.cons new (h2.erase _)).trans (set_perm_erase _ _ _ hlt).symm)

/-- One call of `sort_cb_input` in a state with `Inv`: nothing happens (same value, or no such
    input: the value is recorded already), or `sorted` becomes a sorted permutation `srt` of the new
    values, every output shows it, and the writes are those of the output loop. -/
theorem cbInput_cases (qs : List Int → List Int) (hq : IsSort qs) (s : State) (hi : Inv s) (index : Nat)
    (cur : Value) :
    (s.values.set index cur.toInt = s.values ∧ cbInput qs s index cur = (s, [])) ∨
    ∃ srt, Sorted srt ∧ srt.Perm (s.values.set index cur.toInt) ∧ srt.length = s.n ∧
      cbInput qs s index cur =
        ({ s with values := s.values.set index cur.toInt, sorted := srt, copied := true,
                  outs := srt.map Value.int }, (writeLoop 0 srt s.outs).2) := by
  by_cases hcond : rd s.values index = cur.toInt ∨ s.n ≤ index
  · refine Or.inl ⟨?_, cbInput_same qs s index cur hcond⟩
    by_cases hlt : index < s.values.length
    · -- in range the guard can only be the first disjunct: the value written is the one there
      have h : rd s.values index = cur.toInt := hcond.resolve_right (by rw [← hi.lenV]; omega)
      rw [← h, rd, List.getD_eq_getElem?_getD, List.getElem?_eq_getElem hlt, Option.getD_some,
        List.set_getElem_self]
    · exact List.set_eq_of_length_le (by omega)
  · have hidx : index < s.n := by
      apply Classical.byContradiction; intro h; exact hcond (Or.inr (by omega))
    obtain ⟨hs1, hs2⟩ := nextSorted_spec qs hq s hi index cur.toInt hidx (fun h => hcond (Or.inl h))
    have hlen : (nextSorted qs s index cur.toInt).length = s.n := by
      rw [hs2.length_eq, List.length_set, hi.lenV]
    refine Or.inr ⟨_, hs1, hs2, hlen, ?_⟩
    rw [cbInput_change qs s index cur hcond, (writeLoop_eq _ 0 s.outs).2 (by rw [hlen, hi.lenO])]

theorem step_spec (qs : List Int → List Int) (hq : IsSort qs) (s : State) (hi : Inv s) (index : Nat)
    (cur : Value) :
    Inv (cbInput qs s index cur).1 ∧ (cbInput qs s index cur).1.n = s.n ∧
      (cbInput qs s index cur).1.values = s.values.set index cur.toInt := by
  rcases cbInput_cases qs hq s hi index cur with ⟨hv, e⟩ | ⟨srt, hs1, hs2, hlen, e⟩ <;> rw [e]
  · exact ⟨hi, rfl, hv.symm⟩
  · exact ⟨⟨by simp [hi.lenV], by simp [hlen], fun _ => ⟨hs1, hs2, rfl⟩, fun h => by simp at h⟩, rfl, rfl⟩

theorem run_spec (qs : List Int → List Int) (hq : IsSort qs) (evs : List (Nat × Value)) :
    ∀ s, Inv s → Inv (run qs s evs) ∧ (run qs s evs).n = s.n ∧
      (run qs s evs).values = evs.foldl (fun acc e => acc.set e.1 e.2.toInt) s.values := by
  induction evs with
  | nil => intro s h; exact ⟨h, rfl, rfl⟩
  | cons e es ih =>
    intro s h
    obtain ⟨h1, h2, h3⟩ := step_spec qs hq s h e.1 e.2
    obtain ⟨i1, i2, i3⟩ := ih _ h1
    exact ⟨i1, i2.trans h2, by rw [List.foldl_cons, ← h3]; exact i3⟩

/-- After the first change the rows are the sorted array (`toInt ∘ int = id`). -/
theorem Inv.rows_eq {s : State} (hi : Inv s) (hc : s.copied = true) : rows s = s.sorted := by
  simp only [rows, (hi.cop hc).2.2, List.map_map]
  exact (List.map_congr_left fun _ _ => rfl).trans (List.map_id _)

theorem rows_of_inv (s : State) (hi : Inv s) :
    Sorted (rows s) ∧ (rows s).Perm s.values ∧ (rows s).length = s.n := by
  suffices h : Sorted (rows s) ∧ (rows s).Perm s.values from
    ⟨h.1, h.2, by simp only [rows, List.length_map, hi.lenO]⟩
  cases hc : s.copied with
  | true =>
    rw [hi.rows_eq hc]
    exact ⟨(hi.cop hc).1, (hi.cop hc).2.1⟩
  | false =>
    obtain ⟨h1, h2⟩ := hi.fresh hc
    have : rows s = List.replicate s.n 0 := by
      simp only [rows, h2, List.map_replicate]; rfl
    rw [this, h1]
    exact ⟨List.pairwise_replicate.2 (.inr (Int.le_refl _)), List.Perm.refl _⟩

end Ovni.Emu.Sort
