import OvniModel.Emu.Stream
import OvniModel.Lemmas.RtEvent

/-!
The stream cursor on buffers that hold well-formed events (C12, C19).  `stream_step` is
taken with its second half as a parameter (`stepWith`), so that the cursor as it was before
ovni's repair db50cd1 (`streamStep`) and the repaired one (`Fixed.streamStep`) share every
lemma up to the verdicts on whole streams.  The repaired second half is the old one behind the
test `Fixed.HdrOk` (`Fixed.loadEv_eq`), which is all the walk needs of a loader (`LdOk`).
-/
namespace Ovni.Emu.Stream
open Ovni.Rt (le unle le_length unle_le)

theorem wrap32_id (x : Int) (h0 : -2147483648 ≤ x) (h1 : x < 2147483648) : wrap32 x = x := by
  unfold wrap32; omega

theorem wrap64_id (x : Int) (h0 : 0 ≤ x) (h1 : x < 9223372036854775808) : wrap64 x = x := by
  unfold wrap64; omega

theorem nibSize_le (f : Nat) : nibSize f ≤ 16 := by
  unfold nibSize; split <;> omega

/-- Under the size guard of the repair both conversions to `int` (in `ovni_payload_size` and in
    `ovni_ev_size`) are the identity: `2147483647 - 16` is the largest jumbo size for which they are. -/
theorem evSizeC_exact (g : Garbage) (buf : List Nat) (off : Int)
    (hs : isJumboF (flagsAt g buf off) = true → (jumboSizeAt g buf off : Int) ≤ 2147483647 - 16) :
    evSizeC g buf off = 12 + if isJumboF (flagsAt g buf off) then 4 + (jumboSizeAt g buf off : Int)
      else (nibSize (flagsAt g buf off) : Int) := by
  unfold evSizeC payloadSizeC
  split
  · rename_i j
    have := hs j
    rw [wrap32_id (4 + _) (by omega) (by omega), wrap32_id _ (by omega) (by omega)]
  · have := nibSize_le (flagsAt g buf off)
    rw [wrap32_id _ (by omega) (by omega)]

theorem isJumboF_eq_isJumbo (f : Nat) : isJumboF f = Ovni.Rt.isJumbo f := rfl

theorem nibSize_eq_payloadSize (f : Nat) : nibSize f = Ovni.Rt.payloadSize f := rfl

theorem byteAt_inb (g g' : Garbage) (buf : List Nat) (i : Int) (h0 : 0 ≤ i) (h1 : i < (buf.length : Int)) :
    byteAt g buf i = byteAt g' buf i := by
  unfold byteAt; rw [if_pos ⟨h0, h1⟩, if_pos ⟨h0, h1⟩]

theorem readLE_eq (g : Garbage) (buf : List Nat) (n k : Nat) (h : k + n ≤ buf.length) :
    readLE g buf (k : Int) n = unle ((buf.drop k).take n) := by
  induction n generalizing k with
  | zero => simp [readLE, unle]
  | succ n ih =>
    have hk : k < buf.length := by omega
    rw [readLE, byteAt, if_pos ⟨Int.natCast_nonneg k, by omega⟩, ← Int.natCast_succ, ih (k + 1) (by omega),
      List.drop_eq_getElem_cons hk, List.take_succ_cons, unle, Int.toNat_natCast, List.getD_eq_getElem?_getD,
      List.getElem?_eq_getElem hk, Option.getD_some]

theorem readLE_inb (g g' : Garbage) (buf : List Nat) (n : Nat) (off : Int) (h0 : 0 ≤ off)
    (h1 : off + (n : Int) ≤ (buf.length : Int)) : readLE g buf off n = readLE g' buf off n := by
  obtain ⟨k, rfl⟩ := Int.eq_ofNat_of_zero_le h0
  rw [readLE_eq g buf n k (by omega), readLE_eq g' buf n k (by omega)]

/-- `l` is an event that may be cut after `r` bytes; what follows in `rest` is arbitrary. -/
theorem readLE_prefix (g : Garbage) (pre rest l : List Nat) (r n k : Nat) (hp : l.take r <+: rest)
    (hr : r ≤ l.length) (h : k + n ≤ r) :
    readLE g (pre ++ rest) ((pre.length : Int) + (k : Int)) n = unle ((l.drop k).take n) := by
  obtain ⟨t, rfl⟩ := hp
  rw [← Int.natCast_add, readLE_eq g _ n _ (by simp; omega), List.drop_length_add_append,
    List.drop_append_of_le_length (by simp; omega),
    List.take_append_of_le_length (by simp; omega), List.drop_take, List.take_take,
    Nat.min_eq_left (by omega)]

theorem encode_length (e : SEv) (h : e.mcv.length = 3) : e.encode.length = 12 + e.body.length := by
  simp [SEv.encode, le_length, h]; omega

/-- The layout of `struct ovni_ev`: clock at byte 4, payload from byte 12. -/
theorem encode_slices (e : SEv) (h : e.mcv.length = 3) :
    (e.encode.drop 4).take 8 = le 8 e.clock ∧ e.encode.drop 12 = e.body := by
  match hm : e.mcv, h with
  | [a, b, c], _ =>
    have h8 := le_length 8 e.clock
    simp only [SEv.encode, hm, List.cons_append, List.nil_append, List.drop_succ_cons, List.drop_zero,
      List.take_left' h8, List.drop_left' h8, and_self]

section Fields
variable (g : Garbage) (pre rest : List Nat) (e : SEv) (r : Nat) (hp : e.encode.take r <+: rest)
  (hr : r ≤ e.encode.length)
include hp hr

theorem flagsAt_ev (h1 : 1 ≤ r) : flagsAt g (pre ++ rest) (pre.length : Int) = e.flags := by
  have := readLE_prefix g pre rest e.encode r 1 0 hp hr h1
  simpa [readLE, flagsAt, SEv.encode, unle] using this

theorem clockAt_ev (h3 : e.mcv.length = 3) (hc : e.clock < 9223372036854775808) (h12 : 12 ≤ r) :
    clockAt g (pre ++ rest) (pre.length : Int) = (e.clock : Int) := by
  rw [clockAt, ← Int.cast_ofNat_Int (n := 4), readLE_prefix g pre rest e.encode r 8 4 hp hr h12,
    (encode_slices e h3).1, unle_le, Nat.mod_eq_of_lt (by omega)]
  exact wrap64_id _ (by omega) (by omega)

/-- A jumbo event is its 12-byte header, the size field and as many bytes as the field says. -/
theorem jumboSizeAt_ev (hw : e.WF) (j : isJumboF e.flags = true) (h16 : 16 ≤ r) :
    jumboSizeAt g (pre ++ rest) (pre.length : Int) + 16 = e.encode.length ∧ e.encode.length < 2147483648 := by
  obtain ⟨h3, _, hb⟩ := hw
  rw [if_pos j] at hb
  rw [jumboSizeAt, ← Int.cast_ofNat_Int (n := 12), readLE_prefix g pre rest e.encode r 4 12 hp hr h16,
    (encode_slices e h3).2, hb.2.1, encode_length e h3]
  omega

/-- `ovni_ev_size` reads the flags byte and, for a jumbo event, the 4-byte size field. -/
theorem evSizeC_ev (hw : e.WF) (h1 : 1 ≤ r) (hj : isJumboF e.flags = true → 16 ≤ r) :
    evSizeC g (pre ++ rest) (pre.length : Int) = (e.encode.length : Int) := by
  have hf := flagsAt_ev g pre rest e r hp hr h1
  have hz := fun j => jumboSizeAt_ev g pre rest e r hp hr hw j (hj j)
  rw [evSizeC_exact _ _ _ (fun j => by have := hz (hf ▸ j); omega), hf]
  split
  · rename_i j
    have := hz j
    omega
  · rename_i j
    have hb := hw.2.2
    rw [if_neg j] at hb
    rw [encode_length e hw.1, hb]
    omega

theorem hdrOk_ev (hw : e.WF) (h12 : 12 ≤ r) (hj : isJumboF e.flags = true → 16 ≤ r) :
    Fixed.HdrOk g (pre ++ rest) (pre.length : Int) := by
  have hle : r ≤ rest.length := by
    have := hp.length_le
    rw [List.length_take, Nat.min_eq_left hr] at this
    exact this
  unfold Fixed.HdrOk
  rw [flagsAt_ev g pre rest e r hp hr (by omega), List.length_append]
  refine ⟨by omega, fun j => ?_⟩
  have := jumboSizeAt_ev g pre rest e r hp hr hw j (hj j)
  have := hj j
  omega

end Fields

abbrev Loader := Cur → Int → List Read → Res × Cur × List Read

/-- First half of `stream_step`; the second half (`loadEv` or `Fixed.loadEv`) is `ld`. -/
def stepWith (ld : Loader) (g : Garbage) (buf : List Nat) (c : Cur) : Res × Cur × List Read :=
  if c.active = false then (.err .inactive, c, [])
  else
    let off1 := nextOff g buf c
    let r1 := if c.hasEv then evSizeReads g buf c.offset else []
    if c.hasEv = true ∧ off1 > (buf.length : Int) then (.err .exceeds, { c with offset := off1 }, r1)
    else if c.hasEv = true ∧ off1 = (buf.length : Int) then
      (.eof, { c with offset := off1, active := false, hasEv := false }, r1)
    else ld c off1 r1

/-- What the first half reads: `ovni_ev_size` on the event being left, if there is one. -/
def leftReads (g : Garbage) (buf : List Nat) (c : Cur) : List Read :=
  if c.hasEv then evSizeReads g buf c.offset else []

theorem leftReads_of_hasEv {g : Garbage} {buf : List Nat} {c : Cur} (h : c.hasEv = true) :
    leftReads g buf c = evSizeReads g buf c.offset := if_pos h

theorem leftReads_of_not {g : Garbage} {buf : List Nat} {c : Cur} (h : c.hasEv = false) :
    leftReads g buf c = [] := if_neg (ne_true_of_eq_false h)

theorem streamStep_eq (g : Garbage) (buf : List Nat) : streamStep g buf = stepWith (loadEv g buf) g buf := rfl

theorem Fixed.streamStep_eq (g : Garbage) (buf : List Nat) :
    Fixed.streamStep g buf = stepWith (Fixed.loadEv g buf) g buf := rfl

/-- The four ways through the first half; none of them looks at the loader. -/
theorem stepWith_cases (g : Garbage) (buf : List Nat) (c : Cur) :
    (c.active = false ∧ ∀ ld, stepWith ld g buf c = (.err .inactive, c, [])) ∨
    c.active = true ∧
    ((c.hasEv = true ∧ nextOff g buf c > (buf.length : Int) ∧
      ∀ ld, stepWith ld g buf c = (.err .exceeds, { c with offset := nextOff g buf c }, leftReads g buf c)) ∨
    (c.hasEv = true ∧ nextOff g buf c = (buf.length : Int) ∧
      ∀ ld, stepWith ld g buf c =
        (.eof, { c with offset := nextOff g buf c, active := false, hasEv := false }, leftReads g buf c)) ∨
    ((c.hasEv = true → nextOff g buf c < (buf.length : Int)) ∧
      ∀ ld, stepWith ld g buf c = ld c (nextOff g buf c) (leftReads g buf c))) := by
  unfold leftReads
  by_cases ha : c.active = false
  · exact .inl ⟨ha, fun ld => by rw [stepWith, if_pos ha]⟩
  refine .inr ⟨by simpa using ha, ?_⟩
  by_cases h1 : c.hasEv = true ∧ nextOff g buf c > (buf.length : Int)
  · exact .inl ⟨h1.1, h1.2, fun ld => by rw [stepWith, if_neg ha]; dsimp only; rw [if_pos h1]⟩
  by_cases h2 : c.hasEv = true ∧ nextOff g buf c = (buf.length : Int)
  · exact .inr (.inl ⟨h2.1, h2.2, fun ld => by rw [stepWith, if_neg ha]; dsimp only; rw [if_neg h1, if_pos h2]⟩)
  · refine .inr (.inr ⟨fun he => ?_, fun ld => by rw [stepWith, if_neg ha]; dsimp only; rw [if_neg h1, if_neg h2]⟩)
    have : ¬ nextOff g buf c > (buf.length : Int) := fun h => h1 ⟨he, h⟩
    have : ¬ nextOff g buf c = (buf.length : Int) := fun h => h2 ⟨he, h⟩
    omega

theorem stepWith_load (ld : Loader) (g : Garbage) (buf : List Nat) (c : Cur) (ha : c.active = true)
    (h : c.hasEv = true → nextOff g buf c < (buf.length : Int)) :
    stepWith ld g buf c = ld c (nextOff g buf c) (leftReads g buf c) := by
  rcases stepWith_cases g buf c with ⟨hf, _⟩ | ⟨_, ⟨he, hgt, _⟩ | ⟨he, heq, _⟩ | ⟨_, e⟩⟩
  · rw [ha] at hf; cases hf
  · have := h he; omega
  · have := h he; omega
  · exact e ld

theorem stepWith_eof (ld : Loader) (g : Garbage) (buf : List Nat) (c : Cur) (ha : c.active = true)
    (he : c.hasEv = true) (h : nextOff g buf c = (buf.length : Int)) :
    (stepWith ld g buf c).1 = .eof := by
  rcases stepWith_cases g buf c with ⟨hf, _⟩ | ⟨_, ⟨_, hgt, _⟩ | ⟨_, _, e⟩ | ⟨hlt, _⟩⟩
  · rw [ha] at hf; cases hf
  · omega
  · rw [e ld]
  · have := hlt he; omega

theorem stepWith_ok (ld : Loader) (g : Garbage) (buf : List Nat) (c c' : Cur) (rd : List Read)
    (h : stepWith ld g buf c = (.ok, c', rd)) :
    ld c (nextOff g buf c) (leftReads g buf c) = (.ok, c', rd) := by
  rcases stepWith_cases g buf c with ⟨_, e⟩ | ⟨_, ⟨_, _, e⟩ | ⟨_, _, e⟩ | ⟨_, e⟩⟩ <;> rw [e] at h
  · exact nomatch h
  · exact nomatch h
  · exact nomatch h
  · exact h

/-- Two calls that agree on the end of the event being left and on what the loader returns there agree. -/
theorem stepWith_congr (ld ld' : Loader) (g g' : Garbage) (buf : List Nat) (c : Cur)
    (hn : nextOff g buf c = nextOff g' buf c)
    (hr : leftReads g buf c = leftReads g' buf c)
    (hl : c.active = true → (c.hasEv = true → nextOff g buf c < (buf.length : Int)) →
      ld c (nextOff g buf c) (leftReads g buf c) = ld' c (nextOff g buf c) (leftReads g buf c)) :
    stepWith ld g buf c = stepWith ld' g' buf c := by
  unfold leftReads at hr
  have hg : stepWith ld' g' buf c = stepWith ld' g buf c := by simp only [stepWith, hn, hr]
  rw [hg]
  rcases stepWith_cases g buf c with ⟨_, e⟩ | ⟨ha, ⟨_, _, e⟩ | ⟨_, _, e⟩ | ⟨hlt, e⟩⟩ <;> rw [e, e]
  exact hl ha hlt

/-- What the walk over well-formed events needs of a second half `ld`: where the header test of the
    repair passes, it is the loader before the repair. -/
def LdOk (g : Garbage) (buf : List Nat) (ld : Loader) : Prop :=
  ∀ c off r, Fixed.HdrOk g buf off → ld c off r = loadEv g buf c off r

theorem ldOk_loadEv (g : Garbage) (buf : List Nat) : LdOk g buf (loadEv g buf) := fun _ _ _ _ => rfl

/-- What the repaired loader returns where `HdrOk` fails; how far it got is a matter of how many
    bytes are left, so nothing outside the stream is consulted. -/
def Fixed.refuse (buf : List Nat) (c : Cur) (off : Int) (r1 : List Read) : Res × Cur × List Read :=
  if (buf.length : Int) - off < 12 then (.err .incomplete, { c with offset := off }, r1)
  else if (buf.length : Int) - off < 16 then
    (.err .incomplete, { c with offset := off, hasEv := true }, r1 ++ [(off, 1)])
  else (.err .jumbosize, { c with offset := off, hasEv := true }, r1 ++ [(off, 1), (off + 12, 4)])

theorem Fixed.refuse_spec (buf : List Nat) (c : Cur) (off : Int) (r1 : List Read) :
    ∃ e c' rs, Fixed.refuse buf c off r1 = (.err e, c', r1 ++ rs) ∧
      ((buf.length : Int) - off < 16 → e = .incomplete) ∧
      (0 ≤ off → ∀ r ∈ rs, r.inBounds buf.length) := by
  unfold Fixed.refuse
  split
  · exact ⟨_, _, [], by rw [List.append_nil], fun _ => rfl, fun _ => nofun⟩
  split
  · exact ⟨_, _, _, rfl, fun _ => rfl, fun h0 => List.forall_mem_singleton.mpr ⟨h0, by omega⟩⟩
  · exact ⟨_, _, _, rfl, fun _ => by omega, fun h0 =>
      List.forall_mem_cons.mpr ⟨⟨h0, by omega⟩, List.forall_mem_singleton.mpr ⟨by omega, by omega⟩⟩⟩

/-- The three guards the repair inserts amount to testing `HdrOk` first. -/
theorem Fixed.loadEv_eq (g : Garbage) (buf : List Nat) (c : Cur) (off : Int) (r1 : List Read) :
    Fixed.loadEv g buf c off r1 =
      if Fixed.HdrOk g buf off then Stream.loadEv g buf c off r1 else Fixed.refuse buf c off r1 := by
  unfold Fixed.loadEv Fixed.refuse
  by_cases h12 : (buf.length : Int) - off < 12
  · rw [if_pos h12, if_neg (fun hk => by have := hk.1; omega), if_pos h12]
  rw [if_neg h12, if_neg h12]
  by_cases j : isJumboF (flagsAt g buf off) = true
  · by_cases h16 : (buf.length : Int) - off < 16
    · rw [if_pos ⟨j, h16⟩, if_neg (fun hk => by have := (hk.2 j).1; omega), if_pos h16]
    rw [if_neg (fun h => h16 h.2), if_neg h16]
    by_cases hs : (jumboSizeAt g buf off : Int) > 2147483647 - 16
    · rw [if_pos ⟨j, hs⟩, if_neg (fun hk => by have := (hk.2 j).2; omega)]
    · rw [if_neg (fun h => hs h.2), if_pos ⟨by omega, fun _ => ⟨by omega, by omega⟩⟩]
  · rw [if_neg (fun h => j h.1), if_neg (fun h => j h.1), if_pos ⟨by omega, fun h => absurd h j⟩]

theorem ldOk_fixed (g : Garbage) (buf : List Nat) : LdOk g buf (Fixed.loadEv g buf) :=
  fun c off r h => by rw [Fixed.loadEv_eq, if_pos h]

theorem ev_size_clock_hdrOk (g : Garbage) (pre post : List Nat) (e : SEv) (hw : e.WF) :
    evSizeC g (pre ++ (e.encode ++ post)) (pre.length : Int) = (e.encode.length : Int) ∧
    clockAt g (pre ++ (e.encode ++ post)) (pre.length : Int) = (e.clock : Int) ∧
    Fixed.HdrOk g (pre ++ (e.encode ++ post)) (pre.length : Int) := by
  have hp : e.encode.take e.encode.length <+: e.encode ++ post := by
    rw [List.take_length]; exact List.prefix_append _ _
  have hlen := encode_length e hw.1
  have hj : isJumboF e.flags = true → 16 ≤ e.encode.length := fun j => by
    have hb := hw.2.2
    rw [if_pos j] at hb
    omega
  exact ⟨evSizeC_ev g pre _ e _ hp (Nat.le_refl _) hw (by omega) hj,
    clockAt_ev g pre _ e _ hp (Nat.le_refl _) hw.1 hw.2.1 (by omega),
    hdrOk_ev g pre _ e _ hp (Nat.le_refl _) hw (by omega) hj⟩

theorem runWith_ok (step : Cur → Res × Cur × List Read) (fuel : Nat) (c c' : Cur) (rd : List Read)
    (h : step c = (.ok, c', rd)) : runWith step (fuel + 1) c = runWith step fuel c' := by
  simp [runWith, h]

theorem runWith_eof (step : Cur → Res × Cur × List Read) (fuel : Nat) (c : Cur)
    (h : (step c).1 = .eof) : runWith step (fuel + 1) c = .eof := by
  rcases hs : step c with ⟨r, c', rd⟩
  rw [hs] at h
  subst h
  simp [runWith, hs]

theorem runWith_err (step : Cur → Res × Cur × List Read) (fuel : Nat) (c : Cur) (e : Err)
    (h : (step c).1 = .err e) : runWith step (fuel + 1) c = .err e := by
  rcases hs : step c with ⟨r, c', rd⟩
  rw [hs] at h
  subst h
  simp [runWith, hs]

theorem runWith_stable (step : Cur → Res × Cur × List Read) (k : Nat) :
    ∀ (fuel : Nat) (c : Cur), runWith step fuel c ≠ .running →
      runWith step (fuel + k) c = runWith step fuel c := by
  intro fuel
  induction fuel with
  | zero => intro c h; exact absurd rfl h
  | succ n ih =>
    intro c h
    rw [show n + 1 + k = (n + k) + 1 by omega]
    unfold runWith at h ⊢
    split
    · rename_i c' rd heq
      rw [heq] at h
      exact ih c' h
    · rfl
    · rfl

theorem runWith_ne_eof_of_err (step : Cur → Res × Cur × List Read) (c : Cur) (N : Nat) (e : Err)
    (h : runWith step N c = .err e) : ∀ fuel, runWith step fuel c ≠ .eof := by
  intro fuel hf
  have h1 := runWith_stable step N fuel c (by rw [hf]; exact nofun)
  have h2 := runWith_stable step fuel N c (by rw [h]; exact nofun)
  rw [Nat.add_comm, h2, hf, h] at h1
  exact nomatch h1

/-- The first argument of `P` counts the calls still to come. -/
theorem runWith_congr (s1 s2 : Cur → Res × Cur × List Read) (P : Nat → Cur → Prop)
    (hstep : ∀ n c, P (n + 1) c → s1 c = s2 c)
    (hpres : ∀ n c c' rd, P (n + 1) c → s1 c = (.ok, c', rd) → P n c') :
    ∀ (fuel : Nat) (c : Cur), P fuel c →
      runWith s1 fuel c = runWith s2 fuel c ∧ readsWith s1 fuel c = readsWith s2 fuel c ∧
      stepsWith s1 fuel c = stepsWith s2 fuel c := by
  intro fuel
  induction fuel with
  | zero => intro c _; exact ⟨rfl, rfl, rfl⟩
  | succ n ih =>
    intro c hc
    simp only [runWith, readsWith, stepsWith, ← hstep n c hc]
    match hs : s1 c with
    | (.ok, c', rd) =>
      obtain ⟨a, b, d⟩ := ih c' (hpres n c c' rd hc hs)
      exact ⟨a, congrArg (rd ++ ·) b, congrArg (· + 1) d⟩
    | (.eof, c', rd) => exact ⟨rfl, rfl, rfl⟩
    | (.err e, c', rd) => exact ⟨rfl, rfl, rfl⟩

theorem encodeAll_cons (e : SEv) (l : List SEv) : encodeAll (e :: l) = e.encode ++ encodeAll l := by
  simp [encodeAll]

theorem encodeAll_append (a b : List SEv) : encodeAll (a ++ b) = encodeAll a ++ encodeAll b := by
  simp [encodeAll]

theorem encodeAll_nil : encodeAll [] = [] := rfl

theorem encodeAll_concat (init : List SEv) (p : SEv) : encodeAll (init ++ [p]) = encodeAll init ++ p.encode := by
  rw [encodeAll_append, encodeAll_cons, encodeAll_nil, List.append_nil]

theorem streamBytes_concat (init : List SEv) (p : SEv) :
    streamBytes (init ++ [p]) = streamBytes init ++ p.encode := by
  rw [streamBytes, encodeAll_concat, ← List.append_assoc]; rfl

theorem encode_ne_nil (e : SEv) : e.encode ≠ [] := by simp [SEv.encode]

/-- The cursor right after `load_obs`. -/
def cur0 (u : Bool) : Cur := { offset := 8, hasEv := false, active := true, lastclock := 0, unsorted := u }

theorem header_length : header.length = 8 := rfl

/-- What `check_stream_header` compares: the magic as bytes, the version as a number. -/
theorem header_prefix_iff (buf : List Nat) :
    header <+: buf ↔ 8 ≤ buf.length ∧ buf.take 4 = Ovni.Generated.streamMagic ∧
      unle ((buf.drop 4).take 4) = Ovni.Generated.streamVersion := by
  constructor
  · rintro ⟨t, rfl⟩
    exact ⟨by simp [header_length], rfl, rfl⟩
  · rintro ⟨h8, hm, hv⟩
    have hl : ((buf.drop 4).take 4).length = 4 := by simp; omega
    rw [List.prefix_iff_eq_take, header_length, show 8 = 4 + 4 from rfl, List.take_add, hm]
    match hk : (buf.drop 4).take 4, hl with
    | [a, b, c, d], _ =>
      rw [hk] at hv
      simp only [unle] at hv
      -- a version below 256 sits in the first of the four bytes
      have : Ovni.Generated.streamVersion < 256 := by decide
      obtain ⟨rfl, rfl, rfl, rfl⟩ : a = Ovni.Generated.streamVersion ∧ b = 0 ∧ c = 0 ∧ d = 0 := by omega
      rfl

theorem loadObs_ok_iff (buf : List Nat) (u : Bool) (c : Cur) :
    loadObs buf u = .ok c ↔ header <+: buf ∧ c = { cur0 u with active := decide (8 < buf.length) } := by
  rw [header_prefix_iff]
  unfold loadObs
  constructor
  · intro h
    split at h
    · cases h
    split at h
    · cases h
    split at h
    · cases h
    rename_i _ h8 hm
    cases h
    exact ⟨⟨by omega, Decidable.not_not.mp fun h => hm (.inl h), Decidable.not_not.mp fun h => hm (.inr h)⟩, rfl⟩
  · rintro ⟨⟨h8, hm, hv⟩, rfl⟩
    rw [if_neg (by omega), if_neg (by omega), if_neg (by simp [hm, hv])]
    rfl

theorem loadObs_header (rest : List Nat) (h : rest ≠ []) (u : Bool) :
    loadObs (header ++ rest) u = .ok (cur0 u) := by
  have := List.length_pos_iff.mpr h
  exact (loadObs_ok_iff _ u _).mpr ⟨List.prefix_append _ _, by simp [cur0, header_length]; omega⟩

theorem acceptsWith_not_header (step : Cur → Res × Cur × List Read) (fuel : Nat) (buf : List Nat)
    (h : ¬ header <+: buf) : acceptsWith step fuel buf = false := by
  unfold acceptsWith
  split
  · rfl
  · rename_i c hc; exact absurd ((loadObs_ok_iff buf false c).mp hc).1 h

theorem not_prefix_set (rest : List Nat) (i : Nat) (hi : i < 8) (v : Nat)
    (hv : v ≠ (header ++ rest).getD i 0) : ¬ header <+: (header ++ rest).set i v := by
  rintro ⟨t, ht⟩
  have hi' : i < header.length := hi
  have hlt : i < header.length + rest.length := by omega
  have := congrArg (·[i]?) ht
  simp only [List.getElem?_append_left hi', List.getElem?_set, List.length_append] at this
  rw [if_pos hlt] at this
  exact hv (by rw [List.getD_eq_getElem?_getD, List.getElem?_append_left hi', this]; rfl)

theorem acceptsWith_header (step : Cur → Res × Cur × List Read) (fuel : Nat) (rest : List Nat)
    (h : rest ≠ []) : acceptsWith step fuel (header ++ rest) = (runWith step fuel (cur0 false) == .eof) := by
  unfold acceptsWith
  rw [loadObs_header rest h]
  rfl

/-- The cursor after the events `evs` at the start of a stream were delivered: on the last one. -/
def curAfter (u : Bool) (evs : List SEv) : Cur :=
  { offset := ((header ++ encodeAll evs.dropLast).length : Int), hasEv := !evs.isEmpty, active := true,
    lastclock := (((evs.getLast?.map (·.clock)).getD 0 : Nat) : Int), unsorted := u }

theorem curAfter_nil (u : Bool) : curAfter u [] = cur0 u := rfl

theorem curAfter_concat (u : Bool) (init : List SEv) (p : SEv) :
    curAfter u (init ++ [p]) =
      { offset := ((header ++ encodeAll init).length : Int), hasEv := true, active := true,
        lastclock := (p.clock : Int), unsorted := u } := by
  simp [curAfter]

theorem nextOff_after (g : Garbage) (u : Bool) (evs : List SEv) (post buf : List Nat)
    (hb : buf = header ++ (encodeAll evs ++ post)) (hw : ∀ x ∈ evs, x.WF) :
    nextOff g buf (curAfter u evs) = ((header ++ encodeAll evs).length : Int) := by
  rcases List.eq_nil_or_concat evs with rfl | ⟨init, p, rfl⟩
  · rfl
  · rw [List.concat_eq_append] at hb hw ⊢
    have hb' : buf = (header ++ encodeAll init) ++ (p.encode ++ post) := by
      rw [hb, encodeAll_concat]; simp only [List.append_assoc]
    rw [curAfter_concat, hb']
    simp only [nextOff, if_true]
    rw [(ev_size_clock_hdrOk g _ post p (hw p (by simp))).1]
    simp only [encodeAll_concat, List.length_append]
    omega

theorem stepWith_after (ld : Loader) (g : Garbage) (u : Bool) (evs : List SEv) (post buf : List Nat)
    (hb : buf = header ++ (encodeAll evs ++ post)) (hw : ∀ x ∈ evs, x.WF) (hp : post ≠ []) :
    stepWith ld g buf (curAfter u evs) =
      ld (curAfter u evs) ((header ++ encodeAll evs).length : Int) (leftReads g buf (curAfter u evs)) := by
  have hnext := nextOff_after g u evs post buf hb hw
  rw [stepWith_load ld g buf _ rfl (fun _ => by
    have := List.length_pos_iff.mpr hp
    rw [hnext, hb]; simp only [List.length_append]; omega), hnext]

theorem step_ev (ld : Loader) (g : Garbage) (u : Bool) (evs : List SEv) (e : SEv) (post buf : List Nat)
    (hld : LdOk g buf ld) (hb : buf = header ++ (encodeAll evs ++ (e.encode ++ post)))
    (hw : ∀ x ∈ evs, x.WF) (he : e.WF) :
    ∃ rd, ((u = false ∧ ∃ p ∈ evs.getLast?, e.clock < p.clock) →
        (stepWith ld g buf (curAfter u evs)).1 = .err .clock) ∧
      (¬ (u = false ∧ ∃ p ∈ evs.getLast?, e.clock < p.clock) →
        stepWith ld g buf (curAfter u evs) = (.ok, curAfter u (evs ++ [e]), rd)) := by
  have hs := stepWith_after ld g u evs _ buf hb hw (by simp [encode_ne_nil])
  rw [← List.append_assoc] at hb
  subst hb
  obtain ⟨hz, hk, hok⟩ := ev_size_clock_hdrOk g (header ++ encodeAll evs) post e he
  -- the test of `stream_step` on the cursor's `lastclock`, said of the events
  have hc : (∃ p ∈ evs.getLast?, e.clock < p.clock) ↔
      (curAfter u evs).hasEv = true ∧ (e.clock : Int) < (curAfter u evs).lastclock := by
    rcases List.eq_nil_or_concat evs with rfl | ⟨init, q, rfl⟩
    · simp [curAfter]
    · simp [curAfter]
  rw [hs, hld _ _ _ hok, curAfter_concat]
  unfold loadEv
  rw [hz, hk, if_neg (by simp only [List.length_append]; omega)]
  simp only [hc]
  exact ⟨_, fun h => congrArg Prod.fst (if_pos (show (curAfter u evs).unsorted = false ∧ _ from h)),
    fun h => if_neg (show ¬ ((curAfter u evs).unsorted = false ∧ _) from h)⟩

/-- The induction is on the number of events and takes them off at the back, since `curAfter` is given by
    the last one. -/
theorem walk (ld : Loader) (g : Garbage) (u : Bool) (buf : List Nat) (hld : LdOk g buf ld)
    (evs : List SEv) (post : List Nat) (fuel : Nat) (hb : buf = header ++ (encodeAll evs ++ post))
    (hw : ∀ x ∈ evs, x.WF) (hs : Sorted evs) :
    runWith (stepWith ld g buf) (evs.length + fuel) (cur0 u) =
      runWith (stepWith ld g buf) fuel (curAfter u evs) := by
  induction hn : evs.length generalizing evs post fuel with
  | zero => rw [List.eq_nil_of_length_eq_zero hn, Nat.zero_add, curAfter_nil]
  | succ n ih =>
    rcases List.eq_nil_or_concat evs with rfl | ⟨init, p, rfl⟩
    · cases hn
    rw [List.concat_eq_append] at hn hb hw hs ⊢
    have hbi : buf = header ++ (encodeAll init ++ (p.encode ++ post)) := by
      rw [hb, encodeAll_concat, List.append_assoc]
    have hwi : ∀ x ∈ init, x.WF := fun x hx => hw x (List.mem_append_left _ hx)
    have hsp := List.pairwise_append.mp hs
    have hstep : ∃ rd, stepWith ld g buf (curAfter u init) = (.ok, curAfter u (init ++ [p]), rd) := by
      obtain ⟨rd, -, h⟩ := step_ev ld g u init p post buf hld hbi hwi (hw p (by simp))
      refine ⟨rd, h ?_⟩
      rintro ⟨_, q, hq, hlt⟩
      have := hsp.2.2 q (List.mem_of_getLast? hq) p (List.mem_singleton_self p)
      omega
    obtain ⟨rd, hstep⟩ := hstep
    rw [show n + 1 + fuel = n + (fuel + 1) by omega,
      ih init (p.encode ++ post) (fuel + 1) hbi hwi hsp.1 (by simpa using hn),
      runWith_ok _ fuel _ _ rd hstep]

theorem accepts_valid_with (ld : Loader) (g : Garbage) (evs : List SEv) (hv : Valid evs)
    (hld : LdOk g (streamBytes evs) ld) :
    acceptsWith (stepWith ld g (streamBytes evs)) (evs.length + 1) (streamBytes evs) = true := by
  obtain ⟨hne, hw, hs⟩ := hv
  have hb : streamBytes evs = header ++ (encodeAll evs ++ []) := by rw [List.append_nil]; rfl
  have hnil : encodeAll evs ≠ [] := by
    obtain ⟨e, l, rfl⟩ := List.exists_cons_of_ne_nil hne
    simp [encodeAll_cons, encode_ne_nil]
  have hl := stepWith_eof ld g (streamBytes evs) (curAfter false evs) rfl (by simp [curAfter, hne])
    (by rw [nextOff_after g false evs [] _ hb hw]; rfl)
  refine (acceptsWith_header _ _ (encodeAll evs) hnil).trans ?_
  rw [walk ld g false (streamBytes evs) hld evs [] 1 hb hw hs, runWith_eof _ 0 _ hl]
  rfl

theorem rejected_after (ld : Loader) (g : Garbage) (evs : List SEv) (post buf : List Nat) (e : Err)
    (hld : LdOk g buf ld) (hb : buf = header ++ (encodeAll evs ++ post)) (hp : post ≠ [])
    (hw : ∀ x ∈ evs, x.WF) (hs : Sorted evs)
    (herr : (stepWith ld g buf (curAfter false evs)).1 = .err e) :
    ∀ fuel, acceptsWith (stepWith ld g buf) fuel buf = false := by
  have hN : runWith (stepWith ld g buf) (evs.length + 1) (cur0 false) = .err e := by
    rw [walk ld g false buf hld evs post 1 hb hw hs]; exact runWith_err _ 0 _ _ herr
  intro fuel
  have := acceptsWith_header (stepWith ld g buf) fuel (encodeAll evs ++ post) (by simp [hp])
  rw [← hb] at this
  rw [this, beq_eq_false_iff_ne]
  exact runWith_ne_eof_of_err _ _ _ e hN fuel

/-- A loader that fails where the events end, whatever the cursor, makes the stream rejected. -/
theorem rejected_of_loader_err (ld : Loader) (g : Garbage) (evs : List SEv) (post buf : List Nat) (e : Err)
    (hld : LdOk g buf ld) (hb : buf = header ++ (encodeAll evs ++ post)) (hp : post ≠ [])
    (hw : ∀ x ∈ evs, x.WF) (hs : Sorted evs)
    (hfin : ∀ (c : Cur) (r1 : List Read), (ld c ((header ++ encodeAll evs).length : Int) r1).1 = .err e) :
    ∀ fuel, acceptsWith (stepWith ld g buf) fuel buf = false := by
  exact rejected_after ld g evs post buf e hld hb hp hw hs
    (by rw [stepWith_after ld g false evs post buf hb hw hp]; exact hfin _ _)

theorem exists_descent (l : List SEv) (h : ¬ Sorted l) :
    ∃ s a post, l = s ++ a :: post ∧ Sorted s ∧ ∃ p ∈ s.getLast?, a.clock < p.clock := by
  rw [← l.reverse_reverse] at h ⊢
  generalize l.reverse = r at h ⊢
  induction r with
  | nil => exact absurd List.Pairwise.nil h
  | cons x r ih =>
    rw [List.reverse_cons] at h ⊢
    by_cases hs : Sorted r.reverse
    · refine ⟨_, x, [], rfl, hs, ?_⟩
      rcases List.eq_nil_or_concat r.reverse with he | ⟨i, b, he⟩
      · rw [he] at h; exact absurd (List.pairwise_singleton _ _) h
      · -- were `x` not below the last event `b`, it would be below none, and the whole list sorted
        rw [he, List.concat_eq_append] at h hs ⊢
        refine ⟨b, by simp, Nat.lt_of_not_le fun hle => h ?_⟩
        refine List.pairwise_append.mpr ⟨hs, List.pairwise_singleton _ _, fun q hq y hy => ?_⟩
        rw [List.mem_singleton.mp hy]
        rcases List.mem_append.mp hq with hq | hq
        · exact Nat.le_trans ((List.pairwise_append.mp hs).2.2 q hq b (List.mem_singleton_self b)) hle
        · rw [List.mem_singleton.mp hq]; exact hle
    · obtain ⟨s, a, post, he, h1, h2⟩ := ih hs
      exact ⟨s, a, post ++ [x], by rw [he, List.append_assoc, List.cons_append], h1, h2⟩

/-- Well-formed events whose clocks are not sorted are rejected, with `clock` at the first descent. -/
theorem unsorted_with (ld : Loader) (g : Garbage) (evs : List SEv) (hw : ∀ x ∈ evs, x.WF) (hns : ¬ Sorted evs)
    (hld : LdOk g (streamBytes evs) ld) :
    ∀ fuel, acceptsWith (stepWith ld g (streamBytes evs)) fuel (streamBytes evs) = false := by
  obtain ⟨s, a, post, rfl, hs, hlt⟩ := exists_descent evs hns
  have hb : streamBytes (s ++ a :: post) = header ++ (encodeAll s ++ (a.encode ++ encodeAll post)) := by
    rw [streamBytes, encodeAll_append, encodeAll_cons]
  have hws : ∀ x ∈ s, x.WF := fun x hx => hw x (List.mem_append_left _ hx)
  obtain ⟨_, h, -⟩ := step_ev ld g false s a (encodeAll post) _ hld hb hws (hw a (by simp))
  exact rejected_after ld g s (a.encode ++ encodeAll post) _ .clock hld hb (by simp [encode_ne_nil]) hws hs
    (h ⟨rfl, hlt⟩)

/-- Two adjacent events of a sorted list with different clocks, exchanged, are a descent. -/
theorem swap_with (ld : Loader) (g : Garbage) (pre : List SEv) (a b : SEv) (post : List SEv)
    (hv : Valid (pre ++ a :: b :: post)) (hne : a.clock ≠ b.clock)
    (hld : LdOk g (streamBytes (pre ++ b :: a :: post)) ld) :
    ∀ fuel, acceptsWith (stepWith ld g (streamBytes (pre ++ b :: a :: post))) fuel
      (streamBytes (pre ++ b :: a :: post)) = false := by
  have head : ∀ {x y : SEv}, Sorted (pre ++ x :: y :: post) → x.clock ≤ y.clock := fun h =>
    List.rel_of_pairwise_cons (List.pairwise_append.mp h).2.1 List.mem_cons_self
  refine unsorted_with ld g _ (fun x hx => hv.2.1 x (((List.Perm.swap a b post).append_left pre).mem_iff.mp hx))
    (fun hs => ?_) hld
  have := head hv.2.2
  have := head hs
  omega

/-- Before db50cd1 the cut event is reported only if what is left of it holds its size. -/
theorem loadEv_trunc (g : Garbage) (pre : List Nat) (e : SEv) (hw : e.WF) (r : Nat) (hr : 0 < r)
    (hj : isJumboF e.flags = true → 16 ≤ r) (hr2 : r < e.encode.length) (c : Cur) (r1 : List Read) :
    (loadEv g (pre ++ e.encode.take r) c (pre.length : Int) r1).1 = .err .incomplete := by
  have hx : (pre.length : Int) + (e.encode.length : Int) > ((pre ++ e.encode.take r).length : Int) := by
    simp only [List.length_append, List.length_take]; omega
  unfold loadEv
  rw [evSizeC_ev g pre _ e r (List.prefix_refl _) (by omega) hw hr hj, if_pos hx]

theorem Fixed.loadEv_trunc (g : Garbage) (pre : List Nat) (e : SEv) (hw : e.WF) (r : Nat) (hr : 0 < r)
    (hr2 : r < e.encode.length) (c : Cur) (r1 : List Read) :
    (Fixed.loadEv g (pre ++ e.encode.take r) c (pre.length : Int) r1).1 = .err .incomplete := by
  have hlen : ((pre ++ e.encode.take r).length : Int) = (pre.length : Int) + (r : Int) := by
    simp only [List.length_append, List.length_take]; omega
  rw [Fixed.loadEv_eq]
  by_cases hk : Fixed.HdrOk g (pre ++ e.encode.take r) (pre.length : Int)
  · rw [if_pos hk]
    refine Stream.loadEv_trunc g pre e hw r hr (fun j => ?_) hr2 c r1
    have := (hk.2 (by rwa [flagsAt_ev g pre _ e r (List.prefix_refl _) (by omega) hr])).1
    omega
  · -- 16 bytes of a well-formed event pass the guards
    have : r < 16 := Decidable.byContradiction fun h =>
      hk (hdrOk_ev g pre _ e r (List.prefix_refl _) (by omega) hw (by omega) (fun _ => by omega))
    obtain ⟨_, _, _, he, hinc, _⟩ := Fixed.refuse_spec (pre ++ e.encode.take r) c (pre.length : Int) r1
    rw [if_neg hk, he, hinc (by omega)]

end Ovni.Emu.Stream
