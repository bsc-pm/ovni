import OvniModel.Lemmas.Stream

/-!
The repaired cursor under its invariant `Inv` (C19): every call stays inside the buffer and
advances by at least a header, so the loop is total and independent of memory outside the
stream; the cursor as it was before db50cd1 agrees with it wherever the inserted guards pass.
-/
namespace Ovni.Emu.Stream

/-- The cursor lies inside the stream and, when it is on an event, that event passed the header test of
    the repair and ends inside the stream.  `load_obs` establishes it, the repaired `stream_step` keeps it. -/
def Inv (g : Garbage) (buf : List Nat) (c : Cur) : Prop :=
  0 ≤ c.offset ∧ c.offset ≤ (buf.length : Int) ∧
  (c.hasEv = true → Fixed.HdrOk g buf c.offset ∧ c.offset + evSizeC g buf c.offset ≤ (buf.length : Int))

/-- Under `HdrOk` the computed size is the real one, so the cursor moves on by at least a header;
    and what `ovni_ev_size` reads lies inside the stream. -/
theorem evSizeC_ge_and_reads_of_hdrOk (g : Garbage) (buf : List Nat) (off : Int) (h0 : 0 ≤ off) (hk : Fixed.HdrOk g buf off) :
    12 ≤ evSizeC g buf off ∧ ∀ r ∈ evSizeReads g buf off, r.inBounds buf.length := by
  obtain ⟨h12, hj⟩ := hk
  have hfl : Read.inBounds buf.length (off, 1) := by simp only [Read.inBounds]; omega
  rw [evSizeC_exact g buf off fun j => (hj j).2]
  unfold evSizeReads
  split
  · rename_i j
    have hsz : Read.inBounds buf.length (off + 12, 4) := by
      have := (hj j).1; simp only [Read.inBounds]; omega
    exact ⟨by omega, List.forall_mem_cons.mpr ⟨hfl, List.forall_mem_singleton.mpr hsz⟩⟩
  · exact ⟨by omega, List.forall_mem_singleton.mpr hfl⟩

/-- What the loader reads: after `r1`, what `ovni_ev_size` reads, then the clock if the event fits. -/
theorem loadEv_reads_eq (g : Garbage) (buf : List Nat) (c : Cur) (off1 : Int) (r1 : List Read) :
    (loadEv g buf c off1 r1).2.2 = r1 ++ evSizeReads g buf off1 ++
      if off1 + evSizeC g buf off1 > (buf.length : Int) then [] else [(off1 + 4, 8)] := by
  unfold loadEv
  simp only
  split
  · rw [List.append_nil]
  · split <;> rfl

theorem loadEv_reads_inBounds (g : Garbage) (buf : List Nat) (c : Cur) (off1 : Int) (r1 : List Read)
    (h0 : 0 ≤ off1) (hk : Fixed.HdrOk g buf off1) (hr1 : ∀ r ∈ r1, r.inBounds buf.length) :
    ∀ r ∈ (loadEv g buf c off1 r1).2.2, r.inBounds buf.length := by
  rw [loadEv_reads_eq]
  refine List.forall_mem_append.mpr ⟨List.forall_mem_append.mpr ⟨hr1, (evSizeC_ge_and_reads_of_hdrOk g buf off1 h0 hk).2⟩, ?_⟩
  split
  · nofun
  · have := hk.1
    exact List.forall_mem_singleton.mpr ⟨by omega, by omega⟩

theorem loadEv_ok_inv (g : Garbage) (buf : List Nat) (c : Cur) (off1 : Int) (r1 : List Read) (c' : Cur)
    (rd : List Read) (h0 : 0 ≤ off1) (hk : Fixed.HdrOk g buf off1)
    (h : loadEv g buf c off1 r1 = (.ok, c', rd)) :
    c'.offset = off1 ∧ c'.hasEv = true ∧ Inv g buf c' := by
  unfold loadEv at h
  simp only at h
  split at h
  · exact nomatch h
  · rename_i hfit
    split at h
    · exact nomatch h
    · simp only [Prod.mk.injEq, true_and] at h
      obtain ⟨rfl, _⟩ := h
      refine ⟨rfl, rfl, h0, ?_, fun _ => ⟨hk, by simp only; omega⟩⟩
      have := hk.1
      simp only; omega

theorem Fixed.loadEv_ok_hdrOk (g : Garbage) (buf : List Nat) (c : Cur) (off1 : Int) (r1 : List Read) (c' : Cur)
    (rd : List Read) (h : Fixed.loadEv g buf c off1 r1 = (.ok, c', rd)) :
    Fixed.HdrOk g buf off1 ∧ Stream.loadEv g buf c off1 r1 = (.ok, c', rd) := by
  rw [Fixed.loadEv_eq] at h
  split at h
  · rename_i hk; exact ⟨hk, h⟩
  · obtain ⟨_, _, _, he, _⟩ := Fixed.refuse_spec buf c off1 r1
    rw [he] at h
    exact nomatch h

theorem Fixed.loadEv_reads_inBounds (g : Garbage) (buf : List Nat) (c : Cur) (off1 : Int) (r1 : List Read)
    (h0 : 0 ≤ off1) (hr1 : ∀ r ∈ r1, r.inBounds buf.length) :
    ∀ r ∈ (Fixed.loadEv g buf c off1 r1).2.2, r.inBounds buf.length := by
  rw [Fixed.loadEv_eq]
  split
  · rename_i hk; exact Stream.loadEv_reads_inBounds g buf c off1 r1 h0 hk hr1
  · obtain ⟨_, _, _, he, _, hrs⟩ := Fixed.refuse_spec buf c off1 r1
    rw [he]
    exact List.forall_mem_append.mpr ⟨hr1, hrs h0⟩

theorem nextOff_bounds (g : Garbage) (buf : List Nat) (c : Cur) (hi : Inv g buf c) :
    0 ≤ nextOff g buf c ∧ nextOff g buf c ≤ (buf.length : Int) ∧
    (c.hasEv = true → c.offset + 12 ≤ nextOff g buf c) := by
  obtain ⟨h0, h1, h2⟩ := hi
  unfold nextOff
  cases hh : c.hasEv
  · simp; omega
  · obtain ⟨hk, hfit⟩ := h2 hh
    obtain ⟨h12, _⟩ := evSizeC_ge_and_reads_of_hdrOk g buf c.offset h0 hk
    simp; omega

theorem Fixed.step_reads_inBounds (g : Garbage) (buf : List Nat) (c : Cur) (hi : Inv g buf c) :
    ∀ r ∈ (Fixed.streamStep g buf c).2.2, r.inBounds buf.length := by
  obtain ⟨hn0, _⟩ := nextOff_bounds g buf c hi
  -- `ovni_ev_size` on the event being left reads a header that `Inv` says was validated
  have hr1 : ∀ r ∈ leftReads g buf c, r.inBounds buf.length := by
    cases hh : c.hasEv
    · rw [leftReads_of_not hh]; nofun
    · rw [leftReads_of_hasEv hh]
      exact (evSizeC_ge_and_reads_of_hdrOk g buf c.offset hi.1 (hi.2.2 hh).1).2
  rw [Fixed.streamStep_eq]
  rcases stepWith_cases g buf c with ⟨_, e⟩ | ⟨_, ⟨_, _, e⟩ | ⟨_, _, e⟩ | ⟨_, e⟩⟩ <;> rw [e]
  · nofun
  · exact hr1
  · exact hr1
  · exact Fixed.loadEv_reads_inBounds g buf c _ _ hn0 hr1

theorem Fixed.step_ok (g : Garbage) (buf : List Nat) (c c' : Cur) (rd : List Read) (hi : Inv g buf c)
    (h : Fixed.streamStep g buf c = (.ok, c', rd)) :
    Inv g buf c' ∧ c'.offset = nextOff g buf c ∧
    nextOff g buf c + 12 ≤ nextOff g buf c' ∧ nextOff g buf c' ≤ (buf.length : Int) := by
  obtain ⟨hn0, _⟩ := nextOff_bounds g buf c hi
  rw [Fixed.streamStep_eq] at h
  obtain ⟨hk, hl⟩ := Fixed.loadEv_ok_hdrOk g buf c _ _ c' rd (stepWith_ok _ g buf c c' rd h)
  obtain ⟨ho, he, hinv⟩ := Stream.loadEv_ok_inv g buf c _ _ c' rd hn0 hk hl
  obtain ⟨_, hb1, hb2⟩ := nextOff_bounds g buf c' hinv
  exact ⟨hinv, ho, by have := hb2 he; omega, hb1⟩

theorem Fixed.run_total (g : Garbage) (buf : List Nat) :
    ∀ (fuel : Nat) (c : Cur), Inv g buf c →
      (∀ r ∈ Fixed.runReads g buf fuel c, r.inBounds buf.length) ∧
      12 * (Fixed.runSteps g buf fuel c : Int) ≤ (buf.length : Int) - nextOff g buf c ∧
      ((buf.length : Int) - nextOff g buf c < 12 * (fuel : Int) → Fixed.run g buf fuel c ≠ .running) := by
  intro fuel
  induction fuel with
  | zero =>
    intro c hi
    have := (nextOff_bounds g buf c hi).2.1
    exact ⟨nofun, by simp [Fixed.runSteps, stepsWith]; omega, fun h => by omega⟩
  | succ n ih =>
    intro c hi
    have hb := (nextOff_bounds g buf c hi).2.1
    have hsr := Fixed.step_reads_inBounds g buf c hi
    simp only [Fixed.runReads, Fixed.runSteps, Fixed.run, readsWith, stepsWith, runWith]
    match hs : Fixed.streamStep g buf c with
    | (.ok, c', rd) =>
      obtain ⟨hi', _, hadv, _⟩ := Fixed.step_ok g buf c c' rd hi hs
      obtain ⟨a, b, d⟩ := ih c' hi'
      rw [hs] at hsr
      refine ⟨fun r hr => (List.mem_append.mp hr).elim (hsr r) (a r), ?_, fun h => d (by omega)⟩
      simp only [Fixed.runSteps] at b
      push_cast
      omega
    | (.eof, c', rd) => rw [hs] at hsr; exact ⟨hsr, by simp; omega, fun _ => nofun⟩
    | (.err e, c', rd) => rw [hs] at hsr; exact ⟨hsr, by simp; omega, fun _ => nofun⟩

theorem loadObs_inv (g : Garbage) (buf : List Nat) (u : Bool) (c : Cur) (h : loadObs buf u = .ok c) :
    Inv g buf c ∧ nextOff g buf c = 8 := by
  obtain ⟨hp, rfl⟩ := (loadObs_ok_iff buf u c).mp h
  have := hp.length_le
  rw [header_length] at this
  exact ⟨⟨Int.zero_le_ofNat 8, by simp only [cur0]; omega, nofun⟩, rfl⟩

/-- The guards the repair adds would pass for this call. -/
def StepGuard (g : Garbage) (buf : List Nat) (c : Cur) : Prop :=
  c.active = true → ¬ (c.hasEv = true ∧ nextOff g buf c ≥ (buf.length : Int)) →
    Fixed.HdrOk g buf (nextOff g buf c)

instance (g : Garbage) (buf : List Nat) (c : Cur) : Decidable (StepGuard g buf c) := by
  unfold StepGuard; exact inferInstance

theorem step_eq_fixed (g : Garbage) (buf : List Nat) (c : Cur) (hg : StepGuard g buf c) :
    streamStep g buf c = Fixed.streamStep g buf c := by
  rw [streamStep_eq, Fixed.streamStep_eq]
  exact stepWith_congr _ _ g g buf c rfl rfl fun ha hlt =>
    (ldOk_fixed g buf c _ _ (hg ha fun ⟨he, hge⟩ => by have := hlt he; omega)).symm

/-- `StepGuard` holds at each of the first `fuel` calls of the loop before db50cd1 from `c`, as a
    computation on the bytes. -/
def guardedB (g : Garbage) (buf : List Nat) : Nat → Cur → Bool
  | 0, _ => true
  | fuel + 1, c =>
    decide (StepGuard g buf c) &&
      match streamStep g buf c with
      | (.ok, c', _) => guardedB g buf fuel c'
      | _ => true

theorem run_eq_fixed (g : Garbage) (buf : List Nat) (fuel : Nat) (c : Cur) (h : guardedB g buf fuel c = true) :
    run g buf fuel c = Fixed.run g buf fuel c ∧ runReads g buf fuel c = Fixed.runReads g buf fuel c ∧
    runSteps g buf fuel c = Fixed.runSteps g buf fuel c := by
  refine runWith_congr (streamStep g buf) (Fixed.streamStep g buf) (fun n c => guardedB g buf n c = true)
    (fun n c hc => ?_) (fun n c c' rd hc hs => ?_) fuel c h
  all_goals
    unfold guardedB at hc
    rw [Bool.and_eq_true] at hc
  · exact step_eq_fixed g buf c (of_decide_eq_true hc.1)
  · rw [hs] at hc; exact hc.2

/-- The header of an event, as far as it lies inside the stream, reads the same whatever is outside. -/
theorem hdr_indep (g g' : Garbage) (buf : List Nat) (off : Int) (h0 : 0 ≤ off)
    (h12 : off + 12 ≤ (buf.length : Int))
    (h16 : isJumboF (flagsAt g buf off) = true → off + 16 ≤ (buf.length : Int)) :
    evSizeC g buf off = evSizeC g' buf off ∧ evSizeReads g buf off = evSizeReads g' buf off ∧
    clockAt g buf off = clockAt g' buf off ∧ (Fixed.HdrOk g buf off → Fixed.HdrOk g' buf off) := by
  have hf : flagsAt g buf off = flagsAt g' buf off := byteAt_inb g g' buf off h0 (by omega)
  have hc : clockAt g buf off = clockAt g' buf off := by
    unfold clockAt; rw [readLE_inb g g' buf 8 (off + 4) (by omega) (by omega)]
  have hz : isJumboF (flagsAt g buf off) = true → jumboSizeAt g buf off = jumboSizeAt g' buf off :=
    fun j => readLE_inb g g' buf 4 (off + 12) (by omega) (by have := h16 j; omega)
  refine ⟨?_, by unfold evSizeReads; rw [hf], hc, fun hk => ⟨hk.1, fun j => ?_⟩⟩
  · unfold evSizeC payloadSizeC
    rw [← hf]
    split
    · rename_i j; rw [hz j]
    · rfl
  · rw [← hf] at j
    rw [← hz j]
    exact hk.2 j

theorem loadEv_indep (g g' : Garbage) (buf : List Nat) (c : Cur) (off1 : Int) (r1 : List Read)
    (h0 : 0 ≤ off1) (hk : Fixed.HdrOk g buf off1) : loadEv g buf c off1 r1 = loadEv g' buf c off1 r1 := by
  obtain ⟨hs, hr, hc, _⟩ := hdr_indep g g' buf off1 h0 hk.1 fun j => (hk.2 j).1
  unfold loadEv
  rw [hs, hr, hc]

theorem Fixed.loadEv_indep (g g' : Garbage) (buf : List Nat) (c : Cur) (off1 : Int) (r1 : List Read)
    (h0 : 0 ≤ off1) : Fixed.loadEv g buf c off1 r1 = Fixed.loadEv g' buf c off1 r1 := by
  have hok : ∀ g g', Fixed.HdrOk g buf off1 → Fixed.HdrOk g' buf off1 := fun g g' hk =>
    (hdr_indep g g' buf off1 h0 hk.1 fun j => (hk.2 j).1).2.2.2 hk
  rw [Fixed.loadEv_eq, Fixed.loadEv_eq]
  by_cases hk : Fixed.HdrOk g buf off1
  · rw [if_pos hk, if_pos (hok g g' hk), Stream.loadEv_indep g g' buf c off1 r1 h0 hk]
  · rw [if_neg hk, if_neg fun hk' => hk (hok g' g hk')]

theorem nextOff_indep (g g' : Garbage) (buf : List Nat) (c : Cur) (hi : Inv g buf c) :
    nextOff g buf c = nextOff g' buf c ∧ leftReads g buf c = leftReads g' buf c := by
  unfold nextOff leftReads
  cases hh : c.hasEv
  · simp
  · obtain ⟨hk, _⟩ := hi.2.2 hh
    obtain ⟨hs, hr, _⟩ := hdr_indep g g' buf c.offset hi.1 hk.1 fun j => (hk.2 j).1
    rw [hs, hr]
    exact ⟨rfl, rfl⟩

theorem Fixed.step_indep (g g' : Garbage) (buf : List Nat) (c : Cur) (hi : Inv g buf c) :
    Fixed.streamStep g buf c = Fixed.streamStep g' buf c := by
  obtain ⟨hn0, _⟩ := nextOff_bounds g buf c hi
  obtain ⟨hn, hr⟩ := nextOff_indep g g' buf c hi
  rw [Fixed.streamStep_eq, Fixed.streamStep_eq]
  exact stepWith_congr _ _ g g' buf c hn hr fun _ _ => Fixed.loadEv_indep g g' buf c _ _ hn0

theorem Fixed.run_indep (g g' : Garbage) (buf : List Nat) (fuel : Nat) (c : Cur) (hi : Inv g buf c) :
    Fixed.run g buf fuel c = Fixed.run g' buf fuel c ∧
    Fixed.runReads g buf fuel c = Fixed.runReads g' buf fuel c :=
  have := runWith_congr (Fixed.streamStep g buf) (Fixed.streamStep g' buf) (fun _ => Inv g buf)
    (fun _ c hc => Fixed.step_indep g g' buf c hc)
    (fun _ c c' rd hc hs => (Fixed.step_ok g buf c c' rd hc hs).1) fuel c hi
  ⟨this.1, this.2.1⟩

end Ovni.Emu.Stream
