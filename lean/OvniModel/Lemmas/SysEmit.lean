import OvniModel.Lemmas.SysRows
import OvniModel.Lemmas.EmuCoreRec

/-
  C06 (emit side): the emit callbacks of the system channels write exactly `sysRecords`.
  A dirty system channel always holds a value different from the last one emitted (`SysOk`),
  so the "duplicated value" error of `emit` cannot occur although five of the six registrations
  have no duplicate policy, and the `PRV_SKIPDUP` of the thread-state row never skips anything.
-/
namespace Ovni.Emu
open Ovni.Generated

/-- a flushed system channel and the `last_value` of its registration -/
def Good (ch : Chan) (lv : Option Value) : Prop :=
  SysOk ch ∧ ch.dirty = false ∧ ch.cur = ch.last ∧ (lv = none ∨ lv = some ch.cur)

/-- `last_value` after the callback -/
def lvNew (ch : Chan) (lv : Option Value) : Option Value := if ch.dirty then some ch.cur else lv

theorem emitSys1_eq {r : PrvReg} {ch ch' : Chan} {lv : Option Value} (hg : Good ch lv) (hs : ChS ch ch')
    (hne : hasFlag r.flags prvEmitDup = false) :
    emitSys1 r ch' lv =
      match emitRaw r.file r.row r.type r.flags ch' with
      | .error e => .error e
      | .ok ls => .ok (lvNew ch' lv, ls) := by
  obtain ⟨g1, g2, g3, g4⟩ := hg
  unfold emitSys1 emitRaw lvNew
  cases hd : ch'.dirty with
  | false => simp only [Bool.false_eq_true, if_false, pure, Except.pure]
  | true =>
    simp only [if_true]
    have hok := hs.1 g1
    have hne2 : lv ≠ some ch'.cur := by
      have hc : ch'.cur ≠ ch'.last := hok.2.2.2 hd
      rw [hs.2.1, ← g3] at hc
      rcases g4 with h | h
      · rw [h]; simp
      · rw [h]; intro e; injection e with e; exact hc e.symm
    unfold emitOne
    simp only [hne, Bool.false_eq_true, if_false, hne2]
    unfold emitWrite
    cases hp : prvValue r.flags ch'.cur with
    | error e => simp only [bind, Except.bind]
    | ok x => simp only [bind, Except.bind, pure, Except.pure, PrvReg.line]

theorem good_flush {ch ch' : Chan} {lv : Option Value} (hg : Good ch lv) (hs : ChS ch ch') :
    Good ch'.flush (lvNew ch' lv) := by
  obtain ⟨g1, g2, g3, g4⟩ := hg
  unfold lvNew
  cases hd : ch'.dirty with
  | false =>
    have := hs.2.2 hd
    subst this
    simp only [Bool.false_eq_true, if_false]
    rw [Chan.flush_of_clean hd]
    exact ⟨g1, g2, g3, g4⟩
  | true =>
    simp only [if_true]
    have hok := hs.1 g1
    have hfl : ch'.flush = { ch' with last := ch'.cur, dirty := false } := by simp [Chan.flush, hd]
    refine ⟨?_, by rw [hfl], ?_, Or.inr (by rw [Chan.flush_cur])⟩
    · rw [hfl]; exact ⟨hok.1, hok.2.1, hok.2.2.1, fun h => by cases h⟩
    · rw [Chan.flush_cur, hfl]

theorem sysFlags_noEmitDup : hasFlag prvNext prvEmitDup = false ∧ hasFlag 0 prvEmitDup = false ∧
    hasFlag prvSkipDup prvEmitDup = false ∧ hasFlag prvZero prvEmitDup = false := by decide

def GoodT (t : Thread) (l : Lv3) : Prop := Good t.chCpu l.1 ∧ Good t.chTid l.2.1 ∧ Good t.chState l.2.2
def GoodC (x : Cpu) (l : Lv3) : Prop := Good x.chPid l.1 ∧ Good x.chTid l.2.1 ∧ Good x.chNrun l.2.2

def newT (t : Thread) (l : Lv3) : Lv3 := (lvNew t.chCpu l.1, lvNew t.chTid l.2.1, lvNew t.chState l.2.2)
def newC (x : Cpu) (l : Lv3) : Lv3 := (lvNew x.chPid l.1, lvNew x.chTid l.2.1, lvNew x.chNrun l.2.2)

/-- The left-hand side is `thSysEmit` and `cpuSysEmit` unfolded. -/
theorem rowSysEmit_eq {r1 r2 r3 : PrvReg} {c1 c2 c3 c1' c2' c3' : Chan} {l : Lv3}
    (g1 : Good c1 l.1) (g2 : Good c2 l.2.1) (g3 : Good c3 l.2.2)
    (s1 : ChS c1 c1') (s2 : ChS c2 c2') (s3 : ChS c3 c3')
    (n1 : hasFlag r1.flags prvEmitDup = false) (n2 : hasFlag r2.flags prvEmitDup = false)
    (n3 : hasFlag r3.flags prvEmitDup = false) :
    (match emitSys1 r1 c1' l.1 with
      | .error e => (.error e : Except Err (Lv3 × List PrvRec))
      | .ok (a, la) =>
        match emitSys1 r2 c2' l.2.1 with
        | .error e => .error e
        | .ok (b, lb) =>
          match emitSys1 r3 c3' l.2.2 with
          | .error e => .error e
          | .ok (c, lc) => .ok ((a, b, c), la ++ (lb ++ (lc ++ [])))) =
      match collect [emitRaw r1.file r1.row r1.type r1.flags c1', emitRaw r2.file r2.row r2.type r2.flags c2',
          emitRaw r3.file r3.row r3.type r3.flags c3'] with
      | .error e => .error e
      | .ok s => .ok ((lvNew c1' l.1, lvNew c2' l.2.1, lvNew c3' l.2.2), s) := by
  rw [emitSys1_eq g1 s1 n1, emitSys1_eq g2 s2 n2, emitSys1_eq g3 s3 n3]
  simp only [collect_cons]
  cases emitRaw r1.file r1.row r1.type r1.flags c1' <;> cases emitRaw r2.file r2.row r2.type r2.flags c2' <;>
    cases emitRaw r3.file r3.row r3.type r3.flags c3' <;> rfl

theorem thSysRow {t t' : Thread} {l : Lv3} (hg : GoodT t l) (hs : ThSys t t') :
    thSysEmit t' l =
      (match collect (thSysList t') with
      | .error e => .error e
      | .ok s => .ok (newT t' l, s)) ∧
    GoodT { t' with chCpu := t'.chCpu.flush, chTid := t'.chTid.flush, chState := t'.chState.flush,
                    mch := t'.mch.map fun x => (x.1, x.2.map Chan.flush) } (newT t' l) :=
  ⟨rowSysEmit_eq hg.1 hg.2.1 hg.2.2 hs.2.1 hs.2.2.1 hs.2.2.2 sysFlags_noEmitDup.1 sysFlags_noEmitDup.2.1
      sysFlags_noEmitDup.2.2.1,
    good_flush hg.1 hs.2.1, good_flush hg.2.1 hs.2.2.1, good_flush hg.2.2 hs.2.2.2⟩

theorem cpuSysRow {x x' : Cpu} {l : Lv3} (hg : GoodC x l) (hs : CpuSys x x') :
    cpuSysEmit x' l =
      (match collect (cpuSysList x') with
      | .error e => .error e
      | .ok s => .ok (newC x' l, s)) ∧
    GoodC { x' with chNrun := x'.chNrun.flush, chPid := x'.chPid.flush, chTid := x'.chTid.flush,
                    chThrun := x'.chThrun.flush, chThact := x'.chThact.flush } (newC x' l) :=
  ⟨rowSysEmit_eq hg.1 hg.2.1 hg.2.2 hs.2.1 hs.2.2.1 hs.2.2.2 sysFlags_noEmitDup.2.1 sysFlags_noEmitDup.2.1
      sysFlags_noEmitDup.2.2.2,
    good_flush hg.1 hs.2.1, good_flush hg.2.1 hs.2.2.1, good_flush hg.2.2 hs.2.2.2⟩

def newRows {α} (new : α → Lv3 → Lv3) : List α → List Lv3 → List Lv3
  | [], _ => []
  | a :: as, ls => new a (ls.headD (none, none, none)) :: newRows new as ls.tail

theorem newRows_getElem? {α} (new : α → Lv3 → Lv3) : ∀ (rows : List α) (ls : List Lv3) (g : Nat) (a : α),
    rows[g]? = some a → (newRows new rows ls).getD g (none, none, none) = new a (ls.getD g (none, none, none))
  | [], _, _, _, h => by cases h
  | b :: bs, ls, 0, a, h => by
    simp only [List.getElem?_cons_zero, Option.some.injEq] at h
    subst h
    simp only [newRows, List.getD_cons_zero, List.headD_eq_getD]
  | b :: bs, ls, g + 1, a, h => by
    simp only [List.getElem?_cons_succ] at h
    simp only [newRows, List.getD_cons_succ]
    rw [newRows_getElem? new bs ls.tail g a h, getD_tail]

theorem rowsEmit_collect {α} (f : α → Lv3 → Except Err (Lv3 × List PrvRec))
    (lst : α → List (Except Err (List PrvRec))) (new : α → Lv3 → Lv3) : ∀ (rows : List α) (ls : List Lv3),
    (∀ (g : Nat) (a : α), rows[g]? = some a →
      f a (ls.getD g (none, none, none)) =
        match collect (lst a) with
        | .error e => .error e
        | .ok s => .ok (new a (ls.getD g (none, none, none)), s)) →
    rowsEmit f rows ls =
      match collect (rows.flatMap lst) with
      | .error e => .error e
      | .ok s => .ok (newRows new rows ls, s)
  | [], _, _ => rfl
  | a :: as, ls, h => by
    have h0 := h 0 a rfl
    rw [← List.headD_eq_getD] at h0
    have ih := rowsEmit_collect f lst new as ls.tail (fun g a' hg => by
      rw [getD_tail]; exact h (g + 1) a' (by simpa using hg))
    rw [rowsEmit, h0, List.flatMap_cons, collect_append, ih]
    cases collect (lst a) with
    | error e => rfl
    | ok s =>
      simp only
      cases collect (as.flatMap lst) with
      | error e => rfl
      | ok s' => rfl

/-- The rows of one file at once; instantiated in `sysEmit_eq` with `thSysRow` (`G` = `GoodT`,
    `R` = `ThSys`) and `cpuSysRow` (`GoodC`, `CpuSys`), `fl` being the flush of a row. -/
theorem rows_step {α} {f : α → Lv3 → Except Err (Lv3 × List PrvRec)} {lst : α → List (Except Err (List PrvRec))}
    {new : α → Lv3 → Lv3} {fl : α → α} {G : α → Lv3 → Prop} {R : α → α → Prop}
    (step : ∀ {a a' l}, G a l → R a a' →
      f a' l =
        (match collect (lst a') with
        | .error e => .error e
        | .ok s => .ok (new a' l, s)) ∧
      G (fl a') (new a' l))
    {rows rows' : List α} {ls : List Lv3} (hlen : rows'.length = rows.length)
    (hG : ∀ g a, rows[g]? = some a → G a (ls.getD g (none, none, none)))
    (hR : ∀ (g : Nat) a a', rows[g]? = some a → rows'[g]? = some a' → R a a') :
    rowsEmit f rows' ls =
      (match collect (rows'.flatMap lst) with
      | .error e => .error e
      | .ok s => .ok (newRows new rows' ls, s)) ∧
    ∀ g a, (rows'.map fl)[g]? = some a →
      G a ((newRows new rows' ls).getD g (none, none, none)) := by
  have one : ∀ g a', rows'[g]? = some a' →
      ∃ a, G a (ls.getD g (none, none, none)) ∧ R a a' := by
    intro g a' h'
    have : g < rows.length := by rw [← hlen]; exact (List.getElem?_eq_some_iff.mp h').1
    have h := List.getElem?_eq_getElem this
    exact ⟨_, hG g _ h, hR g _ a' h h'⟩
  refine ⟨rowsEmit_collect f lst new rows' ls fun g a' h' => ?_, fun g a h => ?_⟩
  · obtain ⟨_, hg, hr⟩ := one g a' h'
    exact (step hg hr).1
  · simp only [List.getElem?_map, Option.map_eq_some_iff] at h
    obtain ⟨a', h', rfl⟩ := h
    obtain ⟨_, hg, hr⟩ := one g a' h'
    rw [newRows_getElem? new _ _ g a' h']
    exact (step hg hr).2

def SysInv (e : Emu) (tl cl : List Lv3) : Prop :=
  (∀ (g : Nat) (t : Thread), e.threads[g]? = some t → GoodT t (tl.getD g (none, none, none))) ∧
  (∀ (c : Nat) (x : Cpu), e.cpus[c]? = some x → GoodC x (cl.getD c (none, none, none)))

theorem sysEmit_eq {e e' : Emu} {tl cl : List Lv3} (hi : SysInv e tl cl) (hr : SysRel e e') :
    sysEmit e' tl cl =
      (match sysRecords e' with
      | .error x => .error x
      | .ok s => .ok (newRows newT e'.threads tl, newRows newC e'.cpus cl, s)) ∧
    SysInv e'.flushAll (newRows newT e'.threads tl) (newRows newC e'.cpus cl) := by
  obtain ⟨hl, hm, hth, hcp⟩ := hr
  obtain ⟨h1, i1⟩ := rows_step thSysRow hl hi.1 hth
  obtain ⟨h2, i2⟩ := rows_step cpuSysRow hm hi.2 hcp
  refine ⟨?_, i1, i2⟩
  unfold sysEmit sysRecords
  rw [h1, h2, collect_append]
  cases collect (e'.threads.flatMap thSysList) with
  | error e => rfl
  | ok s =>
    simp only
    cases collect (e'.cpus.flatMap cpuSysList) with
    | error e => rfl
    | ok s' => rfl

end Ovni.Emu
