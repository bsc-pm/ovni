import OvniModel.Lemmas.TaskHook

/-
  C06 (emit side): the SYSTEM channels (thread `cpu` / `tid` / state, CPU `pid` / `tid` /
  `nrunning`) are single channels without ALLOW_DUP and DIRTY_WRITE, written only by
  `chan_set`; so a handler dirties each of them at most once per event, and only with a value
  different from `last_value` (`SysOk`), which itself only moves at the flush (`ChS`).
  By induction over the primitive updates of a handler (`Ops.sysS`).
-/
namespace Ovni.Emu
open Ovni.Generated

def SysOk (c : Chan) : Prop :=
  c.isStack = false ∧ c.allowDup = false ∧ c.dirtyWrite = false ∧ (c.dirty = true → c.cur ≠ c.last)

/-- The three facts about successful `chan_set`s from `c` to `c'` that the emit side needs,
    not the relation itself. -/
def ChS (c c' : Chan) : Prop := (SysOk c → SysOk c') ∧ c'.last = c.last ∧ (c'.dirty = false → c' = c)

theorem ChS.refl (c : Chan) : ChS c c := ⟨id, rfl, fun _ => rfl⟩
theorem ChS.trans {a b c : Chan} (h1 : ChS a b) (h2 : ChS b c) : ChS a c :=
  ⟨fun h => h2.1 (h1.1 h), h2.2.1.trans h1.2.1, fun hd => by
    have e1 := h2.2.2 hd
    rw [e1] at hd ⊢
    exact h1.2.2 hd⟩

theorem Chan.set_sys {c c' : Chan} {v : Value} (h : c.set v = .ok c') : ChS c c' := by
  obtain ⟨_, _, ⟨_, _, rfl⟩ | ⟨hnd, rfl⟩⟩ := Chan.set_ok_iff.mp h
  · exact ChS.refl _
  · exact ⟨fun ⟨s1, s2, s3, _⟩ => ⟨s1, s2, s3, fun _ e => hnd ⟨s2, e.symm.trans (Value.cur_single v c)⟩⟩, rfl,
      fun hd => by cases hd⟩

def ThSys (t t' : Thread) : Prop :=
  t'.gindex = t.gindex ∧ ChS t.chCpu t'.chCpu ∧ ChS t.chTid t'.chTid ∧ ChS t.chState t'.chState

def CpuSys (c c' : Cpu) : Prop :=
  c'.gindex = c.gindex ∧ ChS c.chPid c'.chPid ∧ ChS c.chTid c'.chTid ∧ ChS c.chNrun c'.chNrun

theorem ThSys.refl (t : Thread) : ThSys t t := ⟨rfl, ChS.refl _, ChS.refl _, ChS.refl _⟩
theorem ThSys.trans {a b c : Thread} (h1 : ThSys a b) (h2 : ThSys b c) : ThSys a c :=
  ⟨h2.1.trans h1.1, h1.2.1.trans h2.2.1, h1.2.2.1.trans h2.2.2.1, h1.2.2.2.trans h2.2.2.2⟩
theorem CpuSys.refl (c : Cpu) : CpuSys c c := ⟨rfl, ChS.refl _, ChS.refl _, ChS.refl _⟩
theorem CpuSys.trans {a b c : Cpu} (h1 : CpuSys a b) (h2 : CpuSys b c) : CpuSys a c :=
  ⟨h2.1.trans h1.1, h1.2.1.trans h2.2.1, h1.2.2.1.trans h2.2.2.1, h1.2.2.2.trans h2.2.2.2⟩

def SysRel (e e' : Emu) : Prop :=
  e'.threads.length = e.threads.length ∧ e'.cpus.length = e.cpus.length ∧
  (∀ (g : Nat) (t t' : Thread), e.threads[g]? = some t → e'.threads[g]? = some t' → ThSys t t') ∧
  (∀ (c : Nat) (x x' : Cpu), e.cpus[c]? = some x → e'.cpus[c]? = some x' → CpuSys x x')

theorem SysRel.refl (e : Emu) : SysRel e e :=
  ⟨rfl, rfl, fun _ t t' h h' => by rw [h] at h'; cases h'; exact ThSys.refl _,
    fun _ x x' h h' => by rw [h] at h'; cases h'; exact CpuSys.refl _⟩

theorem SysRel.setThread {e e1 : Emu} {ti : Nat} {t t' : Thread} (h : SysRel e e1) (hs : Shaped e1)
    (ht : e1.threads[ti]? = some t) (hr : ThSys t t') : SysRel e (e1.setThread t') := by
  have hthr : (e1.setThread t').threads = e1.threads.set ti t' := by
    simp [Emu.setThread, hr.1, hs.thIdx ti t ht]
  obtain ⟨l1, m1, t1, c1⟩ := h
  exact ⟨by rw [hthr, List.length_set]; exact l1, m1, hthr ▸ rel_set t1 ht fun _ hx => hx.trans hr, c1⟩

theorem SysRel.setCpu {e e1 : Emu} {ci : Nat} {c c' : Cpu} (h : SysRel e e1) (hs : Shaped e1)
    (hc : e1.cpus[ci]? = some c) (hr : CpuSys c c') : SysRel e (e1.setCpu c') := by
  have hcp : (e1.setCpu c').cpus = e1.cpus.set ci c' := by
    simp [Emu.setCpu, hr.1, hs.cpuIdx ci c hc]
  obtain ⟨l1, m1, t1, c1⟩ := h
  exact ⟨l1, by rw [hcp, List.length_set]; exact m1, t1, hcp ▸ rel_set c1 hc fun _ hx => hx.trans hr⟩

theorem SysRel.withChan {e e1 e2 : Emu} {ti m i : Nat} {f : Chan → Except Err Chan} (h : SysRel e e1)
    (hs : Shaped e1) (hw : Ovni.Emu.withChan e1 ti m i f = .ok e2) : SysRel e e2 := by
  obtain ⟨t, cs, c, c', ht, _, _, _, rfl⟩ := withChan_cases hw
  exact h.setThread hs ht ⟨rfl, ChS.refl _, ChS.refl _, ChS.refl _⟩

theorem Thread.setState_sys {t t' : Thread} {st : ThState} (h : t.setState st = .ok t') : ThSys t t' := by
  obtain ⟨_, cs, ct, hcs, hct, rfl⟩ := Thread.setState_cases h
  exact ⟨rfl, ChS.refl _, Chan.set_sys hct, Chan.set_sys hcs⟩

theorem cpuUpdate_sys {ths : List Thread} {c c' : Cpu} (h : cpuUpdate ths c = .ok c') : CpuSys c c' := by
  obtain ⟨hg, _, ⟨_, h1⟩, ⟨_, h2⟩, ⟨_, h3⟩, _⟩ := cpuUpdate_cases h
  exact ⟨hg, Chan.set_sys h2, Chan.set_sys h1, Chan.set_sys h3⟩

def SysS (e e' : Emu) : Prop := Shaped e → SysRel e e'

/-- Every operation on a system channel is a `chan_set`: each primitive update replaces one thread
    or one CPU by a `ThSys` / `CpuSys` successor. -/
theorem Ops.sysS {P : Src → Prop} {e e' : Emu} (h : Ops P e e') : SysS e e' := fun hs => by
  induction h with
  | nil => exact SysRel.refl _
  | state h1 ht _ hst ih => exact ih.setThread (h1.upd hs).shaped ht (Thread.setState_sys hst)
  | thCpu h1 ht hc ih =>
    exact ih.setThread (h1.upd hs).shaped ht ⟨rfl, Chan.set_sys hc, ChS.refl _, ChS.refl _⟩
  | outOfCpu _ h1 ht ih =>
    exact ih.setThread (h1.upd hs).shaped ht ⟨rfl, ChS.refl _, ChS.refl _, ChS.refl _⟩
  | cpu h1 hc _ _ hu ih => exact ih.setCpu (h1.upd hs).shaped hc (cpuUpdate_sys hu :)
  | raw h1 _ _ h ih => exact ih.withChan (h1.upd hs).shaped h

theorem SysS.preThread {e e' : Emu} {ti v : Nat} {p : List Nat} (h : preThread e ti v p = .ok e') :
    SysS e e' :=
  fun hs => (preThread_ops hs h).sysS hs

theorem SysS.migrate {e e' : Emu} {ti fr to : Nat} (h : migrate e ti fr to = .ok e') : SysS e e' :=
  (migrate_ops h).sysS

def HookSys (hook : Emu → Nat → Nat → Nat → List Nat → Except Err Emu) : Prop :=
  ∀ (e : Emu) (ti a b : Nat) (p : List Nat) (e' : Emu), hook e ti a b p = .ok e' → SysS e e'

theorem SysS.modelEvent {e e' : Emu} {ti m c v : Nat} {p : List Nat}
    {th mh : Emu → Nat → Nat → Nat → List Nat → Except Err Emu} (hth : HookSys th) (hmh : HookSys mh)
    (h : modelEvent e ti m c v p th mh = .ok e') : SysS e e' := fun hs => by
  rcases modelEvent_ops hs h with h | h | h
  · exact hth _ _ _ _ _ _ h hs
  · exact hmh _ _ _ _ _ _ h hs
  · exact h.sysS hs

theorem hookSys_none : HookSys (fun _ _ _ _ _ => .error .unknownEvent) := by
  intro e ti a b p e' h; cases h

theorem hookSys_mark (tab : List MarkType) : HookSys (fun e ti _ v p => markEvent tab e ti v p) := by
  intro e ti a b p e' h
  obtain ⟨_, _, w, _, h⟩ := markEvent_cases h
  exact (withChan_ops (chanOp_wrOp _ w) h).sysS

theorem hookSys_task (m : Ovni.Task.Model) (P : Ovni.Task.ProcInfo) (ε : Ovni.Task.Emu) (ev : Ovni.Task.Ev) :
    HookSys (taskHook m P ε ev) :=
  fun _ _ _ _ _ _ h => (taskHook_ops h).sysS

end Ovni.Emu
