import OvniModel.Lemmas.SystemMain

/-! The hierarchy of a union of metadata holds exactly that union, and a union with one of
    the single contradictions has no hierarchy.  The hierarchy is the tables regrouped
    (`mem_hierOf_looms`, `mem_loomOf_procs`, `mem_sortedCpus`), and the tables hold the union
    (`Inv.mem_looms_iff`, `Inv.mem_procs_iff`, `Inv.mem_thrKeys`, `ProcInv.appid_cases`, …) (C15). -/
namespace Ovni.Emu.System

theorem HierOf.content {l0 : List StreamMeta} {h : Hier} (hh : HierOf l0 h) : Content l0 h := by
  obtain ⟨sys, inv, hf⟩ := hh
  obtain ⟨rfl, hok⟩ := (finish_spec sys).of_ok hf
  have loom : ∀ {C : HLoom → Prop}, (∀ n ∈ sys.looms, LoomEnded (loomOf sys n) → C (loomOf sys n)) →
      ∀ l ∈ (hierOf sys).looms, C l := by
    intro C hC l hlm
    obtain ⟨n, hn, rfl⟩ := mem_hierOf_looms.1 hlm
    exact hC n hn (hok n hn).2
  have proc : ∀ {n : Str} {C : HProc → Prop}, (∀ p ∈ sys.procs, p.loom = n → C (mkProc sys.threads p)) →
      ∀ hp ∈ (loomOf sys n).procs, C hp := by
    intro n C hC hp hm
    obtain ⟨p, pm, pl, rfl⟩ := mem_loomOf_procs.1 hm
    exact hC p pm pl
  refine ⟨fun n => ?_, loom fun n _ _ i p => ?_, loom fun n _ hend => ⟨hend.indexNodup, hend.index⟩,
    loom fun n _ _ pid => ?_, loom fun n _ hend => proc fun p pm pl => ?_,
    loom fun n _ _ => proc fun p pm pl => ?_, loom fun n _ _ => proc fun p pm pl tid => ?_⟩
  · rw [← inv.mem_looms_iff]
    constructor
    · rintro ⟨l, hl, rfl⟩
      obtain ⟨n, hn, rfl⟩ := mem_hierOf_looms.1 hl
      exact hn
    · exact fun hn => ⟨_, mem_hierOf_looms.2 ⟨n, hn, rfl⟩, rfl⟩
  · show (∃ c ∈ sortedCpus sys n, c.index = i ∧ c.phyid = p) ↔ cpuFact ⟨n, i, p⟩ ∈ cpuFacts l0
    rw [← inv.cpus.mem_iff]
    constructor
    · rintro ⟨⟨_, _, _⟩, hc, rfl, rfl⟩
      obtain ⟨hcm, rfl⟩ := mem_sortedCpus.1 hc
      exact hcm
    · exact fun hc => ⟨_, mem_sortedCpus.2 ⟨hc, rfl⟩, rfl, rfl⟩
  · rw [← inv.mem_procs_iff]
    constructor
    · rintro ⟨hp, hpm, rfl⟩
      obtain ⟨p, pm, pl, rfl⟩ := mem_loomOf_procs.1 hpm
      exact ⟨p, pm, pl, rfl⟩
    · rintro ⟨p, pm, pl, rfl⟩
      exact ⟨mkProc sys.threads p, mem_loomOf_procs.2 ⟨p, pm, pl, rfl⟩, rfl⟩
  · -- `proc_init_end` refused the app id 0 of a process without one
    have h0 : 0 < p.appid := hend.appid _ (mem_loomOf_procs.2 ⟨p, pm, pl, rfl⟩)
    exact pl ▸ (inv.procs.appid_cases pm).resolve_left fun h => by omega
  · exact pl ▸ inv.procs.rank_cases pm
  · show _ ↔ (some n, p.pid, tid) ∈ thrKeys l0
    rw [inv.mem_thrKeys]
    simp only [mkProc, mem_sortBy, List.mem_filter, decide_eq_true_eq, pl, and_assoc]

/-- The contradictions that `create_system` meets are those that `CreateOK` and `IndexOK`
    exclude; `proc_init_end` and `loom_init_end` find the two kinds of missing data. -/
theorem HierOf.no_conflict {ss : List StreamMeta} {h : Hier} (hh : HierOf (load ss) h) : ¬ Conflict ss := by
  intro hc
  obtain ⟨⟨k1, k2, k3, k4, k5⟩, k6⟩ := hh.consistent
  obtain ⟨sys, inv, hf⟩ := hh
  have ended := fun n hn => (((finish_spec sys).of_ok hf).2 n hn).2
  cases hc with
  | appId n pid a b h1 h2 hne =>
    exact hne (k3.2 n pid a b (mem_flatMap_load.2 h1) (mem_flatMap_load.2 h2))
  | rank n pid r r' k k' h1 h2 hne =>
    exact hne (k4.2 n pid r k r' k' (mem_flatMap_load.2 h1) (mem_flatMap_load.2 h2)).1
  | nranks n pid r r' k k' h1 h2 hne =>
    exact hne (k4.2 n pid r k r' k' (mem_flatMap_load.2 h1) (mem_flatMap_load.2 h2)).2
  | indexTwoPhyids n i p p' h1 h2 hne =>
    exact hne (k6 n i p p' (mem_flatMap_load.2 h1) (mem_flatMap_load.2 h2))
  | phyidTwoIndexes n i i' p h1 h2 hne =>
    exact hne (k5.2.2 n i i' p (mem_flatMap_load.2 h1) (mem_flatMap_load.2 h2))
  | dupTid hd =>
    exact hd ((thrKeys_load_perm ss).nodup_iff.1 k2)
  | missingCpus s n hs ht hl hno =>
    have hn := inv.mem_looms_iff.2 ⟨s, (load_perm ss).mem_iff.2 hs, ht, hl⟩
    obtain ⟨c, hc⟩ := List.exists_mem_of_ne_nil _ (ended n hn).cpus
    obtain ⟨hcm, rfl⟩ := mem_sortedCpus.1 hc
    exact hno _ (mem_flatMap_load.1 (inv.cpus.mem_iff.1 hcm))
  | missingAppId s n hs ht hl hno =>
    have hs' := (load_perm ss).mem_iff.2 hs
    obtain ⟨p, hp, rfl, hpp⟩ := inv.mem_procs_iff.2 ⟨_, mem_thrKeys_stream.2 ⟨s, hs', ht, by rw [hl]⟩⟩
    have h0 : 0 < p.appid :=
      (ended _ (inv.mem_looms_iff.2 ⟨s, hs', ht, hl⟩)).appid _ (mem_loomOf_procs.2 ⟨p, hp, rfl, rfl⟩)
    exact hno _ (mem_flatMap_load.1 (hpp ▸ (inv.procs.appid_cases hp).resolve_left fun h => by omega))

theorem conflict_refused {m : Mode} {ss : List StreamMeta} (hc : Conflict ss) (hn : build m ss ≠ .crash) :
    ∃ e, build m ss = .error e := by
  cases hb : build m ss with
  | ok h => exact absurd hc (build_ok_iff.1 hb).2.no_conflict
  | error e => exact ⟨e, rfl⟩
  | crash => exact absurd hb hn

theorem Content.of_load {ss : List StreamMeta} {h : Hier} (c : Content (load ss) h) : Content ss h := by
  have tk : ∀ k, k ∈ thrKeys (load ss) ↔ k ∈ thrKeys ss := fun k => (thrKeys_load_perm ss).mem_iff
  have sm : ∀ s, s ∈ load ss ↔ s ∈ ss := fun s => (load_perm ss).mem_iff
  refine ⟨?_, ?_, c.cpuIndex, ?_, ?_, ?_, ?_⟩
  · intro n
    rw [c.looms n]
    constructor
    · rintro ⟨s, hs, h1⟩; exact ⟨s, (sm s).1 hs, h1⟩
    · rintro ⟨s, hs, h1⟩; exact ⟨s, (sm s).2 hs, h1⟩
  · intro l hl i p; exact (c.cpus l hl i p).trans mem_flatMap_load
  · intro l hl pid
    rw [c.procs l hl pid]
    constructor
    · rintro ⟨tid, hk⟩; exact ⟨tid, (tk _).1 hk⟩
    · rintro ⟨tid, hk⟩; exact ⟨tid, (tk _).2 hk⟩
  · intro l hl p hp; exact mem_flatMap_load.1 (c.appid l hl p hp)
  · intro l hl p hp
    rcases c.rank l hl p hp with ⟨h1, h2, h3⟩ | h1
    · exact Or.inl ⟨h1, h2, fun r k hm => h3 r k (mem_flatMap_load.2 hm)⟩
    · exact Or.inr (mem_flatMap_load.1 h1)
  · intro l hl p hp tid; rw [c.threads l hl p hp tid, tk]

end Ovni.Emu.System
