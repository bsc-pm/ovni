import OvniModel.Emu.SystemSpec
import OvniModel.Lemmas.SystemRes
import OvniModel.Lemmas.ListLemmas

/-! `load_cpus` keeps the CPU table equal to the CPU facts merged so far, one row per
    (loom, physical id), and refuses an entry only when these facts contradict each other (C15). -/
namespace Ovni.Emu.System

abbrev CFact := Str × Option (Int × Int)

def cpuFact (c : CpuRow) : CFact := (c.loom, some (c.index, c.phyid))

structure CpuInv (F : List CFact) (cpus : List CpuRow) : Prop where
  nodup : cpus.Pairwise (fun a b => ¬ (a.loom = b.loom ∧ a.phyid = b.phyid))
  sound : ∀ c ∈ cpus, cpuFact c ∈ F ∧ 0 ≤ c.index ∧ 0 ≤ c.phyid
  complete : ∀ n i p, (n, some (i, p)) ∈ F → (⟨n, i, p⟩ : CpuRow) ∈ cpus

theorem IndexOK.mono {F G : List CFact} (h : IndexOK G) (hs : F ⊆ G) : IndexOK F :=
  fun n i p p' h1 h2 => h n i p p' (hs h1) (hs h2)

theorem CpuOK.mono {F G : List CFact} (h : CpuOK G) (hs : F ⊆ G) : CpuOK F :=
  ⟨fun n hm => h.1 n (hs hm), fun n i p hm => h.2.1 n i p (hs hm),
   fun n i i' p h1 h2 => h.2.2 n i i' p (hs h1) (hs h2)⟩

theorem CpuInv.nil : CpuInv [] [] :=
  ⟨List.Pairwise.nil, fun _ h => (nomatch h), fun _ _ _ h => (nomatch h)⟩

theorem CpuInv.mem_iff {F : List CFact} {cpus : List CpuRow} (inv : CpuInv F cpus) {c : CpuRow} :
    c ∈ cpus ↔ cpuFact c ∈ F :=
  ⟨fun h => (inv.sound c h).1, inv.complete c.loom c.index c.phyid⟩

theorem CpuInv.phyid_nodup {F : List CFact} {cpus : List CpuRow} (inv : CpuInv F cpus) (n : Str) :
    (cpus.filter (fun c => c.loom = n)).Pairwise (fun a b => a.phyid ≠ b.phyid) :=
  pairwise_filter_imp inv.nodup fun _ _ ha hb hne heq => hne ⟨ha.trans hb.symm, heq⟩

theorem CpuInv.nodup_rows {F : List CFact} {cpus : List CpuRow} (inv : CpuInv F cpus) : cpus.Nodup :=
  inv.nodup.imp fun {a b} h heq => h (by rw [heq]; exact ⟨rfl, rfl⟩)

theorem CpuInv.perm {F F' : List CFact} {cpus cpus' : List CpuRow}
    (inv : CpuInv F cpus) (inv' : CpuInv F' cpus') (hF : SameSet F F') : cpus.Perm cpus' := by
  rw [List.perm_ext_iff_of_nodup inv.nodup_rows inv'.nodup_rows]
  intro c
  rw [inv.mem_iff, inv'.mem_iff]
  exact ⟨@hF.1 _, @hF.2 _⟩

/-- A table that holds the facts witnesses their consistency, but for the empty arrays, which leave no row. -/
theorem CpuInv.cpuOK {F : List CFact} {cpus : List CpuRow} (inv : CpuInv F cpus) (hne : ∀ n, (n, none) ∉ F) :
    CpuOK F := by
  refine ⟨hne, fun n i p hm => (inv.sound _ (inv.complete n i p hm)).2, fun n i i' p h1 h2 => ?_⟩
  have := eq_of_pairwise_not (S := fun (a b : CpuRow) => a.loom = b.loom ∧ a.phyid = b.phyid)
    (fun _ _ h => ⟨h.1.symm, h.2.symm⟩) inv.nodup (inv.complete n i p h1) (inv.complete n i' p h2) ⟨rfl, rfl⟩
  injection this

/-- `loom_get_cpu` called from `load_cpus`, before `cpus_array` exists: it returns a CPU only
    for the virtual index (or, in mode `.fixed`, for an index already in the table); in mode
    `.asIs` (before ovni's f0b14dc) it dereferences the array exactly for `0 .. ncpus-1`. -/
theorem getCpuEarly_spec (m : Mode) (cpus : List CpuRow) (n : Str) (i : Int) :
    (getCpuEarly m cpus n i).Sat
      (fun b => b = true → i = -1 ∨ (m = .fixed ∧ ∃ c ∈ cpus, c.loom = n ∧ c.index = i))
      False (m = .asIs ∧ 0 ≤ i ∧ i < (ncpus cpus n : Int)) := by
  cases m <;> simp only [getCpuEarly]
  · split
    · exact fun _ => Or.inl ‹_›
    split
    · exact fun h => nomatch h
    · exact ⟨trivial, by omega, by omega⟩
  · split
    · exact fun _ => Or.inl ‹_›
    · intro hb
      have := find?_spec (fun c : CpuRow => c.loom = n ∧ c.index = i) cpus
      unfold findCpuIdx at hb
      split at this
      · rename_i c _; exact Or.inr ⟨trivial, c, this⟩
      · rename_i hnone; rw [hnone] at hb; cases hb

theorem loadCpuEntry_spec (m : Mode) (n : Str) (cpus : List CpuRow) (i p : Int) :
    (loadCpuEntry m n cpus (i, p)).Sat
      (fun cpus' => 0 ≤ i ∧
        ((cpus' = cpus ∧ (⟨n, i, p⟩ : CpuRow) ∈ cpus) ∨
         (cpus' = cpus ++ [⟨n, i, p⟩] ∧ 0 ≤ p ∧ ∀ c ∈ cpus, ¬ (c.loom = n ∧ c.phyid = p))))
      (i < 0 ∨ p < 0 ∨ (∃ c ∈ cpus, c.loom = n ∧ c.phyid = p ∧ c.index ≠ i) ∨
        ((∀ c ∈ cpus, ¬ (c.loom = n ∧ c.phyid = p)) ∧ m = .fixed ∧ ∃ c ∈ cpus, c.loom = n ∧ c.index = i))
      ((∀ c ∈ cpus, ¬ (c.loom = n ∧ c.phyid = p)) ∧ m = .asIs ∧ 0 ≤ i ∧ i < (ncpus cpus n : Int)) := by
  have hf := find?_spec (fun c : CpuRow => c.loom = n ∧ c.phyid = p) cpus
  have hget := getCpuEarly_spec m cpus n i
  unfold loadCpuEntry findCpu
  simp only
  split
  · exact Or.inl ‹_›
  split
  · exact Or.inr (Or.inl (by omega))
  rename_i hi hp
  split
  · rename_i c hc
    simp only [hc] at hf
    split
    · exact Or.inr (Or.inr (Or.inl ⟨c, hf.1, hf.2.1, hf.2.2, ‹_›⟩))
    · rename_i hidx
      refine ⟨by omega, Or.inl ⟨rfl, ?_⟩⟩
      have : c = ⟨n, i, p⟩ := by
        cases c; simp only [Decidable.not_not] at hidx hf; simp [hf.2.1, hf.2.2, hidx]
      rw [← this]; exact hf.1
  · rename_i hnone
    simp only [hnone] at hf
    split
    · exact ⟨hf, hget.of_crash ‹_›⟩
    · exact (hget.of_error ‹_›).elim
    · exact Or.inr (Or.inr (Or.inr ⟨hf, (hget.of_ok ‹_› rfl).resolve_left (by omega)⟩))
    · split
      · exact Or.inr (Or.inl ‹_›)
      · exact ⟨by omega, Or.inr ⟨rfl, by omega, hf⟩⟩

theorem loadCpuEntry_inv {F : List CFact} {cpus : List CpuRow} (inv : CpuInv F cpus) (m : Mode)
    (n : Str) (e : Int × Int) :
    (loadCpuEntry m n cpus e).Sat (CpuInv (F ++ [(n, some e)]))
      (¬ (CpuOK (F ++ [(n, some e)]) ∧ IndexOK (F ++ [(n, some e)]))) (m = .asIs) := by
  obtain ⟨i, p⟩ := e
  have hold : ∀ d ∈ cpus, cpuFact d ∈ F ++ [(n, some (i, p))] ∧ 0 ≤ d.index ∧ 0 ≤ d.phyid :=
    fun d hd => ⟨List.mem_append_left _ (inv.sound d hd).1, (inv.sound d hd).2⟩
  have hself : (n, some (i, p)) ∈ F ++ [(n, some (i, p))] := List.mem_append_right _ (List.mem_singleton.2 rfl)
  have hnew : ∀ n' i' p', (n', some (i', p')) ∈ F ++ [(n, some (i, p))] →
      (n', some (i', p')) ∈ F ∨ (⟨n', i', p'⟩ : CpuRow) = ⟨n, i, p⟩ := by
    intro n' i' p' hm
    rcases List.mem_append.1 hm with hm | hm
    · exact Or.inl hm
    · simp only [List.mem_singleton, Prod.mk.injEq, Option.some.injEq] at hm
      obtain ⟨rfl, rfl, rfl⟩ := hm
      exact Or.inr rfl
  refine (loadCpuEntry_spec m n cpus i p).mono ?_ ?_ (·.2.1)
  · rintro cpus' ⟨hi, ⟨rfl, hmem⟩ | ⟨rfl, hp, hno⟩⟩
    · refine ⟨inv.nodup, hold, fun n' i' p' hm => ?_⟩
      rcases hnew n' i' p' hm with hm | hm
      · exact inv.complete n' i' p' hm
      · rw [hm]; exact hmem
    · refine ⟨?_, ?_, fun n' i' p' hm => ?_⟩
      · refine List.pairwise_append.2 ⟨inv.nodup, List.pairwise_singleton _ _, ?_⟩
        intro a ha b hb
        rw [List.mem_singleton.1 hb]
        exact hno a ha
      · intro d hd
        rcases List.mem_append.1 hd with hd | hd
        · exact hold d hd
        · rw [List.mem_singleton.1 hd]; exact ⟨hself, hi, hp⟩
      · rcases hnew n' i' p' hm with hm | hm
        · exact List.mem_append_left _ (inv.complete n' i' p' hm)
        · rw [hm]; exact List.mem_append_right _ (List.mem_singleton.2 rfl)
  · rintro herr ⟨ok, iok⟩
    have hpos := ok.2.1 n i p hself
    have hrow : ∀ c ∈ cpus, c.loom = n → (n, some (c.index, c.phyid)) ∈ F ++ [(n, some (i, p))] :=
      fun c hc hl => hl ▸ (hold c hc).1
    rcases herr with h | h | ⟨c, hc, hl, rfl, hne⟩ | ⟨hno, _, c, hc, hl, rfl⟩
    · omega
    · omega
    · exact hne (ok.2.2 n c.index i c.phyid (hrow c hc hl) hself)
    · exact hno c hc ⟨hl, iok n c.index c.phyid p (hrow c hc hl) hself⟩

theorem loadCpuList_eq_foldl (m : Mode) (n : Str) (es : List (Int × Int)) :
    ∀ cpus, loadCpuList m n cpus es = Res.foldl (loadCpuEntry m n) cpus es := by
  induction es with
  | nil => intro cpus; rfl
  | cons e es ih =>
    intro cpus
    simp only [loadCpuList, Res.foldl]
    cases loadCpuEntry m n cpus e <;> simp only [Res.bind, ih]

/-- `load_cpus` in closed form: an empty array is refused, an absent one is an empty loop. -/
theorem loadCpus_eq_foldl (m : Mode) (n : Str) (cpus : List CpuRow) (o : Option (List (Int × Int))) :
    loadCpus m n cpus o =
      if o = some [] then .error .cpusEmpty else Res.foldl (loadCpuEntry m n) cpus (o.getD []) := by
  match o with
  | none => rfl
  | some [] => rfl
  | some (e :: es) =>
    rw [if_neg (by simp)]
    exact loadCpuList_eq_foldl m n (e :: es) cpus

/-- The CPU facts that one stream's `loom_cpus` array (absent, empty or not) adds for loom `n`. -/
def entryFacts (n : Str) (o : Option (List (Int × Int))) : List CFact :=
  if o = some [] then [(n, none)] else (o.getD []).map fun e => (n, some e)

theorem loadCpus_inv {F : List CFact} {cpus : List CpuRow} (inv : CpuInv F cpus) (m : Mode) (n : Str)
    (o : Option (List (Int × Int))) :
    (loadCpus m n cpus o).Sat
      (fun cpus' => CpuInv (F ++ entryFacts n o) cpus' ∧ ∀ n', (n', none) ∉ entryFacts n o)
      (¬ (CpuOK (F ++ entryFacts n o) ∧ IndexOK (F ++ entryFacts n o))) (m = .asIs) := by
  by_cases ho : o = some []
  · simp only [loadCpus_eq_foldl, entryFacts, if_pos ho]
    exact fun h => h.1.1 n (List.mem_append_right _ (List.mem_singleton.2 rfl))
  simp only [loadCpus_eq_foldl, entryFacts, if_neg ho]
  refine (Res.foldl_sat (P := fun pre cs => CpuInv (F ++ pre.map fun e => (n, some e)) cs)
    (Q := fun pre => CpuOK (F ++ pre.map fun e => (n, some e)) ∧ IndexOK (F ++ pre.map fun e => (n, some e)))
    ?_ ?_ (o.getD []) [] cpus (by simpa using inv)).mono (fun _ h => ⟨h, fun n' hm => ?_⟩) id id
  · intro pre cs e h
    simp only [List.map_append, List.map_cons, List.map_nil, ← List.append_assoc]
    exact loadCpuEntry_inv h m n e
  · intro a b ⟨h1, h2⟩
    have hs : F ++ a.map (fun e => (n, some e)) ⊆ F ++ (a ++ b).map fun e => (n, some e) := by
      rw [List.map_append, ← List.append_assoc]; exact List.subset_append_left _ _
    exact ⟨h1.mono hs, h2.mono hs⟩
  · obtain ⟨_, _, he⟩ := List.mem_map.1 hm
    cases he

end Ovni.Emu.System
