import OvniModel.Lemmas.SystemUnion

/-! Where `build` can crash: only in `load_cpus`, never in ovni's code (`.fixed`), and in
    the code before ovni's f0b14dc (`.asIs`) not under `CpuOrderSafe`: the list `safeSeq` carries
    is the list of physical ids of the loom in the CPU table (C15). -/
namespace Ovni.Emu.System

/-- `finish` never dereferences anything, so `build` crashes only in `create_system`. -/
theorem create_crash_of_build_crash {m : Mode} {ss : List StreamMeta} (hb : build m ss = .crash) :
    create m (load ss) = .crash :=
  (Res.bind_eq_crash hb).elim id fun ⟨sys, _, h⟩ => absurd h (finish_ne_crash sys)

theorem create_fixed_ne_crash (l : List StreamMeta) : create .fixed l ≠ .crash :=
  fun h => nomatch (create_inv .fixed l).of_crash h

def phyids (cpus : List CpuRow) (n : Str) : List Int :=
  (cpus.filter (fun c => c.loom = n)).map (·.phyid)

theorem ncpus_eq_phyids (cpus : List CpuRow) (n : Str) : ncpus cpus n = (phyids cpus n).length := by
  simp [ncpus, phyids]

theorem mem_phyids {cpus : List CpuRow} {n : Str} {p : Int} :
    p ∈ phyids cpus n ↔ ∃ c ∈ cpus, c.loom = n ∧ c.phyid = p := by
  simp [phyids, and_assoc]

/-- The invariant of the loop of `create_system`: for every loom the entries still to come are in
    a safe order after the physical ids in the table. -/
def Safe (cpus : List CpuRow) (rest : Str → List (Int × Int)) : Prop :=
  ∀ n, safeSeq (phyids cpus n) (rest n) = true

/-- The invariant of the loop of `load_cpus`: the entries still to come are `es`, the rest of the
    array of loom `n` that it is reading, and then `rest n'`, those of the streams to come. -/
def SafeAt (n : Str) (rest : Str → List (Int × Int)) (cpus : List CpuRow) (es : List (Int × Int)) : Prop :=
  Safe cpus fun n' => (if n = n' then es else []) ++ rest n'

theorem safeAt_iff {n : Str} {rest : Str → List (Int × Int)} {cpus : List CpuRow} {es : List (Int × Int)} :
    SafeAt n rest cpus es ↔ ∀ n', safeSeq (phyids cpus n') ((if n = n' then es else []) ++ rest n') = true :=
  Iff.rfl

theorem loadCpuEntry_safe {n : Str} {rest : Str → List (Int × Int)} {cpus : List CpuRow} {e : Int × Int}
    {es : List (Int × Int)} (hs : SafeAt n rest cpus (e :: es)) :
    (loadCpuEntry .asIs n cpus e).Sat (fun cpus' => SafeAt n rest cpus' es) True False := by
  obtain ⟨i, p⟩ := e
  have hs := safeAt_iff.1 hs
  have hn := hs n
  rw [if_pos rfl] at hn
  simp only [List.cons_append, safeSeq] at hn
  have hnew : (∀ c ∈ cpus, ¬ (c.loom = n ∧ c.phyid = p)) → p ∉ phyids cpus n := fun hno h => by
    obtain ⟨c, hc, hk⟩ := mem_phyids.1 h; exact hno c hc hk
  refine (loadCpuEntry_spec .asIs n cpus i p).mono ?_ (fun _ => trivial) ?_
  · rintro cpus' ⟨_, hc⟩
    refine safeAt_iff.2 fun n' => ?_
    by_cases hnn : n = n'
    · subst hnn
      rw [if_pos rfl]
      rcases hc with ⟨rfl, hmem⟩ | ⟨rfl, _, hno⟩
      · rwa [if_pos (mem_phyids.2 ⟨_, hmem, rfl, rfl⟩)] at hn
      · rw [if_neg (hnew hno)] at hn
        simpa [phyids, List.filter_append] using (Bool.and_eq_true _ _ ▸ hn).2
    · -- the table of another loom is not touched
      have hp : phyids cpus' n' = phyids cpus n' := by
        rcases hc with ⟨rfl, _⟩ | ⟨rfl, _⟩
        · rfl
        · simp [phyids, List.filter_append, hnn]
      have := hs n'
      rw [if_neg hnn] at this ⊢
      rwa [hp]
  · rintro ⟨hno, _, hi, hlt⟩
    rw [if_neg (hnew hno)] at hn
    have hlen := (Bool.and_eq_true _ _ ▸ hn).1
    rw [ncpus_eq_phyids] at hlt
    simp only [decide_eq_true_eq] at hlen
    omega

theorem loadCpus_asIs_safe {n : Str} {rest : Str → List (Int × Int)} {cpus : List CpuRow}
    (o : Option (List (Int × Int))) (hs : SafeAt n rest cpus (o.getD [])) :
    (loadCpus .asIs n cpus o).Sat (fun cpus' => Safe cpus' rest) True False := by
  rw [loadCpus_eq_foldl]
  split
  · trivial
  · refine (Res.foldl_safe (P := SafeAt n rest) (fun _ _ _ => loadCpuEntry_safe) _ cpus hs).mono
      (fun _ h n' => ?_) id id
    simpa using h n'

theorem cpuSeq_cons (s : StreamMeta) (r : List StreamMeta) (n : Str) :
    cpuSeq (s :: r) n = (if isThr s ∧ s.tp.loom = some n then s.cpus.getD [] else []) ++ cpuSeq r n := by
  simp [cpuSeq]

/-- Of `step` only `load_cpus` matters: it is the one call that touches the CPU table, and the
    one that can crash. -/
theorem step_safe {sys : Sys} {s : StreamMeta} {r : List StreamMeta}
    (hs : Safe sys.cpus (cpuSeq (s :: r))) :
    (step .asIs sys s).Sat (fun sys' => Safe sys'.cpus (cpuSeq r)) True False := by
  simp only [Safe, cpuSeq_cons] at hs
  by_cases hthr : isThr s
  · cases hloom : s.tp.loom with
    | none => rw [step_noLoom hthr hloom]; trivial
    | some n =>
      rw [step_thread hthr hloom]
      have hs' : SafeAt n (cpuSeq r) sys.cpus (s.cpus.getD []) := by
        intro n'; simpa [hthr, hloom] using hs n'
      refine (loomsStep_spec sys.looms n).bind (fun ls _ => ?_) (fun _ => trivial) False.elim
      refine (loadCpus_asIs_safe s.cpus hs').bind (fun cs hcs => ?_) id id
      refine (createProc_spec sys.procs n s).bind (fun ps _ => ?_) (fun _ => trivial) False.elim
      exact (createThread_spec sys.threads n s).bind (fun ts _ => hcs) (fun _ => trivial) False.elim
  · rw [step_other hthr]
    split
    · trivial
    · intro n; simpa [hthr] using hs n

theorem create_asIs_ne_crash {l : List StreamMeta} (h : ∀ n, safeSeq [] (cpuSeq l n) = true) :
    create .asIs l ≠ .crash := by
  rw [create, createFrom_eq_foldl]
  exact (Res.foldl_safe (P := fun (sys : Sys) l => Safe sys.cpus (cpuSeq l))
    (fun _ _ _ => step_safe) l Sys.empty h).ne_crash

theorem cpuSeq_nil_of_absent (l : List StreamMeta) (n : Str)
    (h : ∀ s ∈ l, s.tp.loom ≠ some n) : cpuSeq l n = [] := by
  unfold cpuSeq
  rw [List.flatMap_eq_nil_iff]
  intro s hs
  simp [h s hs]

/-- `CpuOrderSafe` asks for the looms that some stream names; the others have no entries. -/
theorem CpuOrderSafe.seq {ss : List StreamMeta} (h : CpuOrderSafe ss) (n : Str) :
    safeSeq [] (cpuSeq (load ss) n) = true := by
  by_cases hex : ∃ s ∈ ss, s.tp.loom = some n
  · obtain ⟨s, hs, hl⟩ := hex
    unfold CpuOrderSafe at h
    have := List.all_eq_true.1 h s hs
    simpa [hl] using this
  · rw [cpuSeq_nil_of_absent]
    · rfl
    · exact fun s hs hl => hex ⟨s, (load_perm ss).mem_iff.1 hs, hl⟩

end Ovni.Emu.System
