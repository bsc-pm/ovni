import OvniModel.Lemmas.SystemOrder

/-! `build` does not depend on the names of the stream directories when no rank
    is shared by two processes: then no sort key ties, and the tables of two merges
    need only be permutations of each other (C15). -/
namespace Ovni.Emu.System

def SameUnionModL (l l' : List StreamMeta) : Prop := SameUnionMod l l'

structure TablesPerm (sys sys' : Sys) : Prop where
  looms : sys.looms.Perm sys'.looms
  procs : sys.procs.Perm sys'.procs
  threads : sys.threads.Perm sys'.threads
  cpus : sys.cpus.Perm sys'.cpus

theorem tables_perm {l l' : List StreamMeta} {sys sys' : Sys} (inv : Inv l sys) (inv' : Inv l' sys')
    (hu : SameUnionMod l l') : TablesPerm sys sys' := by
  have ht : sys.threads.Perm sys'.threads := by
    rw [inv.threads, inv'.threads, flatMap_core thrRowOf thrRowOf_core, flatMap_core thrRowOf thrRowOf_core]
    exact hu.1.flatMap_right _
  have hex : ∀ {C : ThreadRow → Prop}, (∃ t ∈ sys.threads, C t) ↔ ∃ t ∈ sys'.threads, C t :=
    ⟨fun ⟨t, h, c⟩ => ⟨t, ht.mem_iff.1 h, c⟩, fun ⟨t, h, c⟩ => ⟨t, ht.mem_iff.2 h, c⟩⟩
  refine ⟨?_, ?_, ht, inv.cpus.perm inv'.cpus hu.2.2.2⟩
  · rw [List.perm_ext_iff_of_nodup inv.loomsNodup inv'.loomsNodup]
    intro n
    rw [inv.mem_looms_threads, inv'.mem_looms_threads, hex]
  · rw [List.perm_ext_iff_of_nodup (nodup_of_nodup_map inv.procs.nodup) (nodup_of_nodup_map inv'.procs.nodup)]
    have half : ∀ {l l' : List StreamMeta} {sys sys' : Sys}, Inv l sys → Inv l' sys' → SameUnionMod l l' →
        (∀ k, k ∈ sys.procs.map pkey → k ∈ sys'.procs.map pkey) → ∀ p, p ∈ sys.procs → p ∈ sys'.procs := by
      intro l l' sys sys' inv inv' hu hk p hp
      obtain ⟨q, hq, hqk⟩ := List.mem_map.1 (hk _ (List.mem_map.2 ⟨p, hp, rfl⟩))
      rw [inv.procs.row_determined inv'.procs hu.2.1 hu.2.2.1 hp hq hqk.symm]; exact hq
    have hk : ∀ k, k ∈ sys.procs.map pkey ↔ k ∈ sys'.procs.map pkey := by
      intro k; rw [inv.mem_pkeys, inv'.mem_pkeys, hex]
    intro p
    exact ⟨half inv inv' hu (fun k => (hk k).1) p, half inv' inv hu.symm (fun k => (hk k).2) p⟩

theorem rankMinOf_perm {ps ps' : List ProcRow} (h : ps.Perm ps') : rankMinOf ps = rankMinOf ps' := by
  -- `rankMinOf_spec` determines the value by the members
  have le : ∀ {a b : List ProcRow}, (∀ p ∈ a, p ∈ b) → rankMinOf b ≤ rankMinOf a := by
    intro a b hab
    rcases (rankMinOf_spec a).2.2 with e | ⟨p, hp, e⟩
    · rw [e]; exact (rankMinOf_spec b).1
    · rw [← e]; exact (rankMinOf_spec b).2.1 p (hab p hp)
  exact Int.le_antisymm (le fun _ => h.mem_iff.2) (le fun _ => h.mem_iff.1)

variable {l : List StreamMeta} {sys sys' : Sys}

/-- Claimed ranks only: -1 ("no rank") is shared by all processes without one, and a loom is
    sorted by rank only when none of its processes is. -/
theorem Inv.rank_inj (inv : Inv l sys) (hr : RanksDistinct l) {p q : ProcRow} (hp : p ∈ sys.procs)
    (hq : q ∈ sys.procs) (h0 : 0 ≤ p.rank) (he : p.rank = q.rank) : p = q := by
  have fact : ∀ {x}, x ∈ sys.procs → 0 ≤ x.rank → (x.loom, x.pid, x.rank, some x.nranks) ∈ rankFacts l :=
    fun hx h0 => (inv.procs.rank_cases hx).resolve_left fun h => by omega
  have := hr _ (fact hp h0) _ (fact hq (he ▸ h0)) he
  exact inv.procs.key_inj hp hq this.1 this.2

theorem mkProc_perm (inv : Inv l sys) (tp : TablesPerm sys sys') (p : ProcRow) :
    mkProc sys.threads p = mkProc sys'.threads p := by
  unfold mkProc
  congr 1
  exact sortBy_int_perm (k := fun t : ThreadRow => t.tid) (tp.threads.filter _)
    (inj_of_pairwise_ne (inv.tid_nodup p.loom p.pid))

theorem mkLoom_perm (inv : Inv l sys) (hr : RanksDistinct l) (tp : TablesPerm sys sys') (n : Str) :
    mkLoom sys n = mkLoom sys' n := by
  have hps : (procsOf sys n).Perm (procsOf sys' n) := tp.procs.filter _
  have e1 : (loomOf sys n).rankEnabled = (loomOf sys' n).rankEnabled := hps.any_eq
  rw [mkLoom_eq, mkLoom_eq, ← e1, ← hps.any_eq (f := fun p => decide (p.rank < 0))]
  split
  · rfl
  rename_i hcond
  have hmin : (loomOf sys n).rankMin = (loomOf sys' n).rankMin := by
    simp only [loomOf, hps.any_eq, rankMinOf_perm hps]
  have hmap : ∀ ps : List ProcRow, ps.map (mkProc sys.threads) = ps.map (mkProc sys'.threads) :=
    fun ps => List.map_congr_left fun p _ => mkProc_perm inv tp p
  have hprocs : (loomOf sys n).procs = (loomOf sys' n).procs := by
    cases he : (loomOf sys n).rankEnabled with
    | true =>
      -- the ranks of an accepted loom with ranks are non-negative, hence distinct
      have hpos := ranks_nonneg_of_mkLoom_ok (by rw [mkLoom_eq, if_neg hcond]) he
      rw [(loomOf_ranked he).2, (loomOf_ranked (e1 ▸ he)).2, hmap]
      exact congrArg _ (sortBy_int_perm (k := fun p : ProcRow => p.rank) hps fun a ha b hb hk =>
        inv.rank_inj hr (mem_procsOf.1 ha).1 (mem_procsOf.1 hb).1 (hpos a ha) hk)
    | false =>
      rw [(loomOf_unranked he).2, (loomOf_unranked (e1 ▸ he)).2, hmap]
      exact congrArg _ (sortBy_int_perm (k := fun p : ProcRow => p.pid) hps
        (inj_of_pairwise_ne (inv.procs.pid_nodup n)))
  show Res.ok (HLoom.mk _ _ _ _ _) = Res.ok (HLoom.mk _ _ _ _ _)
  congr 2
  exact sortedCpus_perm tp.cpus (inv.cpus.phyid_nodup n)

theorem sortLooms_eq_of_perm {ls ls' : List HLoom} (hp : ls.Perm ls')
    (hname : ∀ a ∈ ls, ∀ b ∈ ls, a.name = b.name → a = b)
    (hmin : (∀ l ∈ ls, l.rankEnabled = true) → ∀ a ∈ ls, ∀ b ∈ ls, a.rankMin = b.rankMin → a = b) :
    sortLooms ls = sortLooms ls' := by
  unfold sortLooms
  simp only [← hp.all_eq]
  congr 1
  split
  · exact sortBy_int_perm (k := fun l : HLoom => l.rankMin) hp (hmin (List.all_eq_true.1 ‹_›))
  · exact sortBy_str_perm (k := fun l : HLoom => l.name) hp hname

theorem finish_perm {h : Hier} (inv : Inv l sys) (hr : RanksDistinct l) (tp : TablesPerm sys sys')
    (hf : finish sys = .ok h) : finish sys' = .ok h := by
  have hok := ((finish_spec sys).of_ok hf).2
  have hmk : ∀ n ∈ sys'.looms, mkLoom sys' n = .ok (loomOf sys n) := fun n hn =>
    mkLoom_perm inv hr tp n ▸ (hok n (tp.looms.mem_iff.2 hn)).1
  have hlo : sys'.looms.map (loomOf sys') = sys'.looms.map (loomOf sys) :=
    List.map_congr_left fun n hn => (mkLoom_ok_eq (hmk n hn)).symm
  have huniq : ∀ a ∈ sys.looms.map (loomOf sys), ∀ b ∈ sys.looms.map (loomOf sys), a.name = b.name → a = b := by
    intro a ha b hb hn
    obtain ⟨n, _, rfl⟩ := List.mem_map.1 ha
    obtain ⟨n', _, rfl⟩ := List.mem_map.1 hb
    exact congrArg (loomOf sys) hn
  refine finish_eq_of_sortLooms (fun n hn => (hok n hn).1)
    (fun n hn => mkLoom_ok_eq (hmk n hn) ▸ hmk n hn) ?_ ▸ hf
  rw [hlo]
  refine sortLooms_eq_of_perm (tp.looms.map _) huniq fun hall a ha b hb hrm => ?_
  -- the minimum rank of a loom is the rank of one of its processes, and ranks are distinct
  have wit : ∀ x ∈ sys.looms.map (loomOf sys),
      ∃ p ∈ sys.procs, p.loom = x.name ∧ p.rank = x.rankMin ∧ 0 ≤ p.rank := by
    intro x hx
    have hen := hall x hx
    obtain ⟨n, hn, rfl⟩ := List.mem_map.1 hx
    obtain ⟨_, hpos, hp, hpm, hpr⟩ := (loomOf_ordered inv (hok n hn).1 (hok n hn).2).byRank hen
    obtain ⟨p, pm, pl, rfl⟩ := mem_loomOf_procs.1 hpm
    exact ⟨p, pm, pl, hpr, (hpos _ hpm).1⟩
  obtain ⟨p, pm, pl, pr, p0⟩ := wit a ha
  obtain ⟨q, qm, ql, qr, _⟩ := wit b hb
  cases inv.rank_inj hr pm qm p0 (by rw [pr, qr, hrm])
  exact huniq a ha b hb (by rw [← pl, ← ql])

theorem RanksDistinct.load {ss : List StreamMeta} (h : RanksDistinct ss) : RanksDistinct (load ss) := by
  intro x hx y hy
  exact h x (mem_flatMap_load.1 hx) y (mem_flatMap_load.1 hy)

theorem HierOf.transferMod {l l' : List StreamMeta} {h : Hier} (hu : SameUnionMod l l') (hr : RanksDistinct l)
    (hh : HierOf l h) : HierOf l' h :=
  let ⟨_, inv, hf⟩ := hh
  .of_finish ⟨hh.consistent.1.transferMod hu, hh.consistent.2.mono hu.2.2.2.2⟩ fun _ inv' =>
    finish_perm inv hr (tables_perm inv inv' hu) hf

theorem RanksDistinct.transfer {ss ss' : List StreamMeta} (h : RanksDistinct ss) (hu : SameUnionMod ss ss') :
    RanksDistinct ss' := by
  intro x hx y hy
  exact h x (hu.2.2.1.2 hx) y (hu.2.2.1.2 hy)

theorem okPart_eq_of_sameUnionMod {m m' : Mode} {ss ss' : List StreamMeta} (hu : SameUnionMod ss ss')
    (hr : RanksDistinct ss) (hc : build m ss ≠ .crash) (hc' : build m' ss' ≠ .crash) :
    (build m ss).okPart = (build m' ss').okPart :=
  okPart_eq hc hc' fun _ =>
    ⟨.transferMod hu.load hr.load, .transferMod hu.symm.load (hr.transfer hu).load⟩

end Ovni.Emu.System
