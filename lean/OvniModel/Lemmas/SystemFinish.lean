import OvniModel.Lemmas.SystemSort
import OvniModel.Lemmas.SystemRes

/-! The phases of `system_init` after `create_system`, each with one statement about
    its outcome; none of them can crash (C15). -/
namespace Ovni.Emu.System

/-- The CPUs of loom `n` as `loom_sort` leaves them. -/
def sortedCpus (sys : Sys) (n : Str) : List CpuRow :=
  sortBy (fun a b => leInt a.phyid b.phyid) (sys.cpus.filter (fun c => c.loom = n))

def procsOf (sys : Sys) (n : Str) : List ProcRow := sys.procs.filter (fun p => p.loom = n)

theorem mem_sortedCpus {sys : Sys} {n : Str} {c : CpuRow} :
    c ∈ sortedCpus sys n ↔ c ∈ sys.cpus ∧ c.loom = n := by
  unfold sortedCpus
  rw [mem_sortBy, List.mem_filter]
  simp

theorem sortedCpus_perm {sys sys' : Sys} (hp : sys.cpus.Perm sys'.cpus) {n : Str}
    (hn : (sys.cpus.filter (fun c => c.loom = n)).Pairwise (fun a b => a.phyid ≠ b.phyid)) :
    sortedCpus sys n = sortedCpus sys' n :=
  sortBy_int_perm (k := fun c : CpuRow => c.phyid) (hp.filter _) (inj_of_pairwise_ne hn)

theorem mem_procsOf {sys : Sys} {n : Str} {p : ProcRow} : p ∈ procsOf sys n ↔ p ∈ sys.procs ∧ p.loom = n := by
  unfold procsOf; rw [List.mem_filter]; simp

/-- The loop of `loom_set_rank_min` from any start value `acc`; `r` names its result so that `omega`
    has a variable for it. -/
theorem foldl_min_spec (ps : List ProcRow) : ∀ (acc r : Int),
    r = ps.foldl (fun acc p => if p.rank < acc then p.rank else acc) acc →
    r ≤ acc ∧ (∀ p ∈ ps, r ≤ p.rank) ∧ (r = acc ∨ ∃ p ∈ ps, p.rank = r) := by
  induction ps with
  | nil => intro acc r hr; simp [hr]
  | cons x xs ih =>
    intro acc r hr
    rw [List.foldl_cons] at hr
    by_cases hx : x.rank < acc
    · rw [if_pos hx] at hr
      obtain ⟨h1, h2, h3⟩ := ih x.rank r hr
      refine ⟨by omega, ?_, ?_⟩
      · intro p hp
        rcases List.mem_cons.1 hp with rfl | hp
        · exact h1
        · exact h2 p hp
      · rcases h3 with h3 | ⟨p, hp, h3⟩
        · exact Or.inr ⟨x, List.mem_cons_self, h3.symm⟩
        · exact Or.inr ⟨p, List.mem_cons_of_mem _ hp, h3⟩
    · rw [if_neg hx] at hr
      obtain ⟨h1, h2, h3⟩ := ih acc r hr
      refine ⟨h1, ?_, h3.imp_right fun ⟨p, hp, h3⟩ => ⟨p, List.mem_cons_of_mem _ hp, h3⟩⟩
      intro p hp
      rcases List.mem_cons.1 hp with rfl | hp
      · omega
      · exact h2 p hp

theorem rankMinOf_spec (ps : List ProcRow) :
    rankMinOf ps ≤ intMax ∧ (∀ p ∈ ps, rankMinOf ps ≤ p.rank) ∧
      (rankMinOf ps = intMax ∨ ∃ p ∈ ps, p.rank = rankMinOf ps) :=
  foldl_min_spec ps intMax _ rfl

/-- The loom that `mkLoom` returns when it does not fail. -/
def loomOf (sys : Sys) (n : Str) : HLoom :=
  let enabled := (procsOf sys n).any (fun p => decide (p.rank ≥ 0))
  { name := n, rankEnabled := enabled,
    rankMin := if enabled then rankMinOf (procsOf sys n) else intMax,
    procs := (if enabled then sortBy (fun a b => leInt a.rank b.rank) (procsOf sys n)
              else sortBy (fun a b => leInt a.pid b.pid) (procsOf sys n)).map (mkProc sys.threads),
    cpus := sortedCpus sys n }

theorem mkLoom_eq (sys : Sys) (n : Str) :
    mkLoom sys n =
      if (loomOf sys n).rankEnabled = true ∧ (procsOf sys n).any (fun p => decide (p.rank < 0)) = true
      then .error .rankMissing else .ok (loomOf sys n) := rfl

theorem mkLoom_ok_eq {sys : Sys} {n : Str} {l : HLoom} (h : mkLoom sys n = .ok l) : l = loomOf sys n := by
  rw [mkLoom_eq] at h
  split at h
  · cases h
  · exact (Res.ok.inj h).symm

theorem ranks_nonneg_of_mkLoom_ok {sys : Sys} {n : Str} (h : mkLoom sys n = .ok (loomOf sys n))
    (he : (loomOf sys n).rankEnabled = true) : ∀ p ∈ procsOf sys n, 0 ≤ p.rank := by
  intro p hp
  rw [mkLoom_eq] at h
  split at h
  · cases h
  · rename_i hno
    exact Decidable.byContradiction fun hneg =>
      hno ⟨he, List.any_eq_true.2 ⟨p, hp, decide_eq_true (by omega)⟩⟩

theorem loomOf_ranked {sys : Sys} {n : Str} (he : (loomOf sys n).rankEnabled = true) :
    (loomOf sys n).rankMin = rankMinOf (procsOf sys n) ∧
    (loomOf sys n).procs =
      (sortBy (fun a b => leInt a.rank b.rank) (procsOf sys n)).map (mkProc sys.threads) := by
  simp only [loomOf] at he ⊢
  simp only [he, if_true, and_self]

theorem loomOf_unranked {sys : Sys} {n : Str} (he : (loomOf sys n).rankEnabled = false) :
    (∀ p ∈ procsOf sys n, p.rank < 0) ∧
    (loomOf sys n).procs =
      (sortBy (fun a b => leInt a.pid b.pid) (procsOf sys n)).map (mkProc sys.threads) := by
  simp only [loomOf] at he ⊢
  refine ⟨fun p hp => Decidable.byContradiction fun hneg => ?_, by simp only [he, Bool.false_eq_true, if_false]⟩
  rw [List.any_eq_true.2 ⟨p, hp, decide_eq_true (by omega)⟩] at he
  cases he

theorem mem_loomOf_procs {sys : Sys} {n : Str} {hp : HProc} :
    hp ∈ (loomOf sys n).procs ↔ ∃ p ∈ sys.procs, p.loom = n ∧ hp = mkProc sys.threads p := by
  have : ∀ ps : List ProcRow, (∀ p, p ∈ ps ↔ p ∈ procsOf sys n) →
      (hp ∈ ps.map (mkProc sys.threads) ↔ ∃ p ∈ sys.procs, p.loom = n ∧ hp = mkProc sys.threads p) := by
    intro ps hps
    simp only [List.mem_map, hps, mem_procsOf, and_assoc, eq_comm]
  simp only [loomOf]
  split <;> exact this _ fun p => mem_sortBy

/-- `set_sort_criteria` in closed form: it fails only on a loom with and without ranks. -/
theorem mkLooms_eq (sys : Sys) (names : List Str) :
    mkLooms sys names =
      if ∀ n ∈ names, mkLoom sys n = .ok (loomOf sys n) then .ok (names.map (loomOf sys))
      else .error .rankMissing := by
  induction names with
  | nil => rfl
  | cons n r ih =>
    rw [mkLooms, ih]
    simp only [List.forall_mem_cons]
    have hn := mkLoom_eq sys n
    split at hn
    · simp only [hn, reduceCtorEq, false_and, if_false]
    · simp only [hn, true_and]
      split <;> rfl

theorem fillArray_spec (n : Nat) (cs : List CpuRow) : ∀ taken,
    (fillArray n taken cs).Sat
      (fun _ => (∀ c ∈ cs, 0 ≤ c.index ∧ c.index < (n : Int) ∧ c.index ∉ taken) ∧ (cs.map (·.index)).Nodup)
      True False := by
  induction cs with
  | nil => intro taken; exact ⟨fun _ h => (nomatch h), List.nodup_nil⟩
  | cons c cs ih =>
    intro taken
    simp only [fillArray]
    split
    · trivial
    split
    · trivial
    rename_i h1 h2
    refine (ih (c.index :: taken)).mono (fun _ ⟨i1, i2⟩ => ⟨?_, ?_⟩) id id
    · intro x hx
      rcases List.mem_cons.1 hx with rfl | hx
      · exact ⟨by omega, by omega, h2⟩
      · exact ⟨(i1 x hx).1, (i1 x hx).2.1, fun hm => (i1 x hx).2.2 (List.mem_cons_of_mem _ hm)⟩
    · rw [List.map_cons, List.nodup_cons]
      refine ⟨fun hm => ?_, i2⟩
      obtain ⟨x, hx, hxe⟩ := List.mem_map.1 hm
      exact (i1 x hx).2.2 (by rw [hxe]; exact List.mem_cons_self)

/-- What `proc_init_end` and `loom_init_end` insist on. -/
structure LoomEnded (l : HLoom) : Prop where
  appid : ∀ p ∈ l.procs, 0 < p.appid
  rankMin : l.rankEnabled = true → l.rankMin ≠ intMax
  cpus : l.cpus ≠ []
  index : ∀ c ∈ l.cpus, 0 ≤ c.index ∧ c.index < (l.cpus.length : Int)
  indexNodup : (l.cpus.map (·.index)).Nodup

theorem initEndLoom_spec (l : HLoom) : (initEndLoom l).Sat (fun _ => LoomEnded l) True False := by
  unfold initEndLoom
  split
  · trivial
  split
  · trivial
  split
  · trivial
  rename_i h1 h2 h3
  refine (fillArray_spec _ _ []).mono (fun _ ⟨f1, f2⟩ => ?_) id id
  refine ⟨fun p hp => Decidable.byContradiction fun hle => h1 ?_, fun he hm => h2 ⟨he, hm⟩,
    fun he => h3 (by rw [he]; rfl), fun c hc => ⟨(f1 c hc).1, (f1 c hc).2.1⟩, f2⟩
  exact List.any_eq_true.2 ⟨p, hp, decide_eq_true (by omega)⟩

theorem initEnd_spec (ls : List HLoom) : (initEnd ls).Sat (fun _ => ∀ l ∈ ls, LoomEnded l) True False := by
  induction ls with
  | nil => exact fun _ h => nomatch h
  | cons x xs ih =>
    have : initEnd (x :: xs) = (initEndLoom x).bind fun _ => initEnd xs := by
      rw [initEnd]; cases initEndLoom x <;> rfl
    rw [this]
    exact (initEndLoom_spec x).bind (fun _ hx => ih.mono (fun _ h => List.forall_mem_cons.2 ⟨hx, h⟩) id id) id id

theorem reportVersion_spec (ts : List (HProc × ThreadRow)) :
    (reportVersion ts).Sat (fun _ => ∀ x ∈ ts, x.2.hasVersion = true ∧ x.2.hasCommit = true) True False := by
  induction ts with
  | nil => exact fun _ h => nomatch h
  | cons y ys ih =>
    obtain ⟨p, t⟩ := y
    simp only [reportVersion]
    split
    · trivial
    split
    · trivial
    rename_i h1 h2
    refine ih.mono (fun _ h x hx => ?_) id id
    rcases List.mem_cons.1 hx with rfl | hx
    · exact ⟨Decidable.not_not.1 h1, Decidable.not_not.1 h2⟩
    · exact h x hx

theorem reportVersion_ok (ts : List (HProc × ThreadRow)) :
    reportVersion ts = .ok () → ∀ x ∈ ts, x.2.hasVersion = true ∧ x.2.hasCommit = true :=
  (reportVersion_spec ts).of_ok

theorem sortLooms_perm (ls : List HLoom) : (sortLooms ls).2.Perm ls := by
  unfold sortLooms
  simp only
  split <;> exact sortBy_perm _ _

/-- The hierarchy that `finish` returns when it does not fail. -/
def hierOf (sys : Sys) : Hier :=
  ⟨(sortLooms (sys.looms.map (loomOf sys))).1, (sortLooms (sys.looms.map (loomOf sys))).2⟩

theorem mem_hierOf_looms {sys : Sys} {l : HLoom} :
    l ∈ (hierOf sys).looms ↔ ∃ n ∈ sys.looms, loomOf sys n = l := by
  rw [← List.mem_map]
  exact (sortLooms_perm _).mem_iff

theorem finish_spec (sys : Sys) :
    (finish sys).Sat
      (fun h => h = hierOf sys ∧
        ∀ n ∈ sys.looms, mkLoom sys n = .ok (loomOf sys n) ∧ LoomEnded (loomOf sys n))
      True False := by
  unfold finish
  rw [mkLooms_eq]
  split
  · rename_i hmk
    refine (initEnd_spec _).bind (fun _ hie => ?_) id id
    refine (reportVersion_spec _).bind (fun _ _ => ?_) id id
    exact ⟨rfl, fun n hn => ⟨hmk n hn, hie _ (mem_hierOf_looms.2 ⟨n, hn, rfl⟩)⟩⟩
  · trivial

/-- `finish` looks at the CPU table only through the sorted CPUs of each loom. -/
theorem finish_congr {sys sys' : Sys} (h0 : sys.looms = sys'.looms) (h1 : sys.procs = sys'.procs)
    (h2 : sys.threads = sys'.threads) (h3 : ∀ n, sortedCpus sys n = sortedCpus sys' n) :
    finish sys = finish sys' := by
  have hl : loomOf sys = loomOf sys' := funext fun n => by
    unfold loomOf procsOf
    rw [h1, h2, h3 n]
  have hm : mkLoom sys = mkLoom sys' := funext fun n => by
    rw [mkLoom_eq, mkLoom_eq, hl, procsOf, procsOf, h1]
  unfold finish
  rw [mkLooms_eq, mkLooms_eq, h0, hm, hl]

/-- `finish` sees tables that `set_sort_criteria` accepts only through their sorted looms. -/
theorem finish_eq_of_sortLooms {sys sys' : Sys} (hmk : ∀ n ∈ sys.looms, mkLoom sys n = .ok (loomOf sys n))
    (hmk' : ∀ n ∈ sys'.looms, mkLoom sys' n = .ok (loomOf sys' n))
    (hs : sortLooms (sys.looms.map (loomOf sys)) = sortLooms (sys'.looms.map (loomOf sys'))) :
    finish sys = finish sys' := by
  unfold finish
  rw [mkLooms_eq, mkLooms_eq, if_pos hmk, if_pos hmk']
  simp only [Res.bind, hs]

theorem finish_ne_crash (sys : Sys) : finish sys ≠ .crash := (finish_spec sys).ne_crash

end Ovni.Emu.System
