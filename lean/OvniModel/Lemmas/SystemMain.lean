import OvniModel.Lemmas.SystemUnion

/-! `HierOf`, the hierarchy of a union of metadata stated without mode or crash, which is
    what a successful `build` returns (`build_ok_iff`) (C15). -/
namespace Ovni.Emu.System

/-- `h` is the hierarchy of the streams `l` (in load order): some tables hold exactly their
    union (`Inv`) and `finish` makes `h` of them. -/
def HierOf (l : List StreamMeta) (h : Hier) : Prop := ∃ sys, Inv l sys ∧ finish sys = .ok h

variable {l l' : List StreamMeta} {h : Hier}

/-- A consistent union has tables: those that ovni's code (`.fixed`) builds. -/
theorem Inv.exists_of_consistent (hk : CreateOK l ∧ IndexOK (cpuFacts l)) : ∃ sys, Inv l sys :=
  let ⟨sys, _, inv⟩ := (create_inv .fixed l).exists_ok (· hk) nofun; ⟨sys, inv⟩

theorem finish_ok_IndexOK {sys : Sys} (inv : Inv l sys) (hf : finish sys = .ok h) : IndexOK (cpuFacts l) := by
  intro n i p p' h1 h2
  have m1 := inv.cpus.complete n i p h1
  have m2 := inv.cpus.complete n i p' h2
  have hnd := (((finish_spec sys).of_ok hf).2 n (inv.cpuLoom m1)).2.indexNodup
  have := eq_of_nodup_map hnd (mem_sortedCpus.2 ⟨m1, rfl⟩) (mem_sortedCpus.2 ⟨m2, rfl⟩) rfl
  injection this

theorem HierOf.consistent (hh : HierOf l h) : CreateOK l ∧ IndexOK (cpuFacts l) :=
  let ⟨_, inv, hf⟩ := hh; ⟨inv.createOK, finish_ok_IndexOK inv hf⟩

theorem HierOf.of_finish (hk : CreateOK l ∧ IndexOK (cpuFacts l))
    (hf : ∀ sys, Inv l sys → finish sys = .ok h) : HierOf l h :=
  let ⟨sys, inv⟩ := Inv.exists_of_consistent hk; ⟨sys, inv, hf sys inv⟩

theorem build_ok_iff {m : Mode} {ss : List StreamMeta} :
    build m ss = .ok h ↔ build m ss ≠ .crash ∧ HierOf (load ss) h := by
  constructor
  · intro hb
    obtain ⟨sys, hc, hf⟩ := Res.bind_eq_ok.1 hb
    exact ⟨by rw [hb]; nofun, sys, create_ok hc, hf⟩
  · intro ⟨hc, hh⟩
    have hk := hh.consistent
    obtain ⟨sys, inv, hf⟩ := hh
    unfold build at hc ⊢
    cases hcr : create m (load ss) with
    | crash => rw [hcr] at hc; exact absurd rfl hc
    | error e => exact absurd hk (create_error hcr)
    | ok sys' => exact (finish_eq_of_sameUnion (create_ok hcr) inv .rfl).trans hf

theorem HierOf.transfer (hu : SameUnionL l l') (hh : HierOf l h) : HierOf l' h :=
  let ⟨_, inv, hf⟩ := hh
  .of_finish ⟨hh.consistent.1.transfer hu, hh.consistent.2.transfer hu⟩ fun _ inv' =>
    finish_eq_of_sameUnion inv inv' hu ▸ hf

theorem okPart_eq {m m' : Mode} {ss ss' : List StreamMeta} (hc : build m ss ≠ .crash)
    (hc' : build m' ss' ≠ .crash) (hiff : ∀ h, HierOf (load ss) h ↔ HierOf (load ss') h) :
    (build m ss).okPart = (build m' ss').okPart :=
  Option.ext fun h => by
    rw [Res.okPart_eq_some, Res.okPart_eq_some, build_ok_iff, build_ok_iff, hiff h]
    exact and_congr_left fun _ => ⟨fun _ => hc', fun _ => hc⟩

theorem okPart_eq_of_sameUnion {m m' : Mode} {ss ss' : List StreamMeta} (hd : RelpathsDistinct ss)
    (hd' : RelpathsDistinct ss') (hu : SameUnion ss ss') (hc : build m ss ≠ .crash)
    (hc' : build m' ss' ≠ .crash) : (build m ss).okPart = (build m' ss').okPart :=
  okPart_eq hc hc' fun _ => ⟨.transfer (hu.load hd), .transfer (hu.symm.load hd')⟩

end Ovni.Emu.System
