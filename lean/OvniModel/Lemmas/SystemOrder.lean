import OvniModel.Lemmas.SystemMain

/-! The hierarchy of a successful `build` is ordered, level by level: the sorts are strict
    because the invariant of `create_system` makes pids, tids, physical ids and loom names
    distinct (C15). -/
namespace Ovni.Emu.System

variable {l : List StreamMeta} {sys : Sys}

theorem sortLooms_ordered {ls : List HLoom} (hn : (ls.map (·.name)).Nodup) (hl : ∀ l ∈ ls, LoomOrdered l) :
    Ordered ⟨(sortLooms ls).1, (sortLooms ls).2⟩ := by
  have hp := sortLooms_perm ls
  refine ⟨?_, fun he => ?_, fun he => ?_, fun l hm => hl l (hp.mem_iff.1 hm)⟩
  · show ls.all (fun l => l.rankEnabled) = true ↔ _
    rw [List.all_eq_true]
    exact ⟨fun h l hm => h l (hp.mem_iff.1 hm), fun h l hm => h l (hp.mem_iff.2 hm)⟩
  · rw [show (sortLooms ls).2 = _ from if_pos he]
    exact sortBy_le (·.rankMin) ls
  · rw [show (sortLooms ls).2 = _ from if_neg (Bool.eq_false_iff.1 he)] at hp ⊢
    have h1 := sortBy_sorted (fun (a b : HLoom) => leStr a.name b.name)
      (fun a b => leStr_total a.name b.name) (fun a b c => leStr_trans a.name b.name c.name) ls
    exact (h1.and (List.pairwise_map.1 ((hp.map _).nodup_iff.2 hn))).imp fun ⟨a, b⟩ => cmpStr_lt_of_le_ne a b

theorem loomOf_ordered (inv : Inv l sys) {n : Str} (hmk : mkLoom sys n = .ok (loomOf sys n))
    (hend : LoomEnded (loomOf sys n)) : LoomOrdered (loomOf sys n) := by
  have procs : ∀ {C : HProc → Prop}, (∀ p ∈ procsOf sys n, C (mkProc sys.threads p)) →
      ∀ hp ∈ (loomOf sys n).procs, C hp := by
    intro C hC hp hm
    obtain ⟨p, pm, pl, rfl⟩ := mem_loomOf_procs.1 hm
    exact hC p (mem_procsOf.2 ⟨pm, pl⟩)
  refine ⟨fun he => ?_, fun he => ?_, procs fun p _ => ?_,
    sortBy_strict (fun (c : CpuRow) => c.phyid) _ (inv.cpus.phyid_nodup n)⟩
  · obtain ⟨b2, b3⟩ := loomOf_ranked he
    obtain ⟨_, r1, r2⟩ := rankMinOf_spec (procsOf sys n)
    refine ⟨?_, procs fun p pm => ⟨ranks_nonneg_of_mkLoom_ok hmk he p pm, by rw [b2]; exact r1 p pm⟩, ?_⟩
    · rw [b3]
      exact List.pairwise_map.2 (sortBy_le (fun (p : ProcRow) => p.rank) _)
    · -- `loom_init_end` refused a `rank_min` left at `INT_MAX`, so a process attains it
      rcases r2 with r2 | ⟨p, pm, r2⟩
      · exact absurd (by rw [b2, r2]) (hend.rankMin he)
      · have pm' := mem_procsOf.1 pm
        exact ⟨mkProc sys.threads p, mem_loomOf_procs.2 ⟨p, pm'.1, pm'.2, rfl⟩, by rw [b2]; exact r2⟩
  · obtain ⟨b1, b3⟩ := loomOf_unranked he
    refine ⟨?_, procs b1⟩
    rw [b3]
    exact List.pairwise_map.2 (sortBy_strict (fun (p : ProcRow) => p.pid) _ (inv.procs.pid_nodup n))
  · exact sortBy_strict (fun (t : ThreadRow) => t.tid) _ (inv.tid_nodup p.loom p.pid)

theorem HierOf.ordered {l0 : List StreamMeta} {h : Hier} (hh : HierOf l0 h) : Ordered h := by
  obtain ⟨sys, inv, hf⟩ := hh
  obtain ⟨rfl, hok⟩ := (finish_spec sys).of_ok hf
  refine sortLooms_ordered ?_ fun l hl => ?_
  · rw [List.map_map, List.map_id'' (f := (·.name) ∘ loomOf sys) fun _ => rfl]
    exact inv.loomsNodup
  · obtain ⟨n, hn, rfl⟩ := List.mem_map.1 hl
    exact loomOf_ordered inv (hok n hn).1 (hok n hn).2

end Ovni.Emu.System
