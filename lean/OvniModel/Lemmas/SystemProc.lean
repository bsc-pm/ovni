import OvniModel.Emu.SystemSpec
import OvniModel.Lemmas.SystemRes
import OvniModel.Lemmas.ListLemmas

/-! `create_proc` keeps the process table equal to the app-id and rank facts merged so
    far, one row per (loom, pid), and fails only when these facts contradict each other (C15). -/
namespace Ovni.Emu.System

abbrev AFact := Str × Int × Int
abbrev RFact := Str × Int × Int × Option Int

def pkey (p : ProcRow) : Str × Int := (p.loom, p.pid)

/-- `sound*`: a value in a row is the unset one (app id 0; rank -1 with rank count 0) or comes from a fact;
    `complete*`: every fact is in its row. -/
structure ProcInv (A : List AFact) (R : List RFact) (procs : List ProcRow) : Prop where
  nodup : (procs.map pkey).Nodup
  soundApp : ∀ p ∈ procs, p.appid = 0 ∨ ((p.loom, p.pid, p.appid) ∈ A ∧ 0 < p.appid)
  soundRank : ∀ p ∈ procs, (p.rank = -1 ∧ p.nranks = 0) ∨
    ((p.loom, p.pid, p.rank, some p.nranks) ∈ R ∧ 0 ≤ p.rank ∧ p.rank < p.nranks)
  completeApp : ∀ n pid a, (n, pid, a) ∈ A → 0 < a ∧ ∃ p ∈ procs, p.loom = n ∧ p.pid = pid ∧ p.appid = a
  completeRank : ∀ n pid r k, (n, pid, r, k) ∈ R →
    ∃ p ∈ procs, p.loom = n ∧ p.pid = pid ∧ p.rank = r ∧ k = some p.nranks ∧ 0 ≤ r ∧ r < p.nranks

theorem ProcInv.nil : ProcInv [] [] [] :=
  ⟨List.nodup_nil, fun _ h => (nomatch h), fun _ h => (nomatch h), fun _ _ _ h => (nomatch h),
    fun _ _ _ _ h => (nomatch h)⟩

theorem AppOK.mono {F G : List AFact} (h : AppOK G) (hs : F ⊆ G) : AppOK F :=
  ⟨fun n pid a hm => h.1 n pid a (hs hm), fun n pid a b h1 h2 => h.2 n pid a b (hs h1) (hs h2)⟩

theorem RankOK.mono {F G : List RFact} (h : RankOK G) (hs : F ⊆ G) : RankOK F :=
  ⟨fun n pid r k hm => h.1 n pid r k (hs hm),
   fun n pid r k r' k' h1 h2 => h.2 n pid r k r' k' (hs h1) (hs h2)⟩

/-- `load_appid` of `x` fails on `p`: the value is out of range, or `p` holds another. -/
def AppRefused (p : ProcRow) (x : Option Int) : Prop :=
  ∃ a, x = some a ∧ (a ≤ 0 ∨ (p.appid ≠ 0 ∧ p.appid ≠ a))

/-- `load_rank` of `x`, `k` fails on `p`: a value is out of range or missing, or `p` holds another. -/
def RankRefused (p : ProcRow) (x k : Option Int) : Prop :=
  ∃ r, x = some r ∧ (r < 0 ∨ (0 ≤ p.rank ∧ p.rank ≠ r) ∨
    ∀ nr, k = some nr → nr ≤ 0 ∨ (0 < p.nranks ∧ p.nranks ≠ nr) ∨ nr ≤ r)

theorem loadAppid_spec (p : ProcRow) (x : Option Int) :
    (loadAppid p x).Sat
      (fun p' => (x = none ∧ p' = p) ∨
        ∃ a, x = some a ∧ p' = { p with appid := a } ∧ 0 < a ∧ (p.appid = 0 ∨ p.appid = a))
      (AppRefused p x) False := by
  cases x with
  | none => exact Or.inl ⟨rfl, rfl⟩
  | some a =>
    simp only [loadAppid]
    split
    · exact ⟨a, rfl, Or.inr ‹_›⟩
    split
    · exact ⟨a, rfl, Or.inl ‹_›⟩
    · exact Or.inr ⟨a, rfl, rfl, by omega, by omega⟩

theorem loadRank_spec (p : ProcRow) (x k : Option Int) :
    (loadRank p x k).Sat
      (fun p' => (x = none ∧ p' = p) ∨
        ∃ r nr, x = some r ∧ k = some nr ∧ p' = { p with rank := r, nranks := nr } ∧ 0 ≤ r ∧ r < nr ∧
          (p.rank < 0 ∨ p.rank = r) ∧ (p.nranks ≤ 0 ∨ p.nranks = nr))
      (RankRefused p x k) False := by
  cases x with
  | none => exact Or.inl ⟨rfl, rfl⟩
  | some r =>
    simp only [loadRank]
    by_cases h1 : r < 0
    · rw [if_pos h1]; exact ⟨r, rfl, Or.inl h1⟩
    by_cases h2 : p.rank ≥ 0 ∧ p.rank ≠ r
    · rw [if_neg h1, if_pos h2]; exact ⟨r, rfl, Or.inr (Or.inl h2)⟩
    rw [if_neg h1, if_neg h2]
    cases k with
    | none => exact ⟨r, rfl, Or.inr (Or.inr fun _ h => nomatch h)⟩
    | some nr =>
      simp only
      by_cases h3 : nr ≤ 0
      · rw [if_pos h3]; exact ⟨r, rfl, Or.inr (Or.inr fun _ hk => Option.some.inj hk ▸ Or.inl h3)⟩
      by_cases h4 : p.nranks > 0 ∧ p.nranks ≠ nr
      · rw [if_neg h3, if_pos h4]; exact ⟨r, rfl, Or.inr (Or.inr fun _ hk => Option.some.inj hk ▸ Or.inr (Or.inl h4))⟩
      by_cases h5 : r ≥ nr
      · rw [if_neg h3, if_neg h4, if_pos h5]; exact ⟨r, rfl, Or.inr (Or.inr fun _ hk => Option.some.inj hk ▸ Or.inr (Or.inr h5))⟩
      rw [if_neg h3, if_neg h4, if_neg h5]
      exact Or.inr ⟨r, nr, rfl, rfl, rfl, by omega, by omega, by omega, by omega⟩

/-- `p'` is `p` after `proc_load_metadata` of stream `s`: the same process; app id and rank are
    each kept where `s` has none, or written by `s` where `p` had none or the same. -/
structure Merged (p : ProcRow) (s : StreamMeta) (p' : ProcRow) : Prop where
  loom : p'.loom = p.loom
  pid : p'.pid = p.pid
  app : (s.appId = none ∧ p'.appid = p.appid) ∨
    (s.appId = some p'.appid ∧ 0 < p'.appid ∧ (p.appid = 0 ∨ p.appid = p'.appid))
  rank : (s.rank = none ∧ p'.rank = p.rank ∧ p'.nranks = p.nranks) ∨
    (s.rank = some p'.rank ∧ s.nranks = some p'.nranks ∧ 0 ≤ p'.rank ∧ p'.rank < p'.nranks ∧
      (p.rank < 0 ∨ p.rank = p'.rank) ∧ (p.nranks ≤ 0 ∨ p.nranks = p'.nranks))

/-- `proc_load_metadata` of stream `s` fails on `p`. -/
def Refused (p : ProcRow) (s : StreamMeta) : Prop :=
  AppRefused p s.appId ∨ RankRefused p s.rank s.nranks

theorem loadProc_spec (p : ProcRow) (s : StreamMeta) :
    (loadProc p s).Sat (Merged p s) (Refused p s) False := by
  refine (loadAppid_spec p s.appId).bind (fun p1 h1 => ?_) Or.inl id
  rcases h1 with ⟨hx, rfl⟩ | ⟨a, hx, rfl, ha⟩ <;>
    refine (loadRank_spec _ s.rank s.nranks).mono (fun p' h2 => ?_) Or.inr id <;>
    rcases h2 with ⟨hy, rfl⟩ | ⟨r, nr, hy, hk, rfl, hr⟩
  · exact ⟨rfl, rfl, Or.inl ⟨hx, rfl⟩, Or.inl ⟨hy, rfl, rfl⟩⟩
  · exact ⟨rfl, rfl, Or.inl ⟨hx, rfl⟩, Or.inr ⟨hy, hk, hr⟩⟩
  · exact ⟨rfl, rfl, Or.inr ⟨hx, ha⟩, Or.inl ⟨hy, rfl, rfl⟩⟩
  · exact ⟨rfl, rfl, Or.inr ⟨hx, ha⟩, Or.inr ⟨hy, hk, hr⟩⟩

theorem findProc_spec (procs : List ProcRow) (n : Str) (pid : Int) :
    match findProc procs n pid with
    | some p => p ∈ procs ∧ p.loom = n ∧ p.pid = pid
    | none => ∀ p ∈ procs, ¬ (p.loom = n ∧ p.pid = pid) := by
  have := find?_spec (isProc n pid) procs
  unfold findProc
  split at this <;> rename_i h <;> simp only [h] <;> exact this

theorem setProc_map_pkey {procs : List ProcRow} {n : Str} {pid : Int} {q : ProcRow}
    (hq : q.loom = n ∧ q.pid = pid) : (setProc procs n pid q).map pkey = procs.map pkey := by
  unfold setProc
  rw [List.map_map]
  apply List.map_congr_left
  intro p _
  simp only [Function.comp]
  split
  · rename_i h
    simp only [isProc] at h
    simp [pkey, hq.1, hq.2, h.1, h.2]
  · rfl

theorem mem_setProc {procs : List ProcRow} {n : Str} {pid : Int} {q x : ProcRow} :
    x ∈ setProc procs n pid q ↔
      (x ∈ procs ∧ ¬ (x.loom = n ∧ x.pid = pid)) ∨ (x = q ∧ ∃ p ∈ procs, p.loom = n ∧ p.pid = pid) := by
  unfold setProc
  simp only [List.mem_map]
  constructor
  · rintro ⟨p, hp, rfl⟩
    split
    · rename_i h
      exact Or.inr ⟨rfl, p, hp, h⟩
    · rename_i h
      exact Or.inl ⟨hp, h⟩
  · rintro (⟨hx, hn⟩ | ⟨rfl, p, hp, hk⟩)
    · exact ⟨x, hx, by simp [isProc, hn]⟩
    · exact ⟨p, hp, by simp [isProc, hk]⟩

theorem ProcInv.key_inj {A : List AFact} {R : List RFact} {procs : List ProcRow}
    (inv : ProcInv A R procs) {p q : ProcRow} (hp : p ∈ procs) (hq : q ∈ procs)
    (h1 : p.loom = q.loom) (h2 : p.pid = q.pid) : p = q :=
  eq_of_nodup_map inv.nodup hp hq (by simp [pkey, h1, h2])

theorem ProcInv.app_eq {A : List AFact} {R : List RFact} {procs : List ProcRow} (inv : ProcInv A R procs)
    {p : ProcRow} {a : Int} (hp : p ∈ procs) (h : (p.loom, p.pid, a) ∈ A) : a = p.appid ∧ 0 < a := by
  obtain ⟨hpos, q, hq, q1, q2, q3⟩ := inv.completeApp _ _ _ h
  cases inv.key_inj hq hp q1 q2
  exact ⟨q3.symm, hpos⟩

theorem ProcInv.rank_eq {A : List AFact} {R : List RFact} {procs : List ProcRow} (inv : ProcInv A R procs)
    {p : ProcRow} {r : Int} {k : Option Int} (hp : p ∈ procs) (h : (p.loom, p.pid, r, k) ∈ R) :
    r = p.rank ∧ k = some p.nranks ∧ 0 ≤ r ∧ r < p.nranks := by
  obtain ⟨q, hq, q1, q2, q3, q4⟩ := inv.completeRank _ _ _ _ h
  cases inv.key_inj hq hp q1 q2
  exact ⟨q3.symm, q4⟩

theorem ProcInv.appid_cases {A : List AFact} {R : List RFact} {procs : List ProcRow} (inv : ProcInv A R procs)
    {p : ProcRow} (hp : p ∈ procs) :
    (p.appid = 0 ∧ ∀ a, (p.loom, p.pid, a) ∉ A) ∨ (p.loom, p.pid, p.appid) ∈ A := by
  rcases inv.soundApp p hp with h0 | ⟨hf, _⟩
  · refine .inl ⟨h0, fun a ha => ?_⟩
    have := inv.app_eq hp ha
    omega
  · exact .inr hf

theorem ProcInv.rank_cases {A : List AFact} {R : List RFact} {procs : List ProcRow} (inv : ProcInv A R procs)
    {p : ProcRow} (hp : p ∈ procs) :
    (p.rank = -1 ∧ p.nranks = 0 ∧ ∀ r k, (p.loom, p.pid, r, k) ∉ R) ∨
    (p.loom, p.pid, p.rank, some p.nranks) ∈ R := by
  rcases inv.soundRank p hp with ⟨h1, h2⟩ | ⟨hf, _⟩
  · refine .inl ⟨h1, h2, fun r k hf => ?_⟩
    have := inv.rank_eq hp hf
    omega
  · exact .inr hf

theorem ProcInv.row_determined {A A' : List AFact} {R R' : List RFact} {procs procs' : List ProcRow}
    (inv : ProcInv A R procs) (inv' : ProcInv A' R' procs') (hA : SameSet A A') (hR : SameSet R R')
    {p q : ProcRow} (hp : p ∈ procs) (hq : q ∈ procs') (hk : pkey p = pkey q) : p = q := by
  have ha := inv.appid_cases hp
  have hr := inv.rank_cases hp
  obtain ⟨n, pid, a, r, k⟩ := p
  obtain ⟨n', pid', a', r', k'⟩ := q
  cases hk
  have ea : a = a' := by
    rcases ha with ⟨h0, hno⟩ | hf
    · rcases inv'.appid_cases hq with ⟨h0', _⟩ | hf'
      · exact h0.trans h0'.symm
      · exact absurd (hA.2 hf') (hno _)
    · exact (inv'.app_eq hq (hA.1 hf)).1
  have er : r = r' ∧ some k = some k' := by
    rcases hr with ⟨h1, h2, hno⟩ | hf
    · rcases inv'.rank_cases hq with ⟨h1', h2', _⟩ | hf'
      · exact ⟨h1.trans h1'.symm, congrArg some (h2.trans h2'.symm)⟩
      · exact absurd (hR.2 hf') (hno _ _)
    · obtain ⟨e1, e2, _⟩ := inv'.rank_eq hq (hR.1 hf)
      exact ⟨e1, e2⟩
  rw [ea, er.1, Option.some.inj er.2]

theorem ProcInv.factsOK {A : List AFact} {R : List RFact} {procs : List ProcRow} (inv : ProcInv A R procs) :
    AppOK A ∧ RankOK R := by
  refine ⟨⟨fun n pid a hm => (inv.completeApp n pid a hm).1, fun n pid a b h1 h2 => ?_⟩,
    fun n pid r k hm => ?_, fun n pid r k r' k' h1 h2 => ?_⟩
  · obtain ⟨_, p, hp, rfl, rfl, rfl⟩ := inv.completeApp n pid a h1
    exact (inv.app_eq hp h2).1.symm
  · obtain ⟨p, _, _, _, _, p4, p5, p6⟩ := inv.completeRank n pid r k hm
    exact ⟨p.nranks, p4, p5, p6⟩
  · obtain ⟨p, hp, rfl, rfl, rfl, rfl, _⟩ := inv.completeRank n pid r k h1
    obtain ⟨e1, e2, _⟩ := inv.rank_eq hp h2
    exact ⟨e1.symm, e2.symm⟩

theorem ProcInv.pid_nodup {A : List AFact} {R : List RFact} {procs : List ProcRow} (inv : ProcInv A R procs)
    (n : Str) : (procs.filter (fun p => p.loom = n)).Pairwise (fun a b => a.pid ≠ b.pid) :=
  pairwise_filter_imp (List.pairwise_map.1 inv.nodup) fun a b ha hb hne heq =>
    hne (by simp [pkey, ha, hb, heq])

def appF (n : Str) (pid : Int) : Option Int → List AFact
  | none => []
  | some a => [(n, pid, a)]

def rankF (n : Str) (pid : Int) (x k : Option Int) : List RFact :=
  match x with
  | none => []
  | some r => [(n, pid, r, k)]

theorem mem_appF {n n' : Str} {pid pid' a : Int} {x : Option Int} :
    (n', pid', a) ∈ appF n pid x ↔ n' = n ∧ pid' = pid ∧ x = some a := by
  cases x <;> simp [appF, eq_comm]

theorem mem_rankF {n n' : Str} {pid pid' r : Int} {x k k' : Option Int} :
    (n', pid', r, k') ∈ rankF n pid x k ↔ n' = n ∧ pid' = pid ∧ x = some r ∧ k' = k := by
  cases x <;> simp [rankF, eq_comm]

/-- A fresh row, as `create_proc` appends it, claims nothing. -/
theorem ProcInv.snoc_fresh {A : List AFact} {R : List RFact} {procs : List ProcRow}
    (inv : ProcInv A R procs) (n : Str) (pid : Int)
    (hno : ∀ p ∈ procs, ¬ (p.loom = n ∧ p.pid = pid)) :
    ProcInv A R (procs ++ [⟨n, pid, 0, -1, 0⟩]) := by
  have hrows : ∀ p ∈ procs ++ [(⟨n, pid, 0, -1, 0⟩ : ProcRow)], p ∈ procs ∨ p = ⟨n, pid, 0, -1, 0⟩ :=
    fun p hp => (List.mem_append.1 hp).imp_right List.mem_singleton.1
  refine ⟨?_, ?_, ?_, ?_, ?_⟩
  · exact nodup_map_snoc inv.nodup fun q hq heq => hno q hq (by simpa [pkey] using heq)
  · intro p hp
    rcases hrows p hp with hp | rfl
    · exact inv.soundApp p hp
    · exact Or.inl rfl
  · intro p hp
    rcases hrows p hp with hp | rfl
    · exact inv.soundRank p hp
    · exact Or.inl ⟨rfl, rfl⟩
  · intro n' pid' a h
    obtain ⟨h1, p, hp, h2⟩ := inv.completeApp n' pid' a h
    exact ⟨h1, p, List.mem_append_left _ hp, h2⟩
  · intro n' pid' r k h
    obtain ⟨p, hp, h2⟩ := inv.completeRank n' pid' r k h
    exact ⟨p, List.mem_append_left _ hp, h2⟩

theorem ProcInv.replace {A : List AFact} {R : List RFact} {procs : List ProcRow}
    (inv : ProcInv A R procs) {p p' : ProcRow} {s : StreamMeta} (hp : p ∈ procs) (h : Merged p s p') :
    ProcInv (A ++ appF p.loom p.pid s.appId) (R ++ rankF p.loom p.pid s.rank s.nranks)
      (setProc procs p.loom p.pid p') := by
  have hmem : p' ∈ setProc procs p.loom p.pid p' := mem_setProc.2 (Or.inr ⟨rfl, p, hp, rfl, rfl⟩)
  have hrows : ∀ q ∈ setProc procs p.loom p.pid p', q ∈ procs ∨ q = p' :=
    fun q hq => (mem_setProc.1 hq).imp (·.1) (·.1)
  -- what holds of some old row and survives the replacement holds of some new row
  have lift : ∀ {C : ProcRow → Prop}, (∃ q ∈ procs, C q) → (C p → C p') →
      ∃ q ∈ setProc procs p.loom p.pid p', C q := by
    rintro C ⟨q, hq, hc⟩ hpp
    by_cases hk : q.loom = p.loom ∧ q.pid = p.pid
    · rw [inv.key_inj hq hp hk.1 hk.2] at hc
      exact ⟨p', hmem, hpp hc⟩
    · exact ⟨q, mem_setProc.2 (Or.inl ⟨hq, hk⟩), hc⟩
  have oldApp : ∀ q ∈ procs, q.appid = 0 ∨
      ((q.loom, q.pid, q.appid) ∈ A ++ appF p.loom p.pid s.appId ∧ 0 < q.appid) :=
    fun q hq => (inv.soundApp q hq).imp_right fun h => ⟨List.mem_append_left _ h.1, h.2⟩
  have oldRank : ∀ q ∈ procs, (q.rank = -1 ∧ q.nranks = 0) ∨
      ((q.loom, q.pid, q.rank, some q.nranks) ∈ R ++ rankF p.loom p.pid s.rank s.nranks ∧
        0 ≤ q.rank ∧ q.rank < q.nranks) :=
    fun q hq => (inv.soundRank q hq).imp_right fun h => ⟨List.mem_append_left _ h.1, h.2⟩
  refine ⟨?_, ?_, ?_, ?_, ?_⟩
  · rw [setProc_map_pkey ⟨h.loom, h.pid⟩]; exact inv.nodup
  · intro q hq
    rcases hrows q hq with hq | rfl
    · exact oldApp q hq
    · rw [h.loom, h.pid]
      rcases h.app with ⟨_, e⟩ | ⟨hx, h0, _⟩
      · rw [e]; exact oldApp p hp
      · exact Or.inr ⟨List.mem_append_right _ (mem_appF.2 ⟨rfl, rfl, hx⟩), h0⟩
  · intro q hq
    rcases hrows q hq with hq | rfl
    · exact oldRank q hq
    · rw [h.loom, h.pid]
      rcases h.rank with ⟨_, e1, e2⟩ | ⟨hx, hk, h0, h1, _⟩
      · rw [e1, e2]; exact oldRank p hp
      · exact Or.inr ⟨List.mem_append_right _ (mem_rankF.2 ⟨rfl, rfl, hx, hk.symm⟩), h0, h1⟩
  · intro n pid a hm
    rcases List.mem_append.1 hm with hm | hm
    · obtain ⟨hpos, hex⟩ := inv.completeApp n pid a hm
      refine ⟨hpos, lift hex ?_⟩
      rintro ⟨h1, h2, h3⟩
      refine ⟨h.loom.trans h1, h.pid.trans h2, ?_⟩
      rcases h.app with ⟨_, e⟩ | ⟨_, _, e⟩ <;> omega
    · obtain ⟨rfl, rfl, hx⟩ := mem_appF.1 hm
      rcases h.app with ⟨hn, _⟩ | ⟨hs, h0, _⟩
      · rw [hx] at hn; cases hn
      · rw [hx] at hs; cases hs; exact ⟨h0, p', hmem, h.loom, h.pid, rfl⟩
  · intro n pid r k hm
    rcases List.mem_append.1 hm with hm | hm
    · refine lift (inv.completeRank n pid r k hm) ?_
      rintro ⟨h1, h2, h3, h4, h5, h6⟩
      have : p'.rank = r ∧ p'.nranks = p.nranks := by
        rcases h.rank with ⟨_, e1, e2⟩ | ⟨_, _, _, _, e1, e2⟩ <;> omega
      exact ⟨h.loom.trans h1, h.pid.trans h2, this.1, by rw [this.2]; exact h4, h5, by rw [this.2]; exact h6⟩
    · obtain ⟨rfl, rfl, hx, rfl⟩ := mem_rankF.1 hm
      rcases h.rank with ⟨hn, _⟩ | ⟨hs, hk, h0, h1, _⟩
      · rw [hx] at hn; cases hn
      · rw [hx] at hs; cases hs; exact ⟨p', hmem, h.loom, h.pid, rfl, hk, h0, h1⟩

/-- The refused value contradicts its own bounds, or the fact that `p` already holds. -/
theorem ProcInv.refused_not_ok {A : List AFact} {R : List RFact} {procs : List ProcRow}
    (inv : ProcInv A R procs) {p : ProcRow} {s : StreamMeta} (hp : p ∈ procs) (h : Refused p s) :
    ¬ (AppOK (A ++ appF p.loom p.pid s.appId) ∧ RankOK (R ++ rankF p.loom p.pid s.rank s.nranks)) := by
  rintro ⟨aok, rok⟩
  rcases h with ⟨a, hx, hbad⟩ | ⟨r, hx, hbad⟩
  · have hnew : (p.loom, p.pid, a) ∈ A ++ appF p.loom p.pid s.appId :=
      List.mem_append_right _ (mem_appF.2 ⟨rfl, rfl, hx⟩)
    have := aok.1 _ _ _ hnew
    rcases inv.soundApp p hp with h | h
    · omega
    · have := aok.2 _ _ _ _ (List.mem_append_left _ h.1) hnew
      omega
  · have hnew : (p.loom, p.pid, r, s.nranks) ∈ R ++ rankF p.loom p.pid s.rank s.nranks :=
      List.mem_append_right _ (mem_rankF.2 ⟨rfl, rfl, hx, rfl⟩)
    obtain ⟨nr, hk, h0r, hrn⟩ := rok.1 _ _ _ _ hnew
    have hbad := hbad.imp_right (Or.imp_right fun h1 => h1 nr hk)
    rcases inv.soundRank p hp with h | h
    · omega
    · have := rok.2 _ _ _ _ _ _ (List.mem_append_left _ h.1) hnew
      rw [hk] at this
      have := Option.some.inj this.2
      omega

theorem ProcInv.update {A : List AFact} {R : List RFact} {procs : List ProcRow}
    (inv : ProcInv A R procs) {p p1 p' : ProcRow} {s : StreamMeta}
    (hp : p ∈ procs) (ha : loadAppid p s.appId = .ok p1) (hr : loadRank p1 s.rank s.nranks = .ok p') :
    ProcInv (A ++ appF p.loom p.pid s.appId) (R ++ rankF p.loom p.pid s.rank s.nranks)
      (setProc procs p.loom p.pid p') :=
  inv.replace hp ((loadProc_spec p s).of_ok (by rw [loadProc, ha]; exact hr))

/-- The table after the "create when missing" half of `create_proc`. -/
def procs1 (procs : List ProcRow) (n : Str) (pid : Int) : List ProcRow :=
  match findProc procs n pid with
  | some _ => procs
  | none => procs ++ [⟨n, pid, 0, -1, 0⟩]

/-- In it the second lookup of `create_proc` finds a row: the `none` branch there is dead. -/
theorem findProc_procs1 (procs : List ProcRow) (n : Str) (pid : Int) :
    ∃ p ∈ procs1 procs n pid, p.loom = n ∧ p.pid = pid ∧ findProc (procs1 procs n pid) n pid = some p := by
  have found : ∀ l : List ProcRow, (∃ p ∈ l, p.loom = n ∧ p.pid = pid) →
      ∃ p ∈ l, p.loom = n ∧ p.pid = pid ∧ findProc l n pid = some p := by
    intro l ⟨q, hq, hk⟩
    have := findProc_spec l n pid
    split at this
    · rename_i p hf; exact ⟨p, this.1, this.2.1, this.2.2, hf⟩
    · exact absurd hk (this q hq)
  have hs := findProc_spec procs n pid
  unfold procs1
  split <;> rename_i hf <;> simp only [hf] at hs
  · exact found _ ⟨_, hs⟩
  · exact found _ ⟨_, List.mem_append_right _ (List.mem_singleton.2 rfl), rfl, rfl⟩

theorem procs1_inv {A : List AFact} {R : List RFact} {procs : List ProcRow}
    (inv : ProcInv A R procs) (n : Str) (pid : Int) :
    ProcInv A R (procs1 procs n pid) ∧
    (procs1 procs n pid).map pkey =
      (if (n, pid) ∈ procs.map pkey then procs.map pkey else procs.map pkey ++ [(n, pid)]) := by
  have hkey : (n, pid) ∈ procs.map pkey ↔ ∃ p ∈ procs, p.loom = n ∧ p.pid = pid := by
    simp only [List.mem_map, pkey, Prod.mk.injEq]
  have hs := findProc_spec procs n pid
  unfold procs1
  split <;> rename_i hf <;> simp only [hf] at hs
  · exact ⟨inv, by rw [if_pos (hkey.2 ⟨_, hs⟩)]⟩
  · refine ⟨inv.snoc_fresh n pid hs, ?_⟩
    rw [if_neg (fun h => by obtain ⟨p, hp, hk⟩ := hkey.1 h; exact hs p hp hk)]
    simp [pkey]

theorem createProc_unfold (procs : List ProcRow) (n : Str) (s : StreamMeta) :
    createProc procs n s =
      if s.tp.pid ≤ 0 then .error .pid
      else match findProc (procs1 procs n s.tp.pid) n s.tp.pid with
        | none => .ok (procs1 procs n s.tp.pid)
        | some p => (loadProc p s).bind fun p' => .ok (setProc (procs1 procs n s.tp.pid) n s.tp.pid p') := by
  rfl

/-- `create_proc`, whatever the table holds: the row of `(n, pid)`, created when missing, is
    replaced by the result of `proc_load_metadata`. -/
theorem createProc_spec (procs : List ProcRow) (n : Str) (s : StreamMeta) :
    (createProc procs n s).Sat
      (fun procs' => 0 < s.tp.pid ∧ ∃ p ∈ procs1 procs n s.tp.pid, p.loom = n ∧ p.pid = s.tp.pid ∧
        ∃ p', Merged p s p' ∧ procs' = setProc (procs1 procs n s.tp.pid) n s.tp.pid p')
      (s.tp.pid ≤ 0 ∨ ∃ p ∈ procs1 procs n s.tp.pid, p.loom = n ∧ p.pid = s.tp.pid ∧ Refused p s)
      False := by
  rw [createProc_unfold]
  split
  · exact Or.inl ‹_›
  obtain ⟨p, hpm, hl, hp, hf⟩ := findProc_procs1 procs n s.tp.pid
  simp only [hf]
  exact (loadProc_spec p s).bind (fun p' hm => ⟨by omega, p, hpm, hl, hp, p', hm, rfl⟩)
    (fun h => Or.inr ⟨p, hpm, hl, hp, h⟩) id

theorem createProc_inv {A : List AFact} {R : List RFact} {procs : List ProcRow} (inv : ProcInv A R procs)
    (n : Str) (s : StreamMeta) :
    (createProc procs n s).Sat
      (fun procs' => 0 < s.tp.pid ∧
        ProcInv (A ++ appF n s.tp.pid s.appId) (R ++ rankF n s.tp.pid s.rank s.nranks) procs' ∧
        procs'.map pkey =
          (if (n, s.tp.pid) ∈ procs.map pkey then procs.map pkey else procs.map pkey ++ [(n, s.tp.pid)]))
      (¬ (0 < s.tp.pid ∧
        AppOK (A ++ appF n s.tp.pid s.appId) ∧ RankOK (R ++ rankF n s.tp.pid s.rank s.nranks)))
      False := by
  obtain ⟨inv1, hkeys⟩ := procs1_inv inv n s.tp.pid
  refine (createProc_spec procs n s).mono ?_ ?_ id
  · rintro _ ⟨hpid, p, hpm, hl, hp, p', hm, rfl⟩
    have := inv1.replace hpm hm
    rw [hl, hp] at this
    refine ⟨hpid, this, ?_⟩
    rw [← hkeys, ← hl, ← hp]
    exact setProc_map_pkey ⟨hm.loom, hm.pid⟩
  rintro (h | ⟨p, hpm, hl, hp, hbad⟩) ⟨hpid, ok⟩
  · omega
  · exact inv1.refused_not_ok hpm hbad (by rw [hl, hp]; exact ok)

end Ovni.Emu.System
