import OvniModel.Emu.System

/-! Reasoning about `Res`: what a call establishes in each of its three outcomes,
    sequencing, and the loops that stop at the first failure. -/
namespace Ovni.Emu.System
namespace Res

variable {α β σ : Type}

def Sat (r : Res α) (P : α → Prop) (E C : Prop) : Prop :=
  match r with
  | .ok a => P a
  | .error _ => E
  | .crash => C

variable {r : Res α} {P P' : α → Prop} {E E' C C' : Prop}

theorem Sat.of_ok {a : α} (h : r.Sat P E C) (hr : r = .ok a) : P a := by subst hr; exact h

theorem Sat.of_error {e : Err} (h : r.Sat P E C) (hr : r = .error e) : E := by subst hr; exact h

theorem Sat.of_crash (h : r.Sat P E C) (hr : r = .crash) : C := by subst hr; exact h

theorem Sat.ne_crash (h : r.Sat P E False) : r ≠ .crash := by intro hr; subst hr; exact h

theorem Sat.exists_ok (h : r.Sat P E C) (hE : ¬ E) (hC : ¬ C) : ∃ a, r = .ok a ∧ P a := by
  cases r with
  | ok a => exact ⟨a, rfl, h⟩
  | error e => exact absurd h hE
  | crash => exact absurd h hC

theorem Sat.mono (h : r.Sat P E C) (hP : ∀ a, P a → P' a) (hE : E → E') (hC : C → C') : r.Sat P' E' C' := by
  cases r with
  | ok a => exact hP a h
  | error e => exact hE h
  | crash => exact hC h

theorem Sat.bind {f : α → Res β} {Q : β → Prop} (h : r.Sat P E' C')
    (hf : ∀ a, P a → (f a).Sat Q E C) (hE : E' → E) (hC : C' → C) : (r.bind f).Sat Q E C := by
  cases r with
  | ok a => exact hf a h
  | error e => exact hE h
  | crash => exact hC h

theorem okPart_eq_some {a : α} : r.okPart = some a ↔ r = .ok a := by
  cases r <;> simp [Res.okPart]

theorem bind_eq_ok {f : α → Res β} {b : β} : r.bind f = .ok b ↔ ∃ a, r = .ok a ∧ f a = .ok b := by
  cases r <;> simp [Res.bind]

theorem bind_eq_crash {f : α → Res β} (h : r.bind f = .crash) : r = .crash ∨ ∃ a, r = .ok a ∧ f a = .crash := by
  cases r with
  | ok a => exact Or.inr ⟨a, rfl, h⟩
  | error e => cases h
  | crash => exact Or.inl rfl

/-- The shape of the loops of `create_system` and `load_cpus`. -/
def foldl (f : σ → α → Res σ) : σ → List α → Res σ
  | s, [] => .ok s
  | s, a :: l => (f s a).bind fun s' => foldl f s' l

/-- An invariant `P` of the state, indexed by the elements consumed so far; a
    step fails with an error only when `Q` is false of them, and crashes only under `C`. -/
theorem foldl_sat {f : σ → α → Res σ} {P : List α → σ → Prop} {Q : List α → Prop} {C : Prop}
    (hstep : ∀ pre s a, P pre s → (f s a).Sat (P (pre ++ [a])) (¬ Q (pre ++ [a])) C)
    (hQ : ∀ a b, Q (a ++ b) → Q a) :
    ∀ l pre s, P pre s → (foldl f s l).Sat (P (pre ++ l)) (¬ Q (pre ++ l)) C := by
  intro l
  induction l with
  | nil => intro pre s h; rw [List.append_nil]; exact h
  | cons a l ih =>
    intro pre s h
    have hsplit : pre ++ a :: l = (pre ++ [a]) ++ l := by simp
    rw [hsplit]
    exact (hstep pre s a h).bind (fun s' h' => ih (pre ++ [a]) s' h') (fun hn hq => hn (hQ _ _ hq)) id

/-- An invariant `P` of the state and the elements still to come, under which
    no step crashes. -/
theorem foldl_safe {f : σ → α → Res σ} {P : σ → List α → Prop}
    (hstep : ∀ s a l, P s (a :: l) → (f s a).Sat (fun s' => P s' l) True False) :
    ∀ l s, P s l → (foldl f s l).Sat (fun s' => P s' []) True False := by
  intro l
  induction l with
  | nil => intro s h; exact h
  | cons a l ih => intro s h; exact (hstep s a l h).bind (fun s' h' => ih s' h') id id

end Res

end Ovni.Emu.System
