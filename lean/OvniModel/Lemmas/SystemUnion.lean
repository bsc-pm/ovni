import OvniModel.Lemmas.SystemCreate
import OvniModel.Lemmas.SystemFinish

/-! `load` keeps the streams and their facts; two successful merges of the same union of
    metadata hold the same rows (`ProcInv.row_determined`, `CpuInv.perm`), so `finish` sees the same
    thing in their tables (C15). -/
namespace Ovni.Emu.System

theorem load_perm (ss : List StreamMeta) : (load ss).Perm ss := sortBy_perm _ _

/-- The fact lists are `flatMap`s over the streams, so `load` keeps their members. -/
theorem mem_flatMap_load {β : Type} {f : StreamMeta → List β} {ss : List StreamMeta} {x : β} :
    x ∈ (load ss).flatMap f ↔ x ∈ ss.flatMap f :=
  ((load_perm ss).flatMap_right f).mem_iff

theorem thrKeys_load_perm (ss : List StreamMeta) : (thrKeys (load ss)).Perm (thrKeys ss) := by
  unfold thrKeys
  exact ((load_perm ss).map _).flatMap_right _

theorem load_tp_eq {ss ss' : List StreamMeta} (hp : (ss.map (·.tp)).Perm (ss'.map (·.tp)))
    (hd : RelpathsDistinct ss) : (load ss).map (·.tp) = (load ss').map (·.tp) := by
  have hmap : ∀ ss : List StreamMeta,
      (load ss).map (·.tp) = sortBy (fun a b => leStr a.relpath b.relpath) (ss.map (·.tp)) :=
    fun ss => sortBy_map (·.tp) _ (fun a b => leStr a.relpath b.relpath) (fun _ _ => rfl) ss
  rw [hmap, hmap]
  exact sortBy_str_perm (k := (·.relpath)) hp fun _ ha _ hb =>
    eq_of_nodup_map (f := (·.relpath)) (by rw [List.map_map]; exact hd) ha hb

/-- `trace_load` sorts by relpath, so the order in which the streams were found is forgotten. -/
theorem load_eq_of_perm {ss ss' : List StreamMeta} (hp : ss.Perm ss') (hd : RelpathsDistinct ss) :
    load ss = load ss' :=
  sortBy_str_perm (k := fun s : StreamMeta => s.tp.relpath) hp fun _ ha _ hb => eq_of_nodup_map hd ha hb

/-- Same union, for lists already in load order. -/
def SameUnionL (l l' : List StreamMeta) : Prop :=
  l.map (·.tp) = l'.map (·.tp) ∧
  SameSet (appFacts l) (appFacts l') ∧
  SameSet (rankFacts l) (rankFacts l') ∧
  SameSet (cpuFacts l) (cpuFacts l')

theorem SameSet.trans {β : Type} {a b c : List β} (h1 : SameSet a b) (h2 : SameSet b c) : SameSet a c :=
  ⟨fun _ hx => h2.1 (h1.1 hx), fun _ hx => h1.2 (h2.2 hx)⟩

theorem SameSet.symm {β : Type} {a b : List β} (h : SameSet a b) : SameSet b a := ⟨h.2, h.1⟩

theorem SameSet.of_perm {β : Type} {a b : List β} (h : a.Perm b) : SameSet a b := ⟨h.subset, h.symm.subset⟩

theorem SameSet.load {β : Type} {f : StreamMeta → List β} {ss ss' : List StreamMeta}
    (h : SameSet (ss.flatMap f) (ss'.flatMap f)) : SameSet ((load ss).flatMap f) ((load ss').flatMap f) :=
  (SameSet.of_perm ((load_perm ss).flatMap_right f)).trans
    (h.trans (SameSet.of_perm ((load_perm ss').flatMap_right f)).symm)

theorem SameUnion.load {ss ss' : List StreamMeta} (h : SameUnion ss ss') (hd : RelpathsDistinct ss) :
    SameUnionL (load ss) (load ss') :=
  ⟨load_tp_eq h.1 hd, h.2.1.load, h.2.2.1.load, h.2.2.2.load⟩

theorem SameUnion.symm {ss ss' : List StreamMeta} (h : SameUnion ss ss') : SameUnion ss' ss :=
  ⟨h.1.symm, h.2.1.symm, h.2.2.1.symm, h.2.2.2.symm⟩

theorem SameUnionL.rfl {l : List StreamMeta} : SameUnionL l l :=
  ⟨Eq.refl _, .of_perm (.refl _), .of_perm (.refl _), .of_perm (.refl _)⟩

theorem SameUnionL.symm {l l' : List StreamMeta} (h : SameUnionL l l') : SameUnionL l' l :=
  ⟨h.1.symm, h.2.1.symm, h.2.2.1.symm, h.2.2.2.symm⟩

theorem thrRowOf_core (t : ThreadPart) : thrRowOf t.core = thrRowOf t := rfl
theorem thrKeysOf_core (t : ThreadPart) : thrKeysOf t.core = thrKeysOf t := rfl
theorem ThreadPartOK_core (t : ThreadPart) : ThreadPartOK t.core ↔ ThreadPartOK t := Iff.rfl

theorem flatMap_core {β : Type} (f : ThreadPart → List β) (hf : ∀ t, f t.core = f t)
    (l : List StreamMeta) : (l.map (·.tp)).flatMap f = (l.map (·.tp.core)).flatMap f := by
  induction l with
  | nil => rfl
  | cons s r ih => simp only [List.map_cons, List.flatMap_cons, ih, hf]

theorem thrKeys_perm_of_mod {l l' : List StreamMeta} (hu : SameUnionMod l l') :
    (thrKeys l).Perm (thrKeys l') := by
  unfold thrKeys
  rw [flatMap_core thrKeysOf thrKeysOf_core, flatMap_core thrKeysOf thrKeysOf_core]
  exact hu.1.flatMap_right _

theorem SameUnionMod.load {ss ss' : List StreamMeta} (h : SameUnionMod ss ss') :
    SameUnionMod (load ss) (load ss') :=
  ⟨(((load_perm ss).map _).trans h.1).trans ((load_perm ss').map _).symm, h.2.1.load, h.2.2.1.load,
    h.2.2.2.load⟩

theorem SameUnionMod.symm {l l' : List StreamMeta} (h : SameUnionMod l l') : SameUnionMod l' l :=
  ⟨h.1.symm, h.2.1.symm, h.2.2.1.symm, h.2.2.2.symm⟩

theorem CreateOK.transferMod {l l' : List StreamMeta} (h : CreateOK l) (hu : SameUnionMod l l') :
    CreateOK l' := by
  obtain ⟨k1, k2, k3, k4, k5⟩ := h
  refine ⟨?_, (thrKeys_perm_of_mod hu).nodup_iff.1 k2, k3.mono hu.2.1.2, k4.mono hu.2.2.1.2,
    k5.mono hu.2.2.2.2⟩
  intro s hs
  have : s.tp.core ∈ l'.map (·.tp.core) := List.mem_map.2 ⟨s, hs, rfl⟩
  have := hu.1.mem_iff.2 this
  obtain ⟨s0, hs0, he⟩ := List.mem_map.1 this
  have := (ThreadPartOK_core s0.tp).2 (k1 s0 hs0)
  rw [he] at this
  exact (ThreadPartOK_core s.tp).1 this

theorem SameUnion.toMod {ss ss' : List StreamMeta} (h : SameUnion ss ss') : SameUnionMod ss ss' := by
  have := h.1.map ThreadPart.core
  rw [List.map_map, List.map_map] at this
  exact ⟨this, h.2⟩

theorem SameUnionL.toMod {l l' : List StreamMeta} (h : SameUnionL l l') : SameUnionMod l l' :=
  SameUnion.toMod ⟨List.Perm.of_eq h.1, h.2⟩

theorem CreateOK.transfer {l l' : List StreamMeta} (h : CreateOK l) (hu : SameUnionL l l') : CreateOK l' :=
  h.transferMod hu.toMod

theorem IndexOK.transfer {l l' : List StreamMeta} (h : IndexOK (cpuFacts l)) (hu : SameUnionL l l') :
    IndexOK (cpuFacts l') := h.mono hu.2.2.2.2

variable {l l' : List StreamMeta} {sys sys' : Sys}

theorem finish_eq_of_sameUnion (inv : Inv l sys) (inv' : Inv l' sys') (hu : SameUnionL l l') :
    finish sys = finish sys' := by
  have s3 : sys.threads = sys'.threads := by rw [inv.threads, inv'.threads, hu.1]
  have s1 : sys.looms = sys'.looms := by rw [inv.looms, inv'.looms, s3]
  have s2 : sys.procs.map pkey = sys'.procs.map pkey := by rw [inv.pkeys, inv'.pkeys, s3]
  have hprocs : sys.procs = sys'.procs :=
    list_eq_of_map_eq pkey _ _ s2 (fun p hp q hq hk =>
      inv.procs.row_determined inv'.procs hu.2.1 hu.2.2.1 hp hq hk)
  have hcp := inv.cpus.perm inv'.cpus hu.2.2.2
  exact finish_congr s1 hprocs s3 fun n => sortedCpus_perm hcp (inv.cpus.phyid_nodup n)

end Ovni.Emu.System
