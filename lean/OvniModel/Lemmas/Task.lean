import OvniModel.Emu.TaskSpec
/-! The task module (task.c, body.c) refines the life-cycle specification: abstraction
    function, representation invariant, one equivalence per function of task.c / body.c
    saying what a successful call found; `body_step`: the four calls on a body as one update
    (`Upd`, `Fits`) and the specification's step; `step_iff`.  On the specification alone: `AInv` and
    the nesting invariant `Below`, both kept by `Spec.Step`. -/
namespace Ovni.Task
open Spec

namespace Spec.Abs
variable {a : Abs} {s t b : Nat} {l : List Ref} {p : Phase}

@[simp] theorem setStack_stack_same : (a.setStack s l).stack s = l := if_pos rfl

@[simp] theorem setStack_stack_ne {s' : Nat} (h : s' ≠ s) : (a.setStack s l).stack s' = a.stack s' := if_neg h

@[simp] theorem setStack_phase : (a.setStack s l).phase = a.phase := rfl

@[simp] theorem setStack_flags : (a.setStack s l).flags = a.flags := rfl

@[simp] theorem setPhase_phase_same : (a.setPhase t b p).phase t b = some p := if_pos ⟨rfl, rfl⟩

@[simp] theorem setPhase_phase_ne {i j : Nat} (h : ¬(i = t ∧ j = b)) : (a.setPhase t b p).phase i j = a.phase i j :=
  if_neg h

@[simp] theorem setPhase_stack : (a.setPhase t b p).stack = a.stack := rfl

@[simp] theorem setPhase_flags : (a.setPhase t b p).flags = a.flags := rfl

end Spec.Abs

/-- `Created` = never ran = absent in the spec. -/
def phaseOf : BodyState → Option Phase
  | .created => none
  | .running => some .running
  | .paused => some .paused
  | .dead => some .dead

def abs (σ : Sys) : Abs :=
  { types := fun ty => (σ.types ty).isSome
    flags := fun t => (σ.tasks t).map (·.flags)
    phase := fun t b => (σ.bodies t b).bind (fun B => phaseOf B.state)
    stack := σ.stacks }

/-- Holds between task.h calls.  `body` says no stored body is Created: `createBody` makes one,
    but only inside `task_execute`, which sets it Running before it returns. -/
structure Inv (σ : Sys) : Prop where
  taskId : ∀ t T, σ.tasks t = some T → T.id = t
  body : ∀ t b B, σ.bodies t b = some B →
    b ≠ 0 ∧ B.state ≠ .created ∧ ∃ T, σ.tasks t = some T ∧ B.flags = bodyFlagsOf T.flags
  bodyId : ∀ t b B, σ.bodies t b = some B → B.id = b
  nbodies : ∀ t T, σ.tasks t = some T → (T.nbodies = 0 ↔ ∀ b, σ.bodies t b = none)
  onStack : ∀ t b s, (t, b) ∈ σ.stacks s ↔ ∃ B, σ.bodies t b = some B ∧ B.stack = some s
  stackState : ∀ t b B, σ.bodies t b = some B →
    (B.stack ≠ none ↔ (B.state = .running ∨ B.state = .paused))
  nodup : ∀ s, (σ.stacks s).Nodup

theorem inv_init : Inv Sys.init := by
  constructor <;> simp [Sys.init]

theorem Inv.stackOf {σ : Sys} (inv : Inv σ) {t b s : Nat} {B : Body} (hm : (t, b) ∈ σ.stacks s)
    (hB : σ.bodies t b = some B) : B.stack = some s := by
  obtain ⟨B', hB', hs⟩ := (inv.onStack t b s).1 hm
  rw [hB] at hB'; cases hB'; exact hs

theorem Inv.stack_unique {σ : Sys} (inv : Inv σ) {t b s₁ s₂ : Nat} (h₁ : (t, b) ∈ σ.stacks s₁)
    (h₂ : (t, b) ∈ σ.stacks s₂) : s₁ = s₂ := by
  obtain ⟨B, hB, hs⟩ := (inv.onStack t b s₁).1 h₁
  exact Option.some.inj (hs.symm.trans (inv.stackOf h₂ hB))

theorem Inv.otherStacks {σ : Sys} (inv : Inv σ) {t b s : Nat} {B : Body} (hB : σ.bodies t b = some B)
    (hs : B.stack = some s) (i : Nat) (hi : i ≠ s) : (t, b) ∉ σ.stacks i :=
  fun hm => hi (inv.stack_unique hm ((inv.onStack t b s).2 ⟨B, hB, hs⟩))

/-- A stacked body is on one stack, once, the one its back pointer names, and is Running or Paused. -/
theorem Inv.unique_thread {σ : Sys} (inv : Inv σ) {t b s₁ s₂ : Nat} (h₁ : (t, b) ∈ σ.stacks s₁)
    (h₂ : (t, b) ∈ σ.stacks s₂) :
    s₁ = s₂ ∧ (σ.stacks s₁).count (t, b) = 1 ∧
      ∃ B, σ.bodies t b = some B ∧ B.stack = some s₁ ∧ (B.state = .running ∨ B.state = .paused) := by
  obtain ⟨B, hB, hs1⟩ := (inv.onStack t b s₁).1 h₁
  exact ⟨inv.stack_unique h₁ h₂, by rw [(inv.nodup s₁).count, if_pos h₁], B, hB, hs1,
    (inv.stackState t b B hB).1 (by simp [hs1])⟩

/-- Conversely a Running or Paused body is on the stack its back pointer names, and on no other. -/
theorem Inv.has_thread {σ : Sys} (inv : Inv σ) {t b : Nat} {B : Body} (hB : σ.bodies t b = some B)
    (hst : B.state = .running ∨ B.state = .paused) :
    ∃ s, B.stack = some s ∧ (t, b) ∈ σ.stacks s ∧ ∀ s', (t, b) ∈ σ.stacks s' → s' = s := by
  have hne := (inv.stackState t b B hB).2 hst
  cases hs : B.stack with
  | none => exact absurd hs hne
  | some s =>
    have hm := (inv.onStack t b s).2 ⟨B, hB, hs⟩
    exact ⟨s, rfl, hm, fun s' hm' => inv.stack_unique hm' hm⟩

theorem Inv.flagsOf {σ : Sys} (inv : Inv σ) {t b : Nat} {T : Task} {B : Body} (hT : σ.tasks t = some T)
    (hB : σ.bodies t b = some B) : B.flags = bodyFlagsOf T.flags := by
  obtain ⟨_, _, T', hT', hf⟩ := inv.body t b B hB
  rw [hT] at hT'; cases hT'; exact hf

theorem Inv.counted {σ : Sys} (inv : Inv σ) {t b : Nat} {T : Task} {B : Body} (hT : σ.tasks t = some T)
    (hB : σ.bodies t b = some B) : T.nbodies ≠ 0 := by
  intro h0
  have := (inv.nbodies t T hT).1 h0 b
  rw [hB] at this; cases this

/-- `σ'` is `σ` with task `t := T'`, body `(t, b) := Bn` and stack `s := l`. -/
structure Upd (σ σ' : Sys) (t b s : Nat) (T' : Task) (Bn : Body) (l : List Ref) : Prop where
  types : σ'.types = σ.types
  tasks : ∀ i, σ'.tasks i = if i = t then some T' else σ.tasks i
  bodies : ∀ i j, σ'.bodies i j = if i = t ∧ j = b then some Bn else σ.bodies i j
  stacks : ∀ i, σ'.stacks i = if i = s then l else σ.stacks i

theorem Spec.Abs.ext' {a a' : Abs} (h1 : ∀ i, a.types i = a'.types i) (h2 : ∀ i, a.flags i = a'.flags i)
    (h3 : ∀ i j, a.phase i j = a'.phase i j) (h4 : ∀ i, a.stack i = a'.stack i) : a = a' := by
  cases a; cases a'
  simp only [Abs.mk.injEq]
  exact ⟨funext h1, funext h2, funext fun i => funext (h3 i), funext h4⟩

/-- A task.h call on body `(t, b)` of task `T`, seen as an update: `T'` is `T` up to the body count, and from
    `bodyKey` on what `Inv` asks of the new body and of the new stack `s`.  `self`, `others`: `l` is the old stack
    `s` up to `(t, b)`, which is on it exactly when `Bn` points to `s`; `own`, `hold`: `(t, b)` is on no other
    stack, before or after. -/
structure Fits (σ : Sys) (t b s : Nat) (T T' : Task) (Bn : Body) (l : List Ref) (p : Phase) : Prop where
  task : σ.tasks t = some T
  id : T'.id = t
  gid : T'.gid = T.gid
  flags : T'.flags = T.flags
  counted : T'.nbodies ≠ 0
  bodyKey : b ≠ 0
  bodyId : Bn.id = b
  bodyFlags : Bn.flags = bodyFlagsOf T.flags
  phase : phaseOf Bn.state = some p
  stackState : Bn.stack ≠ none ↔ (Bn.state = .running ∨ Bn.state = .paused)
  nodup : l.Nodup
  self : (t, b) ∈ l ↔ Bn.stack = some s
  others : ∀ r, r ≠ (t, b) → (r ∈ l ↔ r ∈ σ.stacks s)
  own : ∀ s', Bn.stack = some s' → s' = s
  hold : ∀ i, i ≠ s → (t, b) ∉ σ.stacks i

theorem abs_upd {σ σ' : Sys} {t b s : Nat} {T T' : Task} {Bn : Body} {l : List Ref} {p : Phase}
    (u : Upd σ σ' t b s T' Bn l) (f : Fits σ t b s T T' Bn l p) :
    abs σ' = ((abs σ).setPhase t b p).setStack s l := by
  apply Spec.Abs.ext'
  · intro i; simp [abs, Abs.setPhase, Abs.setStack, u.types]
  · intro i; simp only [abs, Abs.setPhase, Abs.setStack, u.tasks]
    split
    · subst_vars; simp [f.task, f.flags]
    · rfl
  · intro i j; simp only [abs, Abs.setPhase, Abs.setStack, u.bodies]
    split
    · simp [f.phase]
    · rfl
  · intro i; simp only [abs, Abs.setPhase, Abs.setStack, u.stacks]

theorem inv_upd {σ σ' : Sys} {t b s : Nat} {T T' : Task} {Bn : Body} {l : List Ref} {p : Phase}
    (inv : Inv σ) (u : Upd σ σ' t b s T' Bn l) (f : Fits σ t b s T T' Bn l p) : Inv σ' := by
  have other : ∀ {i j : Nat}, ¬(i = t ∧ j = b) → (i, j) ≠ (t, b) :=
    fun h e => h ⟨congrArg Prod.fst e, congrArg Prod.snd e⟩
  constructor
  · intro i Ti h
    rw [u.tasks] at h
    split at h
    · cases h; subst_vars; exact f.id
    · exact inv.taskId i Ti h
  · intro i j B h
    rw [u.bodies] at h
    split at h
    · rename_i hij
      cases h; obtain ⟨rfl, rfl⟩ := hij
      refine ⟨f.bodyKey, fun hc => ?_, T', by simp [u.tasks], f.flags ▸ f.bodyFlags⟩
      have := f.phase; rw [hc] at this; cases this
    · obtain ⟨h1, h2, Ti, h3, h4⟩ := inv.body i j B h
      refine ⟨h1, h2, ?_⟩
      rw [u.tasks]
      split
      · subst_vars; rw [f.task] at h3; cases h3; exact ⟨T', rfl, f.flags ▸ h4⟩
      · exact ⟨Ti, h3, h4⟩
  · intro i j B h
    rw [u.bodies] at h
    split at h
    · rename_i hij
      cases h; exact f.bodyId.trans hij.2.symm
    · exact inv.bodyId i j B h
  · intro i Ti h
    rw [u.tasks] at h
    split at h
    · rename_i hi
      cases h; subst hi
      refine ⟨fun h0 => absurd h0 f.counted, fun hall => ?_⟩
      have := hall b; rw [u.bodies] at this; simp at this
    · rename_i hne
      have same : ∀ j, σ'.bodies i j = σ.bodies i j := fun j => by
        rw [u.bodies, if_neg (fun hij => hne hij.1)]
      simp only [same]
      exact inv.nbodies i Ti h
  · intro i j s0
    rw [u.stacks, u.bodies]
    by_cases hij : i = t ∧ j = b
    · obtain ⟨rfl, rfl⟩ := hij
      simp only [and_self, if_true, Option.some.injEq, exists_eq_left']
      split
      · subst_vars; exact f.self
      · rename_i hs
        exact ⟨fun h => absurd h (f.hold s0 hs), fun h => absurd (f.own _ h) hs⟩
    · rw [if_neg hij, ← inv.onStack i j s0]
      split
      · subst_vars; exact f.others _ (other hij)
      · rfl
  · intro i j B h
    rw [u.bodies] at h
    split at h
    · cases h; exact f.stackState
    · exact inv.stackState i j B h
  · intro i
    rw [u.stacks]
    split
    · exact f.nodup
    · exact inv.nodup i

def Spec.Phase.state : Phase → BodyState
  | .running => .running
  | .paused => .paused
  | .dead => .dead

theorem phaseOf_eq_some {st : BodyState} {p : Phase} : phaseOf st = some p ↔ st = p.state := by
  cases st <;> cases p <;> simp [phaseOf, Phase.state]

theorem phaseOf_none {st : BodyState} : phaseOf st = none ↔ st = .created := by
  cases st <;> simp [phaseOf]

theorem abs_phase {σ : Sys} {t b : Nat} {B : Body} (h : σ.bodies t b = some B) :
    (abs σ).phase t b = phaseOf B.state := by
  simp [abs, h]

theorem abs_phase_iff {σ : Sys} {t b : Nat} {B : Body} {p : Phase} (h : σ.bodies t b = some B) :
    (abs σ).phase t b = some p ↔ B.state = p.state := by
  rw [abs_phase h, phaseOf_eq_some]

theorem abs_phase_none {σ : Sys} (inv : Inv σ) {t b : Nat} :
    (abs σ).phase t b = none ↔ σ.bodies t b = none := by
  cases h : σ.bodies t b with
  | none => simp [abs, h]
  | some B =>
    simp only [abs_phase h, phaseOf_none, reduceCtorEq, iff_false]
    exact (inv.body t b B h).2.1

theorem bodyOfPhase {σ : Sys} {t b : Nat} {p : Phase} (h : (abs σ).phase t b = some p) :
    ∃ B, σ.bodies t b = some B ∧ B.state = p.state := by
  cases hB : σ.bodies t b with
  | none => simp [abs, hB] at h
  | some B => exact ⟨B, rfl, (abs_phase_iff hB).1 h⟩

theorem abs_flags {σ : Sys} {t : Nat} {f : TaskFlags} :
    (abs σ).flags t = some f ↔ ∃ T, σ.tasks t = some T ∧ T.flags = f := by
  simp [abs]

theorem top_mem {σ : Sys} {s : Nat} {r : Ref} (h : σ.top s = some r) : r ∈ σ.stacks s :=
  List.mem_of_head? h

/-- What `Inv` leaves of itself in the abstract state (`ainv_of_inv`): all that the lemmas about
    `Spec.Step` alone (`below_step`) need. -/
structure AInv (a : Abs) : Prop where
  nodup : ∀ s, (a.stack s).Nodup
  memPhase : ∀ s t b, (t, b) ∈ a.stack s → a.phase t b = some .running ∨ a.phase t b = some .paused
  unique : ∀ s s' t b, (t, b) ∈ a.stack s → (t, b) ∈ a.stack s' → s = s'
  phaseFlags : ∀ t b p, a.phase t b = some p → ∃ f, a.flags t = some f

theorem ainv_of_inv {σ : Sys} (inv : Inv σ) : AInv (abs σ) := by
  constructor
  · exact inv.nodup
  · intro s t b hm
    obtain ⟨B, hB, hs⟩ := (inv.onStack t b s).1 hm
    exact ((inv.stackState t b B hB).1 (by simp [hs])).imp (abs_phase_iff hB).2 (abs_phase_iff hB).2
  · exact fun s s' t b => inv.stack_unique
  · intro t b p hp
    obtain ⟨B, hB, _⟩ := bodyOfPhase hp
    obtain ⟨_, _, T, hT, _⟩ := inv.body t b B hB
    exact ⟨T.flags, abs_flags.2 ⟨T, hT, rfl⟩⟩

theorem AInv.not_mem {a : Abs} (ai : AInv a) {t b : Nat}
    (h : a.phase t b = none ∨ a.phase t b = some .dead) (s : Nat) : (t, b) ∉ a.stack s := by
  intro hm
  rcases ai.memPhase s t b hm with h' | h' <;> rcases h with h | h <;> rw [h] at h' <;> cases h'

theorem exec_shape {a a' : Abs} {s t b : Nat} (h : Step a (.exec s t b) a') :
    a' = (a.setPhase t b .running).setStack s ((t, b) :: a.stack s) ∧ a.canStart s ∧
      (a.phase t b = none ∨ a.phase t b = some .dead) := by
  cases h with
  | execFirst _ _ hph _ hcan => exact ⟨rfl, hcan, .inl hph⟩
  | execAgain _ hph _ hcan => exact ⟨rfl, hcan, .inr hph⟩

/-- Nesting only over a paused body unless relaxed, as a state invariant: `canStart`, kept for the bodies
    below the top. -/
def Below (a : Abs) : Prop :=
  ∀ s r rest, a.stack s = r :: rest → ∀ x ∈ rest, a.phase x.1 x.2 = some .running →
    ∃ f, a.flags x.1 = some f ∧ f.relax = true

theorem below_init : Below Abs.init := by
  intro s r rest h; simp [Abs.init] at h

theorem below_exec {a : Abs} {s t b : Nat} (hb : Below a)
    (hnot : ∀ s', (t, b) ∉ a.stack s') (hcan : a.canStart s) :
    Below ((a.setPhase t b .running).setStack s ((t, b) :: a.stack s)) := by
  intro s0 r rest hst x hx hrun
  have hxne : x ∈ a.stack s0 → ¬(x.1 = t ∧ x.2 = b) := fun hm he => hnot s0 ((Prod.ext he.1 he.2 : x = (t, b)) ▸ hm)
  rw [Abs.setStack_phase] at hrun
  by_cases hs : s0 = s
  · subst hs
    rw [Abs.setStack_stack_same] at hst
    obtain ⟨rfl, rfl⟩ := List.cons.inj hst
    rw [Abs.setPhase_phase_ne (hxne hx)] at hrun
    cases hl : a.stack s0 with
    | nil => rw [hl] at hx; cases hx
    | cons x0 rest0 =>
      rw [hl] at hx
      rcases List.mem_cons.1 hx with rfl | hx'
      · exact hcan x.1 x.2 (by unfold Abs.isTop; rw [hl]; rfl) hrun
      · exact hb s0 x0 rest0 hl x hx' hrun
  · rw [Abs.setStack_stack_ne hs] at hst
    rw [Abs.setPhase_phase_ne (hxne (hst ▸ List.mem_cons_of_mem _ hx))] at hrun
    exact hb s0 r rest hst x hx hrun

theorem top_not_below {a : Abs} (ai : AInv a) {th t b s0 : Nat} {r : Ref} {rest : List Ref}
    (htop : a.isTop th t b) (hst : a.stack s0 = r :: rest) : (t, b) ∉ rest := by
  intro hx
  obtain rfl := ai.unique s0 th t b (hst ▸ List.mem_cons_of_mem _ hx) (List.mem_of_head? htop)
  have nd := ai.nodup s0
  unfold Abs.isTop at htop
  rw [hst] at htop nd
  cases htop
  exact (List.nodup_cons.1 nd).1 hx

theorem below_step {a a' : Abs} {op : Op} (ai : AInv a) (hb : Below a) (h : Step a op a') : Below a' := by
  cases h with
  | typeCreate _ _ => exact hb
  | @create ty t f hfl _ =>
    intro s r rest hst x hx hrun
    obtain ⟨f0, hf0, hr⟩ := hb s r rest hst x hx hrun
    refine ⟨f0, ?_, hr⟩
    simp only [Abs.addTask]
    split
    · rename_i he; rw [he, hfl] at hf0; cases hf0
    · exact hf0
  | execFirst _ _ hph _ hcan => exact below_exec hb (ai.not_mem (.inl hph)) hcan
  | execAgain _ hph _ hcan => exact below_exec hb (ai.not_mem (.inr hph)) hcan
  | @pause s t b f _ _ _ htop =>
    intro s0 r rest hst x hx hrun
    by_cases he : x.1 = t ∧ x.2 = b
    · rw [he.1, he.2, Abs.setPhase_phase_same] at hrun; cases hrun
    · exact hb s0 r rest hst x hx (Abs.setPhase_phase_ne he ▸ hrun)
  | @resume s t b _ htop =>
    intro s0 r rest hst x hx hrun
    have hne : ¬(x.1 = t ∧ x.2 = b) := fun he =>
      top_not_below ai htop hst (by rw [← he.1, ← he.2]; exact hx)
    exact hb s0 r rest hst x hx (Abs.setPhase_phase_ne hne ▸ hrun)
  | @end_ s t b _ htop =>
    intro s0 r rest hst x hx hrun
    -- `x` lay below the top of stack `s0` before the pop as well
    obtain ⟨r0, rest0, hst0, hx0⟩ : ∃ r0 rest0, a.stack s0 = r0 :: rest0 ∧ x ∈ rest0 := by
      by_cases hs : s0 = s
      · subst hs
        obtain ⟨tl, hl⟩ := List.head?_eq_some_iff.1 htop
        rw [Abs.setStack_stack_same, hl, List.tail_cons] at hst
        exact ⟨_, _, hl, hst ▸ List.mem_cons_of_mem _ hx⟩
      · exact ⟨r, rest, Abs.setStack_stack_ne hs ▸ hst, hx⟩
    -- and it runs, so it is not the body that ended
    by_cases he : x.1 = t ∧ x.2 = b
    · rw [Abs.setStack_phase, he.1, he.2, Abs.setPhase_phase_same] at hrun; cases hrun
    · exact hb s0 r0 rest0 hst0 x hx0 (Abs.setPhase_phase_ne he ▸ hrun)

theorem running_some {σ : Sys} {s : Nat} {r : Ref} {B : Body} :
    σ.running s = some (r, B) ↔
      (σ.stacks s).head? = some r ∧ σ.bodies r.1 r.2 = some B ∧ B.state = .running := by
  unfold Sys.running
  cases (σ.stacks s).head? with
  | none => simp
  | some r0 =>
    simp only [Option.some.injEq]
    constructor
    · intro h
      split at h
      · cases h
      · rename_i B0 hB
        split at h
        · cases h; exact ⟨rfl, hB, ‹_›⟩
        · cases h
    · rintro ⟨rfl, hB, hr⟩
      simp only [hB, hr, if_true]

/-- The nesting test of `body_execute` is the specification's `canStart`. -/
theorem nestGuard_iff {σ : Sys} (inv : Inv σ) (s : Nat) :
    nestGuard σ s = .ok () ↔ (abs σ).canStart s := by
  unfold nestGuard Abs.canStart
  cases hr : σ.running s with
  | none =>
    refine iff_of_true rfl fun t b htop hph => ?_
    obtain ⟨B, hB, hst⟩ := bodyOfPhase hph
    cases hr.symm.trans (running_some.2 ⟨htop, hB, hst⟩)
  | some p =>
    obtain ⟨⟨t, b⟩, B⟩ := p
    obtain ⟨htop, hB, hrun⟩ := running_some.1 hr
    obtain ⟨_, _, T, hT, hBf⟩ := inv.body t b B hB
    have hfl : (abs σ).flags t = some T.flags := abs_flags.2 ⟨T, hT, rfl⟩
    simp only [hBf, bodyFlagsOf, ite_eq_left_iff, reduceCtorEq, imp_false, Decidable.not_not]
    constructor
    · intro hrel t' b' htop' _
      cases htop.symm.trans htop'
      exact ⟨_, hfl, hrel⟩
    · intro h
      obtain ⟨f, hf, hrel⟩ := h t b htop ((abs_phase_iff hB).2 hrun)
      cases hfl.symm.trans hf
      exact hrel

theorem taskTypeCreate_ok {σ σ' : Sys} {ty gid : Nat} {fits : Bool} :
    taskTypeCreate σ ty gid fits = .ok σ' ↔
      σ.types ty = none ∧ ty ≠ 0 ∧ fits = true ∧ σ' = σ.setType ty gid := by
  unfold taskTypeCreate
  cases σ.types ty <;> by_cases h0 : ty = 0 <;> cases fits <;> simp [h0, eq_comm (a := σ')]

theorem taskCreate_ok {σ σ' : Sys} {ty t : Nat} {f : TaskFlags} :
    taskCreate σ ty t f = .ok σ' ↔
      σ.tasks t = none ∧ ∃ gid, σ.types ty = some gid ∧ σ' = σ.setTask t ⟨t, ty, gid, 0, f⟩ := by
  unfold taskCreate
  cases σ.tasks t <;> cases σ.types ty <;> simp [eq_comm (a := σ')]

theorem createBody_ok {σ σ1 : Sys} {T : Task} {b : Nat} {B : Body} :
    createBody σ T b = .ok (σ1, B) ↔
      (T.flags.parallel = false → T.nbodies = 0) ∧ b ≠ 0 ∧
        B = ⟨b, bodyFlagsOf T.flags, .created, none, 0⟩ ∧
        σ1 = (σ.setBody T.id b B).setTask T.id { T with nbodies := T.nbodies + 1 } := by
  unfold createBody
  have hg : ((!T.flags.parallel) = true ∧ T.nbodies > 0) ↔ ¬(T.flags.parallel = false → T.nbodies = 0) := by
    cases T.flags.parallel <;> simp <;> omega
  by_cases hp : T.flags.parallel = false → T.nbodies = 0
  · rw [if_neg (fun h => hg.1 h hp)]
    by_cases h0 : b = 0
    · rw [if_pos h0]; exact ⟨nofun, fun h => absurd h0 h.2.1⟩
    · rw [if_neg h0, Except.ok.injEq, Prod.mk.injEq]
      constructor
      · rintro ⟨rfl, rfl⟩; exact ⟨hp, h0, rfl, rfl⟩
      · rintro ⟨_, _, rfl, rfl⟩; exact ⟨rfl, rfl⟩
  · rw [if_pos (hg.2 hp)]; exact ⟨nofun, fun h => absurd h.1 hp⟩

/-- `body_get_running` does not see a body that is not Running, hence not the new (Created) one: the nesting
    test of `body_execute` comes out as before `create_body`. -/
theorem createBody_nestGuard {σ σ1 : Sys} {T : Task} {s b : Nat} {B0 : Body}
    (hc : createBody σ T b = .ok (σ1, B0)) (hnone : σ.bodies T.id b = none) :
    nestGuard σ1 s = nestGuard σ s := by
  obtain ⟨_, _, rfl, rfl⟩ := createBody_ok.1 hc
  unfold nestGuard Sys.running
  simp only [Sys.setTask, Sys.setBody]
  cases (σ.stacks s).head? with
  | none => rfl
  | some r =>
    by_cases hr : r.1 = T.id ∧ r.2 = b
    · simp [hr, hnone]
    · simp [hr]

theorem bodyExecute_ok {σ σ' : Sys} {s t b : Nat} {B : Body} :
    bodyExecute σ s t b B = .ok σ' ↔
      ∃ B1, resurrect B = .ok B1 ∧ B1.state = .created ∧ B1.stack = none ∧ nestGuard σ s = .ok () ∧
        σ' = (σ.setBody t b { B1 with stack := some s, state := .running }).setStack s
              ((t, b) :: σ.stacks s) := by
  unfold bodyExecute
  cases resurrect B with
  | error e => simp
  | ok B1 =>
    by_cases h2 : B1.state = .created
    · by_cases h3 : B1.stack = none <;> cases nestGuard σ s <;> simp [h2, h3, eq_comm (a := σ')]
    · by_cases h1 : B1.state = .paused <;> simp [h1, h2]

theorem resurrect_dead {B B1 : Body} (hnc : B.state ≠ .created) :
    (resurrect B = .ok B1 ∧ B1.state = .created) ↔
      B.state = .dead ∧ B.flags.resurrect = true ∧
        B1 = { B with state := .created, iteration := B.iteration + 1 } := by
  unfold resurrect
  by_cases hd : B.state = .dead
  · by_cases hr : B.flags.resurrect = true
    · simp only [hd, hr, if_true, Except.ok.injEq, true_and]
      constructor
      · rintro ⟨rfl, _⟩; rfl
      · rintro rfl; exact ⟨rfl, rfl⟩
    · simp [hd, hr]
  · simp only [hd, if_false, Except.ok.injEq, false_and, iff_false, not_and]
    rintro rfl; exact hnc

theorem onTop_ok {σ : Sys} {s t b : Nat} {B : Body} :
    onTop σ s t b B = .ok () ↔ B.stack = some s ∧ σ.top s = some (t, b) := by
  unfold onTop
  cases B.stack with
  | none => simp
  | some s' =>
    by_cases h1 : s' = s
    · by_cases h2 : σ.top s = some (t, b) <;> simp [h1, h2]
    · simp [h1]

theorem bodyPause_ok {σ σ' : Sys} {s t b : Nat} {B : Body} :
    bodyPause σ s t b B = .ok σ' ↔
      B.flags.pause = true ∧ B.state = .running ∧ B.stack = some s ∧ σ.top s = some (t, b) ∧
        σ' = σ.setBody t b { B with state := .paused } := by
  unfold bodyPause
  rw [← and_assoc (a := B.stack = some s), ← onTop_ok]
  by_cases hp : B.flags.pause = true <;> by_cases hr : B.state = .running <;>
    cases onTop σ s t b B <;> simp [hp, hr, eq_comm (a := σ')]

theorem bodyResume_ok {σ σ' : Sys} {s t b : Nat} {B : Body} :
    bodyResume σ s t b B = .ok σ' ↔
      B.state = .paused ∧ B.stack = some s ∧ σ.top s = some (t, b) ∧
        σ' = σ.setBody t b { B with state := .running } := by
  unfold bodyResume
  rw [← and_assoc (a := B.stack = some s), ← onTop_ok]
  by_cases hr : B.state = .paused <;> cases onTop σ s t b B <;> simp [hr, eq_comm (a := σ')]

theorem bodyEnd_ok {σ σ' : Sys} {s t b : Nat} {B : Body} :
    bodyEnd σ s t b B = .ok σ' ↔
      B.state = .running ∧ B.stack = some s ∧ σ.top s = some (t, b) ∧
        σ' = (σ.setBody t b { B with state := .dead, stack := none }).setStack s
              ((σ.stacks s).erase (t, b)) := by
  unfold bodyEnd
  rw [← and_assoc (a := B.stack = some s), ← onTop_ok]
  by_cases hr : B.state = .running <;> cases onTop σ s t b B <;> simp [hr, eq_comm (a := σ')]

/-- `task_pause`, `task_resume` and `task_end` find the task and the body and hand them to `f`
    (the function of body.c). -/
theorem lookup_ok {σ σ' : Sys} {s t b : Nat} (inv : Inv σ) {f : Sys → Nat → Nat → Nat → Body → Except Err Sys} :
    (match σ.tasks t with
      | none => Except.error Err.taskNull
      | some T =>
        match σ.bodies T.id b with
        | none => Except.error Err.bodyNotFound
        | some B => f σ s T.id b B) = .ok σ' ↔
      ∃ T B, σ.tasks t = some T ∧ σ.bodies t b = some B ∧ f σ s t b B = .ok σ' := by
  cases hT : σ.tasks t with
  | none => simp
  | some T =>
    simp only [inv.taskId t T hT]
    cases σ.bodies t b <;> simp

theorem run_cons {σ σ' : Sys} {op : Op} {ops : List Op} :
    run σ (op :: ops) = .ok σ' ↔ ∃ σ1, step σ op = .ok σ1 ∧ run σ1 ops = .ok σ' := by
  simp only [run]
  cases step σ op <;> simp

/-- `σ0` is `σ`, or `σ` with the new Created body. -/
theorem upd_start {σ σ0 : Sys} {s t b : Nat} {T' : Task} {Bn : Body}
    (ht : ∀ i, σ0.tasks i = if i = t then some T' else σ.tasks i)
    (hty : σ0.types = σ.types) (hs : σ0.stacks = σ.stacks)
    (hb : ∀ i j, ¬(i = t ∧ j = b) → σ0.bodies i j = σ.bodies i j) :
    Upd σ ((σ0.setBody t b Bn).setStack s ((t, b) :: σ0.stacks s)) t b s T' Bn ((t, b) :: σ.stacks s) := by
  refine ⟨hty, ht, fun i j => ?_, fun i => by simp only [Sys.setBody, Sys.setStack, hs]⟩
  simp only [Sys.setBody, Sys.setStack]
  split
  · rfl
  · rename_i h; exact hb i j h

theorem tasks_same {σ : Sys} {t : Nat} {T : Task} (hT : σ.tasks t = some T) (i : Nat) :
    σ.tasks i = if i = t then some T else σ.tasks i := by
  split
  · subst_vars; exact hT
  · rfl

theorem upd_end {σ : Sys} {s t b : Nat} {T : Task} {Bn : Body} {l : List Ref} (hT : σ.tasks t = some T) :
    Upd σ ((σ.setBody t b Bn).setStack s l) t b s T Bn l :=
  ⟨rfl, tasks_same hT, fun i j => rfl, fun i => rfl⟩

theorem upd_same {σ : Sys} {s t b : Nat} {T : Task} {Bn : Body} (hT : σ.tasks t = some T) :
    Upd σ (σ.setBody t b Bn) t b s T Bn (σ.stacks s) := by
  refine ⟨rfl, tasks_same hT, fun i j => rfl, fun i => ?_⟩
  simp only [Sys.setBody]; split
  · subst_vars; rfl
  · rfl

theorem exec_upd {σ σ' : Sys} {s t b : Nat} {T : Task} (inv : Inv σ) (hT : σ.tasks t = some T)
    (h : step σ (.exec s t b) = .ok σ') :
    ∃ T' Bn, Upd σ σ' t b s T' Bn ((t, b) :: σ.stacks s) ∧
      Fits σ t b s T T' Bn ((t, b) :: σ.stacks s) .running ∧ (abs σ).canStart s ∧
      (((abs σ).phase t b = none ∧ (T.flags.parallel = false → ∀ b', (abs σ).phase t b' = none)) ∨
        ((abs σ).phase t b = some .dead ∧ T.flags.resurrect = true)) := by
  -- what either branch of `task_execute` (new body, dead body) finds; the rest of `Fits` follows
  suffices h : ∃ T' Bn, Upd σ σ' t b s T' Bn ((t, b) :: σ.stacks s) ∧ T'.id = t ∧ T'.gid = T.gid ∧
      T'.flags = T.flags ∧ T'.nbodies ≠ 0 ∧ b ≠ 0 ∧ Bn.id = b ∧ Bn.flags = bodyFlagsOf T.flags ∧
      Bn.state = .running ∧ Bn.stack = some s ∧ (abs σ).canStart s ∧
      (((abs σ).phase t b = none ∧ (T.flags.parallel = false → ∀ b', (abs σ).phase t b' = none)) ∨
        ((abs σ).phase t b = some .dead ∧ T.flags.resurrect = true)) by
    obtain ⟨T', Bn, u, hid, hg, hf, hn, hb0, hbid, hbf, hst, hsk, hcan, hcase⟩ := h
    have hnot := (ainv_of_inv inv).not_mem (hcase.imp And.left And.left)
    exact ⟨T', Bn, u, ⟨hT, hid, hg, hf, hn, hb0, hbid, hbf, by rw [hst]; rfl,
      by simp [hst, hsk], List.nodup_cons.2 ⟨hnot s, inv.nodup s⟩, by simp [hsk], fun r hr => by simp [hr],
      fun s' h => Option.some.inj (h.symm.trans hsk), fun i _ => hnot i⟩, hcan, hcase⟩
  obtain rfl := inv.taskId t T hT
  simp only [step, taskExecute, hT] at h
  cases hB : σ.bodies T.id b with
  | some B =>
    simp only [hB] at h
    obtain ⟨B1, hr, hc, _, hok, rfl⟩ := bodyExecute_ok.1 h
    obtain ⟨hb0, hnc, _⟩ := inv.body T.id b B hB
    obtain ⟨hd, hres, rfl⟩ := (resurrect_dead hnc).1 ⟨hr, hc⟩
    exact ⟨T, _, upd_start (fun i => by split <;> simp_all) rfl rfl (fun _ _ _ => rfl), rfl, rfl, rfl,
      inv.counted hT hB, hb0, (inv.bodyId T.id b B hB : B.id = b),
      (inv.flagsOf hT hB : B.flags = _), rfl, rfl, (nestGuard_iff inv s).1 hok,
      .inr ⟨(abs_phase_iff hB).2 hd, by rw [inv.flagsOf hT hB] at hres; exact hres⟩⟩
  | none =>
    simp only [hB] at h
    cases hc : createBody σ T b with
    | error e => simp [hc] at h
    | ok p =>
      obtain ⟨σ1, B0⟩ := p
      simp only [hc] at h
      have hng := createBody_nestGuard (s := s) hc hB
      obtain ⟨hpar, hb0, rfl, rfl⟩ := createBody_ok.1 hc
      obtain ⟨B1, hr, _, _, hok, rfl⟩ := bodyExecute_ok.1 h
      cases hr
      refine ⟨{ T with nbodies := T.nbodies + 1 }, _,
        upd_start (fun _ => rfl) rfl rfl (fun i j hij => ?_), rfl, rfl, rfl, by simp, hb0, rfl, rfl, rfl,
        rfl, (nestGuard_iff inv s).1 (hng ▸ hok),
        .inl ⟨(abs_phase_none inv).2 hB, fun hp b' => ?_⟩⟩
      · simp only [Sys.setBody, Sys.setTask, if_neg hij]
      · exact (abs_phase_none inv).2 ((inv.nbodies T.id T hT).1 (hpar hp) b')

def opOf (v : TaskEv) (th t b : Nat) : Op :=
  match v with
  | .x => .exec th t b
  | .e => .end_ th t b
  | .p => .pause th t b
  | .r => .resume th t b

/-- A body on stack `s` goes from Running to Paused or back. -/
theorem Inv.fits_restate {σ : Sys} {s t b : Nat} {T : Task} {B : Body} {st : BodyState} {p : Phase} (inv : Inv σ)
    (hT : σ.tasks t = some T) (hB : σ.bodies t b = some B) (hs : B.stack = some s)
    (hp : phaseOf st = some p) (hst : st = .running ∨ st = .paused) :
    Fits σ t b s T T { B with state := st } (σ.stacks s) p := by
  have hin : (t, b) ∈ σ.stacks s := (inv.onStack t b s).2 ⟨B, hB, hs⟩
  exact ⟨hT, inv.taskId t T hT, rfl, rfl, inv.counted hT hB, (inv.body t b B hB).1,
    (inv.bodyId t b B hB : B.id = b), (inv.flagsOf hT hB : B.flags = _), hp, by simp [hs, hst], inv.nodup s,
    by simp [hs, hin], fun _ _ => Iff.rfl, fun s' h => Option.some.inj (h.symm.trans hs),
    inv.otherStacks hB hs⟩

theorem Spec.Abs.setStack_self (a : Abs) (s : Nat) : a.setStack s (a.stack s) = a := by
  refine Spec.Abs.ext' (fun _ => rfl) (fun _ => rfl) (fun _ _ => rfl) fun i => ?_
  by_cases h : i = s
  · rw [h, Abs.setStack_stack_same]
  · exact Abs.setStack_stack_ne h

theorem Spec.Step.restack {a a' : Abs} {op : Op} (h : Step a op a') (s : Nat) :
    Step a op (a'.setStack s (a'.stack s)) := by
  rwa [Abs.setStack_self]

/-- **One call on a body** (`task_execute`, `task_end`, `task_pause`, `task_resume`) that succeeds is an update
    of that body, its task and the stack of the thread, and the step the specification allows: all that
    `step_sound` and the event level need to know about the four calls. -/
theorem body_step {σ σ' : Sys} {v : TaskEv} {s t b : Nat} (inv : Inv σ)
    (h : step σ (opOf v s t b) = .ok σ') :
    ∃ T T' Bn l p, Upd σ σ' t b s T' Bn l ∧ Fits σ t b s T T' Bn l p ∧
      Step (abs σ) (opOf v s t b) (((abs σ).setPhase t b p).setStack s l) := by
  cases v with
  | x =>
    cases hT : σ.tasks t with
    | none => simp [opOf, step, taskExecute, hT] at h
    | some T =>
      obtain ⟨T', Bn, u, f, hcan, hcase⟩ := exec_upd inv hT h
      have hfl : (abs σ).flags t = some T.flags := abs_flags.2 ⟨T, hT, rfl⟩
      refine ⟨T, T', Bn, _, .running, u, f, ?_⟩
      rcases hcase with ⟨h1, h2⟩ | ⟨h1, h2⟩
      · exact Step.execFirst hfl f.bodyKey h1 h2 hcan
      · exact Step.execAgain hfl h1 h2 hcan
  | e =>
    obtain ⟨T, B, hT, hB, h⟩ := (lookup_ok inv).1 h
    obtain ⟨hr, hs, htop, rfl⟩ := bodyEnd_ok.1 h
    -- the erased body is the head
    obtain ⟨tl, hl⟩ := List.head?_eq_some_iff.1 (show (σ.stacks s).head? = some (t, b) from htop)
    have htl : (σ.stacks s).erase (t, b) = ((abs σ).stack s).tail := by
      show _ = (σ.stacks s).tail
      rw [hl, List.erase_cons_head, List.tail_cons]
    refine ⟨T, T, _, _, .dead, upd_end hT, ⟨hT, inv.taskId t T hT, rfl, rfl, inv.counted hT hB,
      (inv.body t b B hB).1, (inv.bodyId t b B hB : B.id = b), (inv.flagsOf hT hB : B.flags = _), rfl, by simp,
      (inv.nodup s).erase _, by simp [(inv.nodup s).mem_erase_iff], fun r hr => List.mem_erase_of_ne hr,
      (fun s' h => by cases h), inv.otherStacks hB hs⟩, ?_⟩
    rw [htl]
    exact Step.end_ ((abs_phase_iff hB).2 hr) htop
  | p =>
    obtain ⟨T, B, hT, hB, h⟩ := (lookup_ok inv).1 h
    obtain ⟨hp, hr, hs, htop, rfl⟩ := bodyPause_ok.1 h
    rw [inv.flagsOf hT hB] at hp
    exact ⟨T, T, _, _, .paused, upd_same hT, inv.fits_restate hT hB hs rfl (.inr rfl),
      (Step.pause (abs_flags.2 ⟨T, hT, rfl⟩) hp ((abs_phase_iff hB).2 hr) htop).restack s⟩
  | r =>
    obtain ⟨T, B, hT, hB, h⟩ := (lookup_ok inv).1 h
    obtain ⟨hr, hs, htop, rfl⟩ := bodyResume_ok.1 h
    exact ⟨T, T, _, _, .running, upd_same hT, inv.fits_restate hT hB hs rfl (.inl rfl),
      (Step.resume ((abs_phase_iff hB).2 hr) htop).restack s⟩

theorem body_step_sound {σ σ' : Sys} {v : TaskEv} {s t b : Nat} (inv : Inv σ)
    (h : step σ (opOf v s t b) = .ok σ') : Inv σ' ∧ Step (abs σ) (opOf v s t b) (abs σ') := by
  obtain ⟨T, T', Bn, l, p, u, f, st⟩ := body_step inv h
  rw [abs_upd u f]
  exact ⟨inv_upd inv u f, st⟩

theorem inv_setTask {σ : Sys} {t : Nat} {T : Task} (inv : Inv σ) (hnone : σ.tasks t = none) (hid : T.id = t)
    (hn : T.nbodies = 0) : Inv (σ.setTask t T) := by
  -- a body belongs to a task, so the bodies of other tasks see their task as before
  have other : ∀ {i j : Nat} {B : Body}, σ.bodies i j = some B → (σ.setTask t T).tasks i = σ.tasks i := by
    intro i j B hB
    obtain ⟨_, _, T0, hT0, _⟩ := inv.body i j B hB
    simp only [Sys.setTask]
    split
    · subst_vars; rw [hnone] at hT0; cases hT0
    · rfl
  refine ⟨?_, ?_, inv.bodyId, ?_, inv.onStack, inv.stackState, inv.nodup⟩
  · intro i Ti h
    simp only [Sys.setTask] at h
    split at h
    · cases h; subst_vars; rfl
    · exact inv.taskId i Ti h
  · intro i j B hB
    rw [other hB]; exact inv.body i j B hB
  · intro i Ti h
    simp only [Sys.setTask] at h
    split at h
    · rename_i hi
      cases h; subst hi
      refine ⟨fun _ b => ?_, fun _ => hn⟩
      cases hB : σ.bodies i b with
      | none => exact hB
      | some B => have := other hB; simp [Sys.setTask, hnone] at this
    · exact inv.nbodies i Ti h

theorem step_sound {σ σ' : Sys} {op : Op} (inv : Inv σ) (h : step σ op = .ok σ') :
    Inv σ' ∧ Step (abs σ) op (abs σ') := by
  cases op with
  | typeCreate ty gid =>
    obtain ⟨hnone, h0, _, rfl⟩ := taskTypeCreate_ok.1 h
    refine ⟨⟨inv.taskId, inv.body, inv.bodyId, inv.nbodies, inv.onStack, inv.stackState, inv.nodup⟩, ?_⟩
    have : abs (σ.setType ty gid) = (abs σ).addType ty := by
      apply Spec.Abs.ext' <;> intros <;> simp only [abs, Sys.setType, Abs.addType]
      split <;> simp
    rw [this]
    exact Step.typeCreate h0 (by simp [abs, hnone])
  | create ty t f =>
    obtain ⟨hnone, gid, hty, rfl⟩ := taskCreate_ok.1 h
    refine ⟨inv_setTask inv hnone rfl rfl, ?_⟩
    have : abs (σ.setTask t ⟨t, ty, gid, 0, f⟩) = (abs σ).addTask t f := by
      apply Spec.Abs.ext' <;> intros <;> simp only [abs, Sys.setTask, Abs.addTask]
      split <;> simp
    rw [this]
    exact Step.create (by simp [abs, hnone]) (by simp [abs, hty])
  | exec s t b => exact body_step_sound (v := .x) inv h
  | pause s t b => exact body_step_sound (v := .p) inv h
  | resume s t b => exact body_step_sound (v := .r) inv h
  | end_ s t b => exact body_step_sound (v := .e) inv h

/-- Rule by rule of the specification: its premises pass every guard of the call. -/
theorem step_complete {σ : Sys} {op : Op} {a' : Abs} (inv : Inv σ) (h : Step (abs σ) op a') :
    ∃ σ', step σ op = .ok σ' := by
  cases h with
  | @typeCreate ty gid h0 hty =>
    exact ⟨_, taskTypeCreate_ok.2 ⟨by simpa [abs] using hty, h0, rfl, rfl⟩⟩
  | @create ty t f hfl hty =>
    obtain ⟨gid, hg⟩ := Option.isSome_iff_exists.1 (show (σ.types ty).isSome = true from hty)
    exact ⟨_, taskCreate_ok.2 ⟨by simpa [abs] using hfl, gid, hg, rfl⟩⟩
  | @execFirst s t b f hf hb0 hph hpar hcan =>
    obtain ⟨T, hT, rfl⟩ := abs_flags.1 hf
    obtain rfl := inv.taskId t T hT
    have hB := (abs_phase_none inv).1 hph
    have hc := (createBody_ok (σ := σ)).2 ⟨fun hp => (inv.nbodies T.id T hT).2
      fun b' => (abs_phase_none inv).1 (hpar hp b'), hb0, rfl, rfl⟩
    simp only [step, taskExecute, hT, hB, hc]
    refine ⟨_, bodyExecute_ok.2 ⟨_, rfl, rfl, rfl, ?_, rfl⟩⟩
    rw [createBody_nestGuard hc hB]
    exact (nestGuard_iff inv s).2 hcan
  | @execAgain s t b f hf hph hres hcan =>
    obtain ⟨T, hT, rfl⟩ := abs_flags.1 hf
    obtain rfl := inv.taskId t T hT
    obtain ⟨B, hB, (hst : B.state = .dead)⟩ := bodyOfPhase hph
    have hsn : B.stack = none := by
      have := inv.stackState T.id b B hB
      simpa [hst] using this
    simp only [step, taskExecute, hT, hB]
    have hr := (resurrect_dead (B1 := { B with state := .created, iteration := B.iteration + 1 })
      (inv.body T.id b B hB).2.1).2 ⟨hst, by rw [inv.flagsOf hT hB]; exact hres, rfl⟩
    exact ⟨_, bodyExecute_ok.2 ⟨_, hr.1, rfl, hsn, (nestGuard_iff inv s).2 hcan, rfl⟩⟩
  | @pause s t b f hf hp hph htop =>
    obtain ⟨T, hT, rfl⟩ := abs_flags.1 hf
    obtain ⟨B, hB, hst⟩ := bodyOfPhase hph
    exact ⟨_, (lookup_ok inv).2 ⟨T, B, hT, hB,
      bodyPause_ok.2 ⟨by rw [inv.flagsOf hT hB]; exact hp, hst, inv.stackOf (List.mem_of_head? htop) hB, htop, rfl⟩⟩⟩
  | @resume s t b hph htop =>
    obtain ⟨B, hB, hst⟩ := bodyOfPhase hph
    obtain ⟨_, _, T, hT, _⟩ := inv.body t b B hB
    exact ⟨_, (lookup_ok inv).2 ⟨T, B, hT, hB,
      bodyResume_ok.2 ⟨hst, inv.stackOf (List.mem_of_head? htop) hB, htop, rfl⟩⟩⟩
  | @end_ s t b hph htop =>
    obtain ⟨B, hB, hst⟩ := bodyOfPhase hph
    obtain ⟨_, _, T, hT, _⟩ := inv.body t b B hB
    exact ⟨_, (lookup_ok inv).2 ⟨T, B, hT, hB,
      bodyEnd_ok.2 ⟨hst, inv.stackOf (List.mem_of_head? htop) hB, htop, rfl⟩⟩⟩

theorem Spec.Step.det {a a1 a2 : Abs} {op : Op} (h1 : Step a op a1) (h2 : Step a op a2) : a1 = a2 := by
  cases h1 <;> cases h2 <;> rfl

/-- Under the invariant the module takes exactly the steps of the specification.  (With `abs σ'` for `a'` and
    `σ'` given, right to left is false: `abs` forgets ids and counters.) -/
theorem step_iff {σ : Sys} {op : Op} {a' : Abs} (inv : Inv σ) :
    (∃ σ', step σ op = .ok σ' ∧ abs σ' = a') ↔ Step (abs σ) op a' := by
  constructor
  · rintro ⟨σ', hs, rfl⟩; exact (step_sound inv hs).2
  · intro st
    obtain ⟨σ', hs⟩ := step_complete inv st
    exact ⟨σ', hs, ((step_sound inv hs).2).det st⟩

theorem run_induct {I : Sys → Prop} (hI : ∀ σ σ' op, I σ → step σ op = .ok σ' → I σ')
    {σ σ' : Sys} {ops : List Op} (h0 : I σ) (h : run σ ops = .ok σ') : I σ' := by
  induction ops generalizing σ with
  | nil => cases h; exact h0
  | cons op ops ih =>
    obtain ⟨σ1, hs, h⟩ := run_cons.1 h
    exact ih (hI σ σ1 op h0 hs) h

theorem run_inv {σ σ' : Sys} {ops : List Op} (inv : Inv σ) (h : run σ ops = .ok σ') : Inv σ' :=
  run_induct (fun _ _ _ inv hs => (step_sound inv hs).1) inv h

theorem run_below {σ σ' : Sys} {ops : List Op} (inv : Inv σ) (hb : Below (abs σ)) (h : run σ ops = .ok σ') :
    Below (abs σ') :=
  (run_induct (I := fun σ => Inv σ ∧ Below (abs σ))
    (fun _ _ _ ⟨inv, hb⟩ hs => ⟨(step_sound inv hs).1, below_step (ainv_of_inv inv) hb (step_sound inv hs).2⟩)
    ⟨inv, hb⟩ h).2

theorem run_ok_iff {σ : Sys} {ops : List Op} (inv : Inv σ) :
    (∃ σ', run σ ops = .ok σ') ↔ Legal (abs σ) ops := by
  induction ops generalizing σ with
  | nil => exact ⟨fun _ => Legal.nil, fun _ => ⟨σ, rfl⟩⟩
  | cons op ops ih =>
    constructor
    · rintro ⟨σ', h⟩
      obtain ⟨σ1, hs, h⟩ := run_cons.1 h
      obtain ⟨inv1, st⟩ := step_sound inv hs
      exact Legal.cons st ((ih inv1).1 ⟨σ', h⟩)
    · intro h
      cases h with
      | cons st rest =>
        obtain ⟨σ1, hs, rfl⟩ := (step_iff inv).2 st
        obtain ⟨σ', h'⟩ := (ih (step_sound inv hs).1).2 rest
        exact ⟨σ', run_cons.2 ⟨σ1, hs, h'⟩⟩

end Ovni.Task
