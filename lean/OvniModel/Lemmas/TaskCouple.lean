import OvniModel.Lemmas.TaskCoupleSets
import OvniModel.Lemmas.CoreBayInit

/-
  C06, the coupling between the task layer and the thread channels: the
  invariant `Coupled` and its preservation by every accepted event; for C20, which real
  channels a task event leaves dirty (`taskHook_task_dirty`); at the end, that the hook accepts
  what the task layer accepts (`taskHook_accepts_iff`).
-/
namespace Ovni.Emu
open Ovni.Generated

def specOf : Ovni.Task.Model → ModelSpec
  | .nosv => specNosv
  | .nanos6 => specNanos6

/-- `k` is the position of the model `tm` (nOS-V / Nanos6) in the spec list of `e`; the real
    channels are flushed and have the duplicate policies of setup.c. -/
structure Coupled (tm : Ovni.Task.Model) (k : Nat) (e : Emu) (ε : Ovni.Task.Emu) : Prop where
  maxStack : e.maxStack = maxChanStack
  ss : ∀ ti, ti < e.threads.length →
    ∃ c, e.src (.raw ti k (taskIdx tm).ss) = some c ∧ StackIs c tm.cfg.dupSs (ε.ss ti)
  single : ∀ ti, ti < e.threads.length → ∀ f ∈ taskFields tm,
    ∃ c, e.src (.raw ti k f.1) = some c ∧ SingleIs c f.2.1 (f.2.2 (ε.ch ti))

/-- One event concerns one thread `ti`: the other threads keep their channels of the group and their
    copy; each coupled channel of `ti` becomes one that, once flushed, holds the new copy. -/
theorem Coupled.next {tm : Ovni.Task.Model} {k : Nat} {e e1 : Emu} {ε ε' : Ovni.Task.Emu} (hc : Coupled tm k e ε)
    (hlen : e1.threads.length = e.threads.length) (hms : e1.maxStack = e.maxStack) (ti : Nat)
    (hoth : ∀ g, g ≠ ti → ε'.ss g = ε.ss g ∧ ε'.ch g = ε.ch g ∧ ∀ i, e1.src (.raw g k i) = e.src (.raw g k i))
    (hss : ∀ c, e.src (.raw ti k (taskIdx tm).ss) = some c → StackIs c tm.cfg.dupSs (ε.ss ti) →
      ∃ c1, e1.src (.raw ti k (taskIdx tm).ss) = some c1 ∧ StackIs c1.flush tm.cfg.dupSs (ε'.ss ti))
    (hsingle : ∀ f ∈ taskFields tm, ∀ c, e.src (.raw ti k f.1) = some c → SingleIs c f.2.1 (f.2.2 (ε.ch ti)) →
      ∃ c1, e1.src (.raw ti k f.1) = some c1 ∧ SingleIs c1.flush f.2.1 (f.2.2 (ε'.ch ti))) :
    Coupled tm k e1.flushAll ε' := by
  have hl : e1.flushAll.threads.length = e.threads.length := by
    simp only [Emu.flushAll, List.length_map]; exact hlen
  have flushed : ∀ {s c1}, e1.src s = some c1 → e1.flushAll.src s = some c1.flush :=
    fun h => by rw [Emu.src_flushAll, h]; rfl
  refine ⟨hms.trans hc.maxStack, fun g hg => ?_, fun g hg f hf => ?_⟩
  · obtain ⟨c, h1, h2⟩ := hc.ss g (hl ▸ hg)
    by_cases hgt : g = ti
    · subst hgt
      obtain ⟨c1, h3, h4⟩ := hss c h1 h2
      exact ⟨_, flushed h3, h4⟩
    · obtain ⟨q1, _, q3⟩ := hoth g hgt
      exact ⟨_, flushed ((q3 _).trans h1), q1 ▸ h2.flush⟩
  · obtain ⟨c, h1, h2⟩ := hc.single g (hl ▸ hg) f hf
    by_cases hgt : g = ti
    · subst hgt
      obtain ⟨c1, h3, h4⟩ := hsingle f hf c h1 h2
      exact ⟨_, flushed h3, h4⟩
    · obtain ⟨_, q2, q3⟩ := hoth g hgt
      exact ⟨_, flushed ((q3 _).trans h1), q2 ▸ h2.flush⟩

theorem Coupled.keep {tm : Ovni.Task.Model} {k : Nat} {e e1 : Emu} {ε ε' : Ovni.Task.Emu} (hc : Coupled tm k e ε)
    (hlen : e1.threads.length = e.threads.length) (hms : e1.maxStack = e.maxStack)
    (hkeep : ∀ g i, e1.src (.raw g k i) = e.src (.raw g k i))
    (hch : ε'.ch = ε.ch) (hs : ε'.ss = ε.ss) : Coupled tm k e1.flushAll ε' :=
  hc.next hlen hms 0 (fun g _ => ⟨congrFun hs g, congrFun hch g, hkeep g⟩)
    (fun c h1 h2 => ⟨c, (hkeep _ _).trans h1, hs ▸ h2.flush⟩)
    (fun _ _ c h1 h2 => ⟨c, (hkeep _ _).trans h1, hch ▸ h2.flush⟩)

theorem Coupled.keep_ops {tm : Ovni.Task.Model} {k : Nat} {e e1 : Emu} {ε ε' : Ovni.Task.Emu} {Q : Src → Prop}
    (hc : Coupled tm k e ε) (hs : Shaped e) (h : Ops Q e e1) (hQ : ∀ g i, ¬ Q (.raw g k i))
    (hch : ε'.ch = ε.ch) (hss : ε'.ss = ε.ss) : Coupled tm k e1.flushAll ε' :=
  hc.keep (congrArg Shape.nT (h.upd hs).shape) h.maxStack (fun g i => h.frame hs (hQ g i)) hch hss

theorem Coupled.ss_op {tm : Ovni.Task.Model} {k : Nat} {e e1 : Emu} {ε : Ovni.Task.Emu} (hc : Coupled tm k e ε)
    (hlen : e1.threads.length = e.threads.length) (hms : e1.maxStack = e.maxStack) {ti : Nat} {c1 : Chan}
    {st : List Int} (h1 : e1.src (.raw ti k (taskIdx tm).ss) = some c1) (hst : StackIs c1.flush tm.cfg.dupSs st)
    (hfr : ∀ s, s ≠ .raw ti k (taskIdx tm).ss → e1.src s = e.src s) :
    Coupled tm k e1.flushAll { ε with ss := Ovni.Task.updFn ε.ss ti st } := by
  refine hc.next hlen hms ti (fun g hg => ⟨Ovni.Task.updFn_ne hg, rfl, fun i => hfr _ fun hq => hg (by injection hq)⟩)
    (fun _ _ _ => ⟨c1, h1, ?_⟩) (fun f hf c hsrc h2 => ⟨c, (hfr _ fun hq => ?_).trans hsrc, h2.flush⟩)
  · simpa only [Ovni.Task.updFn_same] using hst
  · injection hq with _ _ hq; exact ss_not_field tm f hf hq

/-- What the hook does on a task-state event, at the level of `Emu.src`: the step of the task layer on
    its copy, and each write of `taskHook_task_iff` on its channel of the thread, nothing else. -/
theorem taskHook_task_src {tm : Ovni.Task.Model} {P : Ovni.Task.ProcInfo} {ε : Ovni.Task.Emu} {e e1 : Emu}
    {ti mc a k t bp : Nat} {tv : Ovni.Task.TaskEv} {p : List Nat} {ms : ModelSpec} (hs : Shaped e)
    (hk : e.specs[k]? = some ms) (hmc : ms.char = mc)
    (h : taskHook tm P ε (.task ti tv t bp) e ti mc a p = .ok e1) :
    ∃ sys' ss' ch',
      Ovni.Task.Emu.step tm P ε (.task ti tv t bp) =
        .ok { sys := sys', ch := Ovni.Task.updFn ε.ch ti ch', ss := Ovni.Task.updFn ε.ss ti ss' } ∧
      Ovni.Task.updateSs tm (ε.ss ti) tv = .ok ss' ∧
      (∀ f ∈ taskFields tm, f ∉ writtenFields tm P → f.2.2 ch' = f.2.2 (ε.ch ti)) ∧
      e1.shape = e.shape ∧ e1.maxStack = e.maxStack ∧
      (∀ w ∈ ssPart tm tv ++ fieldWrites tm P ch', ∃ c c', e.src (.raw ti k w.chan) = some c ∧
        wrOp e.maxStack w c = .ok c' ∧ e1.src (.raw ti k w.chan) = some c') ∧
      (∀ s, (∀ w ∈ ssPart tm tv ++ fieldWrites tm P ch', s ≠ .raw ti k w.chan) → e1.src s = e.src s) := by
  obtain ⟨ε', hst, h⟩ := taskHook_task_iff.mp h
  obtain ⟨sys', ss', ch', _, h2, h3, _, rfl⟩ := Ovni.Task.updateTask_ok.mp (Ovni.Task.Emu.step_task ▸ hst)
  simp only [Ovni.Task.updFn_same] at h
  have ops := applyWrites_ops _ h
  refine ⟨sys', ss', ch', hst, h2, (updateChannels_fields h3).2.2, (ops.upd hs).shape, ops.maxStack,
    applyWrites_src _ hs hk hmc (taskWrites_nodup tm P tv ch') h, fun s hne => ops.frame hs ?_⟩
  rintro ⟨w, hw, hr⟩
  exact hne w hw (rawAt_eq hs hk hmc hr)

/-- Every channel operation the hook performs on the thread's channels is the one
    `Ovni.Task.Emu.step` performed on the copy. -/
theorem coupled_taskHook {tm : Ovni.Task.Model} {P : Ovni.Task.ProcInfo} {ε ε' : Ovni.Task.Emu} {ev : Ovni.Task.Ev}
    {e e1 : Emu} {ti mc a k : Nat} {p : List Nat} {ms : ModelSpec} (hs : Shaped e) (hk : e.specs[k]? = some ms)
    (hmc : ms.char = mc) (hcp : Coupled tm k e ε)
    (h : taskHook tm P ε ev e ti mc a p = .ok e1) (hε : Ovni.Task.Emu.step tm P ε ev = .ok ε') :
    Coupled tm k e1.flushAll ε' := by
  obtain ⟨_, ⟨hcreate, rfl⟩ | ⟨tv, t, bp, _, rfl, _⟩⟩ := taskHook_cases h
  · obtain ⟨hch, hss⟩ : ε'.ch = ε.ch ∧ ε'.ss = ε.ss := by
      rcases hcreate with ⟨_, _, _, rfl⟩ | ⟨_, _, _, rfl⟩
      · exact Ovni.Task.Emu.step_type_keeps hε
      · exact Ovni.Task.Emu.step_create_keeps hε
    exact hcp.keep rfl rfl (fun _ _ => rfl) hch hss
  · obtain ⟨sys', ss', ch', hst, h2, hun, hsh, hms, hw, hfr⟩ := taskHook_task_src hs hk hmc h
    rw [hε] at hst; cases hst
    -- a write on the channel of a field is the `chan_set` of that field, and no write is on the
    -- subsystem channel but the one of `ssPart`
    have hfield : ∀ {w}, w ∈ fieldWrites tm P ch' → ∀ f ∈ taskFields tm, w.chan = f.1 → f ∈ writtenFields tm P := by
      intro w hw f hf hq
      obtain ⟨g, hg, rfl⟩ := mem_fieldWrites.mp hw
      exact writtenFields_of_chan hf hg hq
    refine hcp.next (congrArg Shape.nT hsh) hms ti
      (fun g hg => ⟨Ovni.Task.updFn_ne hg, Ovni.Task.updFn_ne hg, fun i => hfr _ fun w _ hq => hg (by injection hq)⟩) ?_ ?_
    · -- the subsystem channel
      intro c hsrc hst
      simp only [Ovni.Task.updFn_same]
      by_cases hnil : ssPart tm tv = []
      · rw [updateSs_of_ssPart_nil hnil h2]
        refine ⟨c, (hfr _ fun w hw hq => ?_).trans hsrc, hst.flush⟩
        rw [hnil] at hw
        obtain ⟨f, hf, rfl⟩ := mem_fieldWrites.mp hw
        injection hq with _ _ hq
        exact ss_not_field tm f (mem_writtenFields.mp hf).1 hq.symm
      · obtain ⟨w, hwm⟩ := List.exists_mem_of_ne_nil _ hnil
        obtain ⟨c0, c', q1, q2, q3⟩ := hw w (List.mem_append_left _ hwm)
        rw [ssPart_chans _ _ w hwm] at q1 q3
        cases q1.symm.trans hsrc
        obtain ⟨_, h2', rfl⟩ := (hst.wrOp_ssPart_iff hwm).mp (hcp.maxStack ▸ q2)
        cases h2.symm.trans h2'
        exact ⟨_, q3, hst.wr _⟩
    · -- the single channels
      intro f hf c hsrc hsi
      simp only [Ovni.Task.updFn_same]
      by_cases hwf : f ∈ writtenFields tm P
      · obtain ⟨c0, c', q1, q2, q3⟩ := hw _ (List.mem_append_right _ (mem_fieldWrites.mpr ⟨f, hwf, rfl⟩))
        cases q1.symm.trans hsrc
        exact ⟨c', q3, (hsi.set_ok_iff.mp q2).2 ▸ hsi.wr _⟩
      · refine ⟨c, (hfr _ fun w hw hq => ?_).trans hsrc, hun f hf hwf ▸ hsi.flush⟩
        injection hq with _ _ hq
        rcases List.mem_append.mp hw with hw | hw
        · exact ss_not_field tm f hf (hq.trans (ssPart_chans _ _ w hw))
        · exact hwf (hfield hw f hf hq.symm)

/-- The task-layer event that a table event of the model is: a row on the subsystem channel is a
    push / pop of the copy.  Actions as `tableEvent` reads them: 1 = PUSH, 2 = POP, 3 = SET, 4 = IGN. -/
def ssEvOf (tm : Ovni.Task.Model) (ti m c v : Nat) : Option Ovni.Task.Ev :=
  if m = (specOf tm).char then
    match (specOf tm).table.find? (fun r => r.1 == c && r.2.1 == v) with
    | some (_, _, ch, act, st) =>
      if ch = (taskIdx tm).ss then
        (if act = 1 then some (.ssPush ti st) else if act = 2 then some (.ssPop ti st) else none)
      else none
    | none => none
  else none

end Ovni.Emu

namespace Ovni.Props.C06
open Ovni.Emu

/-- `none`: not a task event (the hook then refuses it) -/
def hookOf (tm : Ovni.Task.Model) (P : Ovni.Task.ProcInfo) (ε : Ovni.Task.Emu) :
    Option Ovni.Task.Ev → Emu → Nat → Nat → Nat → List Nat → Except Err Emu
  | some x => taskHook tm P ε x
  | none => fun _ _ _ _ _ => .error .unknownEvent

def advanceT (tm : Ovni.Task.Model) (P : Ovni.Task.ProcInfo) (ε : Ovni.Task.Emu) : Option Ovni.Task.Ev → Ovni.Task.Emu
  | some x => (match Ovni.Task.Emu.step tm P ε x with | .ok ε' => ε' | .error _ => ε)
  | none => ε

end Ovni.Props.C06

namespace Ovni.Emu
open Ovni.Generated Ovni.Props.C06

theorem specOf_ooc (tm : Ovni.Task.Model) : (specOf tm).outOfCpu = [] := by cases tm <;> rfl

theorem table_rows_not_fields (tm : Ovni.Task.Model) :
    ∀ r ∈ (specOf tm).table, ∀ f ∈ taskFields tm, r.2.2.1 ≠ f.1 := by
  cases tm <;> decide

/-- A row on the subsystem channel pushes / pops the real channel exactly when `ssPush` / `ssPop`
    accept it on the copy; the other rows (idle, thread type) touch no task channel. -/
theorem coupled_tableEvent {tm : Ovni.Task.Model} {P : Ovni.Task.ProcInfo} {ε : Ovni.Task.Emu} {e e1 : Emu}
    {ti c v k : Nat} (hs : Shaped e) (hk : e.specs[k]? = some (specOf tm)) (hcp : Coupled tm k e ε)
    (h : Ovni.Emu.tableEvent e ti (specOf tm) c v = .ok e1) :
    Coupled tm k e1.flushAll (advanceT tm P ε (ssEvOf tm ti (specOf tm).char c v)) := by
  obtain ⟨rc, rv, ch, act, st, hf, hcase⟩ := tableEvent_cases_noOoc (specOf_ooc tm) h
  have hrow := table_rows_not_fields tm _ (List.mem_of_find?_eq_some hf)
  simp only at hrow
  have hssev : ssEvOf tm ti (specOf tm).char c v =
      if ch = (taskIdx tm).ss then
        (if act = 1 then some (.ssPush ti st) else if act = 2 then some (.ssPop ti st) else none)
      else none := by
    simp only [ssEvOf, if_true, hf]
  rw [hssev]
  rcases hcase with ⟨rfl, rfl⟩ | ⟨w, hact, hw⟩
  · -- IGN
    simp only [show ¬ (4 = 1) by decide, show ¬ (4 = 2) by decide, if_false, ite_self, advanceT]
    exact hcp.keep rfl rfl (fun _ _ => rfl) rfl rfl
  -- one operation `w` on channel `ch` of thread `ti`
  obtain ⟨c0, c1, a1, a2, a3, a4, _, hsh⟩ := withChan_src hs hk rfl hw
  have hlen : e1.threads.length = e.threads.length := congrArg Shape.nT hsh
  have hms := withChan_maxStack hw
  by_cases hch : ch = (taskIdx tm).ss
  · rw [if_pos hch]
    subst hch
    obtain ⟨c, b1, b2⟩ := hcp.ss ti (hs.raw_lt a1)
    rw [a1] at b1; cases b1
    rw [hcp.maxStack] at a2
    rcases hact with ⟨rfl, rfl⟩ | ⟨rfl, rfl⟩ | ⟨rfl, rfl⟩
    · -- PUSH
      obtain ⟨r, r1, rfl⟩ := b2.push_ok_iff.mp a2
      simp only [if_true, advanceT, Ovni.Task.Emu.step, r1]
      exact hcp.ss_op hlen hms a3 (b2.wr r) a4
    · -- POP
      obtain ⟨r, r1, rfl⟩ := b2.pop_ok_iff.mp a2
      simp only [show ¬ (2 = 1) by decide, if_false, if_true, advanceT, Ovni.Task.Emu.step, r1]
      exact hcp.ss_op hlen hms a3 (b2.wr r) a4
    · -- SET on a stack channel: refused by `chan_set`
      exact absurd (b2.isSt.symm.trans (Chan.set_ok_iff.mp a2).1) nofun
  · -- a write on a channel that is not the subsystem channel keeps everything coupled
    rw [if_neg hch]
    refine hcp.next hlen hms ti (fun g hg => ⟨rfl, rfl, fun i => a4 _ fun hq => hg (by injection hq)⟩)
      (fun c h1 h2 => ⟨c, (a4 _ fun hq => ?_).trans h1, h2.flush⟩)
      (fun f hff c h1 h2 => ⟨c, (a4 _ fun hq => ?_).trans h1, h2.flush⟩)
    · injection hq with _ _ hq; exact hch hq.symm
    · injection hq with _ _ hq; exact hrow f hff hq.symm

/-- `model_event` hands the event to the task layer (`79` = `'O'`, the ovni
    model, `Ovni.Generated.Ovni.modelChar`) -/
def routedTo (m c : Nat) : Bool :=
  m != 79 && (match findSpec m with | some s => s.taskCats.contains c | none => false)

/-- A task event (routed to the hook) belongs to the model `tm` of this task layer; any other
    event is decoded as the subsystem push / pop its table row is (`ssEvOf`), or not at all. -/
def DecodedOk (tm : Ovni.Task.Model) (ti m c v : Nat) (tev : Option Ovni.Task.Ev) : Prop :=
  if routedTo m c = true then m = (specOf tm).char else tev = ssEvOf tm ti m c v

theorem findSpec_specOf (tm : Ovni.Task.Model) : findSpec (specOf tm).char = some (specOf tm) := by
  cases tm <;> rfl

theorem specOf_char_ne (tm : Ovni.Task.Model) : (specOf tm).char ≠ 79 ∧ (specOf tm).char ≠ markGroup := by
  cases tm <;> decide

theorem hookSim_hookOf (tm : Ovni.Task.Model) (P : Ovni.Task.ProcInfo) (ε : Ovni.Task.Emu)
    (tev : Option Ovni.Task.Ev) : HookSim (hookOf tm P ε tev) := by
  cases tev with
  | some x => exact hookSim_task tm P ε x
  | none => exact hookSim_none

theorem coupled_modelEvent {tm : Ovni.Task.Model} {P : Ovni.Task.ProcInfo} {tab : List MarkType} {ε : Ovni.Task.Emu}
    {e e1 : Emu} {ti m c v k : Nat} {p : List Nat} {tev : Option Ovni.Task.Ev}
    (hs : Shaped e) (hk : e.specs[k]? = some (specOf tm)) (hcp : Coupled tm k e ε)
    (hd : DecodedOk tm ti m c v tev)
    (h : Ovni.Emu.modelEvent e ti m c v p (hookOf tm P ε tev) (fun e ti _ v p => markEvent tab e ti v p) = .ok e1) :
    Coupled tm k e1.flushAll (advanceT tm P ε tev) := by
  obtain ⟨spec, hfs, _, ⟨h79, ho⟩ | ⟨h79, hcat, _, hth⟩ | ⟨h79, hcat, hta⟩⟩ := modelEvent_cases h
  · -- the ovni model: system channels, the flush channel, the mark group
    subst h79
    have htev : tev = none := by
      have := hd
      simp only [DecodedOk, routedTo, bne_self_eq_false, Bool.false_and, Bool.false_eq_true, if_false] at this
      rw [this]
      simp only [ssEvOf, (specOf_char_ne tm).1.symm, if_false]
    subst htev
    rcases ovniEvent_ops hs ho with ho | ho
    · obtain ⟨_, _, w, _, ho⟩ := markEvent_cases ho
      exact hcp.keep_ops hs (withChan_ops (chanOp_wrOp _ w) ho) (fun _ _ => rawAt_ne hk (specOf_char_ne tm).2) rfl rfl
    · exact hcp.keep_ops hs ho (fun _ _ hq => hq.elim id (rawAt_ne hk (specOf_char_ne tm).1)) rfl rfl
  · -- a task event
    have hmm : m = (specOf tm).char := by
      have := hd
      simp only [DecodedOk, routedTo, hfs, hcat, Bool.and_true, bne_iff_ne, ne_eq, h79, not_false_eq_true,
        if_true] at this
      exact this
    cases tev with
    | none => cases hth
    | some x =>
      replace hth : taskHook tm P ε x e ti m c p = .ok e1 := hth
      obtain ⟨⟨ε', hst⟩, _⟩ := taskHook_cases hth
      simp only [advanceT, hst]
      exact coupled_taskHook hs hk hmm.symm hcp hth hst
  · -- a table event
    have htev : tev = ssEvOf tm ti m c v := by
      have := hd
      simp only [DecodedOk, routedTo, hfs, hcat, Bool.and_false, Bool.false_eq_true, if_false] at this
      exact this
    subst htev
    by_cases hmm : m = (specOf tm).char
    · subst hmm
      rw [findSpec_specOf] at hfs
      cases hfs
      exact coupled_tableEvent hs hk hcp hta
    · have : ssEvOf tm ti m c v = none := by simp only [ssEvOf, hmm, if_false]
      rw [this]
      exact hcp.keep_ops hs (tableEvent_ops hta)
        (fun _ _ ⟨_, _, hq⟩ => rawAt_ne hk (fun hq => hmm (by rw [← findSpec_char hfs, ← hq])) hq) rfl rfl

/-- Right after `emu_connect`: all task channels are null / empty, with the stack / duplicate
    properties of setup.c (`Ovni.Task.Cfg` reads the same generated `chan_dup[]`). -/
theorem coupled_init (tm : Ovni.Task.Model) (threads : List (Int × Int × Nat)) (cpus : List (Nat × Int × Bool))
    (enabled : List Nat) (lint : Bool) (extra : List ModelSpec) {k : Nat}
    (hk : (mkEmu threads cpus enabled lint extra).specs[k]? = some (specOf tm)) :
    Coupled tm k (mkEmu threads cpus enabled lint extra) Ovni.Task.Emu.init := by
  have hsrc : ∀ ti i, ti < (mkEmu threads cpus enabled lint extra).threads.length → i < (specOf tm).nch →
      (mkEmu threads cpus enabled lint extra).src (.raw ti k i) = some ((specOf tm).freshChans.getD i {}) := by
    intro ti i hti hi
    rw [mkEmu_eq] at hk hti ⊢
    rw [mkEmuWith_src _ _ _ _ _ _ (fun m => by rw [m.freshChans_eq, List.length_map]; exact m.dirtyChans_length) _
      ((Shape.mem_raw _ ti k i).mpr ⟨hti, _, hk, hi⟩)]
    simp only [srcWith, ← mkEmuWith_specs ModelSpec.freshChans threads cpus enabled lint extra, hk]
  refine ⟨rfl, ?_, ?_⟩
  · intro ti hti
    refine ⟨_, hsrc ti _ hti (by cases tm <;> decide), ?_⟩
    cases tm <;> exact ⟨by rfl, by rfl, by rfl, by rfl, by rfl, by rfl⟩
  · intro ti hti f hf
    refine ⟨_, hsrc ti _ hti (by revert f; cases tm <;> decide), ?_⟩
    revert f
    cases tm
    all_goals
      intro f hf
      simp only [taskFields, taskIdx, TaskChanIdx.nosv, TaskChanIdx.nanos6, List.cons_append,
        List.nil_append, List.mem_cons, List.not_mem_nil, or_false] at hf
      rcases hf with rfl | rfl | rfl | rfl | rfl <;> exact ⟨by rfl, by rfl, by rfl, by rfl, by rfl, by rfl⟩

/-! After an accepted task-state event in a coupled state, the real subsystem channel (events `x`,
    `e`) and the real task-type channel (all four) of the thread are DIRTY: the hook writes them, and
    an accepted operation on a channel that holds a copy takes effect (`StackIs.wrOp_ssPart_iff`,
    `SingleIs.set_ok_iff`). -/

section
open Ovni.Task

theorem taskHook_task_dirty {tm : Model} {P : ProcInfo} {ε : Ovni.Task.Emu} {e e' : Emu} {ti a k t bp : Nat}
    {tv : TaskEv} {p : List Nat} (hs : Shaped e) (hk : e.specs[k]? = some (specOf tm)) (hcp : Coupled tm k e ε)
    (h : taskHook tm P ε (.task ti tv t bp) e ti (specOf tm).char a p = .ok e') :
    (∃ ch, e'.src (.raw ti k (taskIdx tm).typ) = some ch ∧ ch.dirty = true) ∧
    ((tv = .x ∨ tv = .e) → ∃ ch, e'.src (.raw ti k (taskIdx tm).ss) = some ch ∧ ch.dirty = true) := by
  obtain ⟨_, ss', ch', _, h2, _, _, _, hw, _⟩ := taskHook_task_src hs hk rfl h
  constructor
  · -- the type is a written field
    obtain ⟨c0, c1, q1, q2, q3⟩ := hw _ (List.mem_append_right _ (mem_fieldWrites.mpr ⟨_, typ_written tm P, rfl⟩))
    obtain ⟨c, b1, b2⟩ := hcp.single ti (hs.raw_lt q1) _ (typ_field tm)
    cases q1.symm.trans b1
    exact ⟨c1, q3, (b2.set_ok_iff.mp q2).2 ▸ rfl⟩
  · intro htv
    obtain ⟨w, hwm⟩ : ∃ w, w ∈ ssPart tm tv := by
      rcases htv with rfl | rfl <;> exact ⟨_, List.mem_singleton_self _⟩
    obtain ⟨c0, c1, q1, q2, q3⟩ := hw w (List.mem_append_left _ hwm)
    rw [ssPart_chans _ _ w hwm] at q1 q3
    obtain ⟨c, b1, b2⟩ := hcp.ss ti (hs.raw_lt q1)
    cases q1.symm.trans b1
    obtain ⟨_, _, rfl⟩ := (b2.wrOp_ssPart_iff hwm).mp (hcp.maxStack ▸ q2)
    exact ⟨_, q3, rfl⟩


/-! In a coupled state the channel operations of the task hook never refuse what the task layer accepted
    on its copy: the hook accepts exactly the events `Ovni.Task.Emu.step` accepts. -/

theorem taskHook_accepts_iff {tm : Ovni.Task.Model} {P : ProcInfo} {ε : Ovni.Task.Emu} {ev : Ev} {e : Emu}
    {ti a k : Nat} {p : List Nat} (hs : Shaped e) (hk : e.specs[k]? = some (specOf tm)) (hcp : Coupled tm k e ε)
    (hti : ti < e.threads.length) :
    (∃ e1, taskHook tm P ε ev e ti (specOf tm).char a p = .ok e1) ↔
      ((∃ ε', Ovni.Task.Emu.step tm P ε ev = .ok ε') ∧
        ((∃ t v bp, ev = .task ti v t bp) ∨ (∃ ty h f, ev = .typeCreate ty h f) ∨ (∃ par t ty, ev = .taskCreate par t ty))) := by
  constructor
  · rintro ⟨e1, h⟩
    exact ⟨(taskHook_cases h).1, taskHook_ev h⟩
  · rintro ⟨⟨ε', hst⟩, ⟨t, tv, bp, rfl⟩ | hcreate⟩
    · obtain ⟨σ', ss', ch', h1, h2, h3, _, rfl⟩ := Ovni.Task.updateTask_ok.mp (Ovni.Task.Emu.step_task ▸ hst)
      suffices ∃ e1, applyWrites e ti (specOf tm).char (ssPart tm tv ++ fieldWrites tm P ch') = .ok e1 from
        this.imp fun e1 hw => taskHook_task_iff.mpr ⟨_, hst, by simpa only [Ovni.Task.updFn_same] using hw⟩
      refine applyWrites_ok _ hs hk rfl (taskWrites_nodup tm P tv ch') fun w hw => ?_
      rcases List.mem_append.mp hw with hw | hw
      · -- the subsystem channel
        obtain ⟨c, b1, b2⟩ := hcp.ss ti hti
        exact ⟨c, _, ssPart_chans _ _ w hw ▸ b1, hcp.maxStack ▸ (b2.wrOp_ssPart_iff hw).mpr ⟨ss', h2, rfl⟩⟩
      · -- a `chan_set`
        obtain ⟨f, hf, rfl⟩ := mem_fieldWrites.mp hw
        obtain ⟨c, b1, b2⟩ := hcp.single ti hti f (mem_writtenFields.mp hf).1
        exact ⟨c, _, b1, b2.set_ok_iff.mpr ⟨(updateChannels_fields h3).2.1 f hf, rfl⟩⟩
    · exact ⟨e, taskHook_create e ti _ a p hst hcreate⟩

end

end Ovni.Emu
