import OvniModel.Emu.TaskHook
import OvniModel.Lemmas.TaskEmu
import OvniModel.Lemmas.Chan

/-
  C06, the coupling between the task layer's own copy of the task channels
  (`Ovni.Task.Emu.ch` / `.ss`, Emu/Task.lean) and the thread's real channels (Emu/Core.lean),
  one channel at a time: on a flushed channel that holds what the copy holds, `chan_set` /
  `chan_push` / `chan_pop` of chan.c and the task layer's `chanSet` / `ssPush` / `ssPop`
  accept the same operations and lead to related states again.
-/
namespace Ovni.Emu
open Ovni.Generated

/-- `none` = `value_null()` -/
def ofOpt : Option Int → Value
  | none => .null
  | some i => .int i

structure SingleIs (c : Chan) (dup : Bool) (v : Option Int) : Prop where
  isSt : c.isStack = false
  dup : c.allowDup = dup
  ign : c.ignoreDup = false
  clean : c.dirty = false
  cur : c.cur = ofOpt v
  last : c.last = ofOpt v

/-- head of `st` = top -/
structure StackIs (c : Chan) (dup : Bool) (st : List Int) : Prop where
  isSt : c.isStack = true
  dup : c.allowDup = dup
  ign : c.ignoreDup = false
  clean : c.dirty = false
  vals : c.vals = st.reverse.map Value.int
  last : c.last = c.cur

theorem SingleIs.flush {c : Chan} {dup : Bool} {v : Option Int} (h : SingleIs c dup v) : SingleIs c.flush dup v := by
  rw [Chan.flush_of_clean h.clean]; exact h

theorem StackIs.flush {c : Chan} {dup : Bool} {st : List Int} (h : StackIs c dup st) : StackIs c.flush dup st := by
  rw [Chan.flush_of_clean h.clean]; exact h

theorem StackIs.cur_eq {c : Chan} {dup : Bool} {st : List Int} (h : StackIs c dup st) : c.cur = ofOpt st.head? := by
  unfold Chan.cur
  rw [h.vals]
  cases st with
  | nil => rfl
  | cons x r => simp [ofOpt]

theorem ofOpt_eq_iff {a b : Option Int} : ofOpt a = ofOpt b ↔ a = b := by
  cases a <;> cases b <;> simp [ofOpt]

/-! A channel that holds a copy has no `CHAN_IGNORE_DUP` and is clean, so an accepted operation always
    takes effect: `c' = c.wr _` (dirty), and what it writes is what the copy holds after its own
    operation (`SingleIs.wr`, `StackIs.wr`). -/

theorem SingleIs.wr {c : Chan} {dup : Bool} {v0 : Option Int} (h : SingleIs c dup v0) (v : Option Int) :
    SingleIs (c.wr (ofOpt v).single).flush dup v := by
  rw [Chan.flush_wr]
  exact ⟨h.isSt, h.dup, h.ign, rfl, Value.cur_single _ c, Value.cur_single _ c⟩

theorem StackIs.wr {c : Chan} {dup : Bool} {st : List Int} (h : StackIs c dup st) (st' : List Int) :
    StackIs (c.wr (st'.reverse.map .int)).flush dup st' := by
  rw [Chan.flush_wr]
  exact ⟨h.isSt, h.dup, h.ign, rfl, rfl, rfl⟩

theorem SingleIs.set_ok_iff {c c' : Chan} {dup : Bool} {v0 v : Option Int} (h : SingleIs c dup v0) :
    c.set (ofOpt v) = .ok c' ↔ (∃ w, Ovni.Task.chanSet dup v0 v = .ok w) ∧ c' = c.wr (ofOpt v).single := by
  rw [Chan.set_ok_iff]
  cases dup <;>
    simp [h.isSt, Chan.open_of_clean h.clean, h.ign, Chan.IsDup, h.dup, h.last, ofOpt_eq_iff, Ovni.Task.chanSet_ok]

theorem SingleIs.set_accepts_iff {c : Chan} {dup : Bool} {v0 : Option Int} (h : SingleIs c dup v0) (v : Option Int) :
    (∃ c', c.set (ofOpt v) = .ok c') ↔ (∃ w, Ovni.Task.chanSet dup v0 v = .ok w) :=
  ⟨fun ⟨_, hs⟩ => (h.set_ok_iff.mp hs).1, fun hw => ⟨_, h.set_ok_iff.mpr ⟨hw, rfl⟩⟩⟩

theorem StackIs.last_eq {c : Chan} {dup : Bool} {st : List Int} (h : StackIs c dup st) (v : Int) :
    c.last = Value.int v ↔ st.head? = some v := by
  rw [h.last, h.cur_eq]
  cases st with
  | nil => simp [ofOpt]
  | cons x r => simp [ofOpt]

/-- The bound is `maxChanStack` here and `e.maxStack` in `applyWrites`; they agree in a coupled
    state (`Coupled.maxStack`). -/
theorem StackIs.push_ok_iff {c c' : Chan} {dup : Bool} {st : List Int} (h : StackIs c dup st) {v : Int} :
    c.push maxChanStack (.int v) = .ok c' ↔
      ∃ st', Ovni.Task.ssPush dup st v = .ok st' ∧ c' = c.wr (st'.reverse.map .int) := by
  rw [Chan.push_ok_iff]
  simp [h.isSt, Chan.open_of_clean h.clean, h.ign, Chan.IsDup, h.dup, h.last_eq, h.vals, Ovni.Task.ssPush,
    ite_eq_iff, and_assoc]

theorem StackIs.pop_ok_iff {c c' : Chan} {dup : Bool} {st : List Int} (h : StackIs c dup st) {v : Int} :
    c.pop (.int v) = .ok c' ↔ ∃ st', Ovni.Task.ssPop st v = .ok st' ∧ c' = c.wr (st'.reverse.map .int) := by
  rw [Chan.pop_ok_iff]
  cases st <;> simp [h.isSt, Chan.open_of_clean h.clean, h.vals, Ovni.Task.ssPop_ok, and_assoc]

theorem StackIs.push_accepts_iff {c : Chan} {dup : Bool} {st : List Int} (h : StackIs c dup st) (v : Int) :
    (∃ c', c.push maxChanStack (.int v) = .ok c') ↔ (∃ st', Ovni.Task.ssPush dup st v = .ok st') :=
  ⟨fun ⟨_, hp⟩ => (h.push_ok_iff.mp hp).imp fun _ => And.left, fun ⟨st', hs⟩ => ⟨_, h.push_ok_iff.mpr ⟨st', hs, rfl⟩⟩⟩

theorem StackIs.pop_accepts_iff {c : Chan} {dup : Bool} {st : List Int} (h : StackIs c dup st) (v : Int) :
    (∃ c', c.pop (.int v) = .ok c') ↔ (∃ st', Ovni.Task.ssPop st v = .ok st') :=
  ⟨fun ⟨_, hp⟩ => (h.pop_ok_iff.mp hp).imp fun _ => And.left, fun ⟨st', hs⟩ => ⟨_, h.pop_ok_iff.mpr ⟨st', hs, rfl⟩⟩⟩

end Ovni.Emu
