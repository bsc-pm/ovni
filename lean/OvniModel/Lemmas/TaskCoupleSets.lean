import OvniModel.Lemmas.TaskCoupleChan
import OvniModel.Lemmas.TaskHook

/-
  C06, the coupling between the task layer and the thread channels: the
  `chan_set`s of `update_task_channels`.  What `Ovni.Task.updateChannels`
  (Emu/Task.lean, on the task layer's copy) computes is what the writes
  `taskSets` (Emu/TaskHook.lean, on the thread's channels) store
  (`updateChannels_fields`); hence the hook on a state event in closed form
  (`taskHook_task_iff`), from which preservation of the coupling, totality and
  the dirty channels are read.
-/
namespace Ovni.Emu
open Ovni.Generated Ovni.Task

theorem chanSet_eq {dup : Bool} {cur v w : Option Int} (h : chanSet dup cur v = .ok w) : w = v :=
  (chanSet_ok.mp h).2

theorem updateChannels_sets {m : Model} {P : ProcInfo} {c ch' : Chans} {tr : Tr} {prev next : Option (Task × Body)}
    (h : updateChannels m P c tr prev next = .ok ch') :
    ∃ vals, setPart m P tr next = taskSets (taskIdx m) P vals ∧ chanSets m P c vals = .ok ch' := by
  cases tr
  case e | p => exact ⟨none, rfl, (chanStopped_eq m P c).symm.trans h⟩
  case x | r =>
    rcases next with _ | ⟨T, B⟩
    · cases h
    · exact ⟨some (B.id, T.id, T.gid), rfl, (chanRunning_ok.1 h).2.2.2⟩
  case X | E =>
    rcases prev with _ | ⟨Tp, Bp⟩
    · cases h
    · rcases next with _ | ⟨T, B⟩
      · cases h
      · exact ⟨some (B.id, T.id, T.gid), rfl, (chanSwitch_ok.1 h).2.2.2⟩

/-- the single-valued task channels of a model: channel index, duplicate policy
    (`chan_dup[]` of setup.c), field of the task layer's copy -/
def taskFields (m : Model) : List (Nat × Bool × (Chans → Option Int)) :=
  (match (taskIdx m).bodyid with | some i => [(i, m.cfg.dupBodyid, Chans.bodyid)] | none => []) ++
  [((taskIdx m).taskid, m.cfg.dupTaskid, Chans.taskid), ((taskIdx m).typ, m.cfg.dupType, Chans.typ)] ++
  (match (taskIdx m).appid with | some i => [(i, m.cfg.dupAppid, Chans.appid)] | none => []) ++
  [((taskIdx m).rank, m.cfg.dupRank, Chans.rank)]

theorem taskFields_nodup (m : Model) : ((taskFields m).map (·.1)).Nodup := by
  cases m <;> decide

theorem ss_not_sets (m : Model) : (taskIdx m).ss ∉ (taskIdx m).sets := by
  cases m
  · exact task_channel_groups.1
  · exact task_channel_groups.2.2.1

theorem taskFields_chans (m : Model) : (taskFields m).map (·.1) = (taskIdx m).sets := by
  cases m <;> rfl

theorem ss_not_field (m : Model) : ∀ f ∈ taskFields m, f.1 ≠ (taskIdx m).ss :=
  fun f hf hq => ss_not_sets m (hq ▸ taskFields_chans m ▸ List.mem_map.mpr ⟨f, hf, rfl⟩)

/-- the fields `update_task_channels` writes: the rank only with `proc->rank` -/
def writtenFields (m : Model) (P : ProcInfo) : List (Nat × Bool × (Chans → Option Int)) :=
  (taskFields m).filter fun f => f.1 ≠ (taskIdx m).rank || P.rank ≥ 0

def fieldWrites (m : Model) (P : ProcInfo) (ch' : Chans) : List TaskWr :=
  (writtenFields m P).map fun f => .set f.1 (ofOpt (f.2.2 ch'))

theorem mem_writtenFields {m : Model} {P : ProcInfo} {f : Nat × Bool × (Chans → Option Int)} :
    f ∈ writtenFields m P ↔ f ∈ taskFields m ∧ (f.1 = (taskIdx m).rank → P.rank ≥ 0) := by
  simp [writtenFields, Decidable.imp_iff_not_or]

theorem mem_fieldWrites {m : Model} {P : ProcInfo} {ch' : Chans} {w : TaskWr} :
    w ∈ fieldWrites m P ch' ↔ ∃ f ∈ writtenFields m P, TaskWr.set f.1 (ofOpt (f.2.2 ch')) = w :=
  List.mem_map

/-- Whether a field is written depends on its channel only. -/
theorem writtenFields_of_chan {m : Model} {P : ProcInfo} {f g : Nat × Bool × (Chans → Option Int)}
    (hf : f ∈ taskFields m) (hg : g ∈ writtenFields m P) (hq : g.1 = f.1) : f ∈ writtenFields m P :=
  mem_writtenFields.mpr ⟨hf, hq ▸ (mem_writtenFields.mp hg).2⟩

theorem typ_field (m : Model) : ((taskIdx m).typ, m.cfg.dupType, Chans.typ) ∈ taskFields m := by
  cases m <;> simp [taskFields, taskIdx, TaskChanIdx.nosv, TaskChanIdx.nanos6]

theorem typ_written (m : Model) (P : ProcInfo) :
    ((taskIdx m).typ, m.cfg.dupType, Chans.typ) ∈ writtenFields m P :=
  mem_writtenFields.mpr ⟨typ_field m, by cases m <;> exact fun h => absurd h (by decide)⟩

theorem chanSets_ok {m : Model} {P : ProcInfo} {c ch' : Chans} {vals : Option (Int × Int × Int)}
    (h : chanSets m P c vals = .ok ch') :
    ch' = setsRes m P c vals ∧
    ∀ f ∈ writtenFields m P, ∃ w', chanSet f.2.1 (f.2.2 c) (f.2.2 (setsRes m P c vals)) = .ok w' := by
  -- the rank is written only with `proc->rank`
  have hrank : ∀ {r}, (if P.rank ≥ 0 then chanSet m.cfg.dupRank c.rank (vals.map fun _ => P.rank + 1)
      else .ok c.rank) = .ok r →
      r = (if P.rank ≥ 0 then vals.map (fun _ => P.rank + 1) else c.rank) ∧ (P.rank ≥ 0 →
        ∃ w', chanSet m.cfg.dupRank c.rank (if P.rank ≥ 0 then vals.map (fun _ => P.rank + 1) else c.rank) = .ok w') := by
    intro r hr
    by_cases hp : P.rank ≥ 0
    · rw [if_pos hp] at hr ⊢; exact ⟨chanSet_eq hr, fun _ => ⟨r, hr⟩⟩
    · rw [if_neg hp] at hr ⊢; cases hr; exact ⟨rfl, fun h => absurd h hp⟩
  cases m
  · obtain ⟨b, hb, h⟩ := bind_ok h
    obtain ⟨t, ht, h⟩ := bind_ok h
    obtain ⟨y, hy, h⟩ := bind_ok h
    obtain ⟨a, ha, h⟩ := bind_ok h
    obtain ⟨r, hr, h⟩ := bind_ok h
    cases h
    refine ⟨by rw [chanSet_eq hb, chanSet_eq ht, chanSet_eq hy, chanSet_eq ha, (hrank hr).1]; rfl, fun f hf => ?_⟩
    obtain ⟨hf, hp⟩ := mem_writtenFields.mp hf
    simp only [taskFields, taskIdx, TaskChanIdx.nosv, List.cons_append, List.nil_append, List.mem_cons,
      List.not_mem_nil, or_false] at hf
    rcases hf with rfl | rfl | rfl | rfl | rfl
    · exact ⟨b, hb⟩
    · exact ⟨t, ht⟩
    · exact ⟨y, hy⟩
    · exact ⟨a, ha⟩
    · exact (hrank hr).2 (hp rfl)
  · obtain ⟨t, ht, h⟩ := bind_ok h
    obtain ⟨y, hy, h⟩ := bind_ok h
    obtain ⟨r, hr, h⟩ := bind_ok h
    cases h
    refine ⟨by rw [chanSet_eq ht, chanSet_eq hy, (hrank hr).1]; rfl, fun f hf => ?_⟩
    obtain ⟨hf, hp⟩ := mem_writtenFields.mp hf
    simp only [taskFields, taskIdx, TaskChanIdx.nanos6, List.cons_append, List.nil_append, List.mem_cons,
      List.not_mem_nil, or_false] at hf
    rcases hf with rfl | rfl | rfl
    · exact ⟨t, ht⟩
    · exact ⟨y, hy⟩
    · exact (hrank hr).2 (hp rfl)

theorem taskSets_eq (m : Model) (P : ProcInfo) (c : Chans) (vals : Option (Int × Int × Int)) :
    taskSets (taskIdx m) P vals = fieldWrites m P (setsRes m P c vals) := by
  cases m <;> cases vals <;> by_cases hr : P.rank ≥ 0 <;>
    simp [fieldWrites, writtenFields, taskFields, taskSets, setsRes, taskIdx, TaskChanIdx.nosv, TaskChanIdx.nanos6,
      ofOpt, hr]

theorem setsRes_unwritten {m : Model} {P : ProcInfo} (c : Chans) (vals : Option (Int × Int × Int))
    {f : Nat × Bool × (Chans → Option Int)} (hf : f ∈ taskFields m) (hn : f ∉ writtenFields m P) :
    f.2.2 (setsRes m P c vals) = f.2.2 c := by
  have hr : ¬ P.rank ≥ 0 := fun hr => hn (mem_writtenFields.mpr ⟨hf, fun _ => hr⟩)
  have hf' := hf
  cases m
  all_goals
    simp only [taskFields, taskIdx, TaskChanIdx.nosv, TaskChanIdx.nanos6, List.cons_append,
      List.nil_append, List.mem_cons, List.not_mem_nil, or_false] at hf'
    rcases hf' with rfl | rfl | rfl | rfl | rfl
  -- every field but the rank is written
  all_goals first
    | exact absurd (mem_writtenFields.mpr ⟨hf, fun h => absurd h (by decide)⟩) hn
    | simp only [setsRes, hr, if_false]

/-- **`update_task_channels` in closed form.**  Its `chan_set`s store the copy it returns, field by
    field, in the channels of the fields written; the copy accepted each of them; a field that is not
    written keeps its value. -/
theorem updateChannels_fields {m : Model} {P : ProcInfo} {c ch' : Chans} {tr : Tr} {prev next : Option (Task × Body)}
    (h : updateChannels m P c tr prev next = .ok ch') :
    setPart m P tr next = fieldWrites m P ch' ∧
    (∀ f ∈ writtenFields m P, ∃ w, chanSet f.2.1 (f.2.2 c) (f.2.2 ch') = .ok w) ∧
    (∀ f ∈ taskFields m, f ∉ writtenFields m P → f.2.2 ch' = f.2.2 c) := by
  obtain ⟨vals, hs, hc⟩ := updateChannels_sets h
  obtain ⟨rfl, hok⟩ := chanSets_ok hc
  exact ⟨hs.trans (taskSets_eq m P c vals), hok, fun _ => setsRes_unwritten c vals⟩

/-- An event writes each task channel at most once. -/
theorem taskWrites_nodup (m : Model) (P : ProcInfo) (tv : TaskEv) (ch' : Chans) :
    ((ssPart m tv ++ fieldWrites m P ch').map TaskWr.chan).Nodup := by
  have hnd : ((taskIdx m).ss :: (fieldWrites m P ch').map TaskWr.chan).Nodup := by
    rw [fieldWrites, List.map_map]
    refine List.nodup_cons.mpr ⟨fun h => ?_, (taskFields_nodup m).sublist (List.filter_sublist.map _)⟩
    obtain ⟨f, hf, hq⟩ := List.mem_map.mp h
    exact ss_not_field m f (mem_writtenFields.mp hf).1 hq
  cases tv
  case x | e => exact hnd
  case p | r => exact (List.nodup_cons.mp hnd).2

/-- **The hook on a task-state event, in closed form**: the step of the task layer on its copy, then
    on the thread the push / pop of the subsystem channel and one `chan_set` per written field, with
    the value the new copy holds there. -/
theorem taskHook_task_iff {m : Model} {P : ProcInfo} {ε : Ovni.Task.Emu} {e e' : Emu}
    {ti mc a t bp : Nat} {tv : TaskEv} {p : List Nat} :
    taskHook m P ε (.task ti tv t bp) e ti mc a p = .ok e' ↔
      ∃ ε', Ovni.Task.Emu.step m P ε (.task ti tv t bp) = .ok ε' ∧
        applyWrites e ti mc (ssPart m tv ++ fieldWrites m P (ε'.ch ti)) = .ok e' := by
  have hch : ∀ {σ' : Sys} {ss' : List Int} {ch' : Chans},
      ({ sys := σ', ch := updFn ε.ch ti ch', ss := updFn ε.ss ti ss' } : Ovni.Task.Emu).ch ti = ch' := updFn_same
  constructor
  · intro h
    obtain ⟨⟨ε', hst⟩, ⟨hev, _⟩ | ⟨_, _, _, sys', heq, hsys, hw⟩⟩ := taskHook_cases h
    · rcases hev with ⟨_, _, _, hev⟩ | ⟨_, _, _, hev⟩ <;> cases hev
    · cases heq
      obtain ⟨σ', ss', ch', h1, _, h3, _, rfl⟩ := updateTask_ok.mp (Emu.step_task ▸ hst)
      rw [hsys] at h1; cases h1
      refine ⟨_, hst, ?_⟩
      rw [hch]
      exact (updateChannels_fields h3).1 ▸ taskWrites_eq .. ▸ hw
  · rintro ⟨ε', hst, hw⟩
    obtain ⟨σ', ss', ch', h1, _, h3, _, rfl⟩ := updateTask_ok.mp (Emu.step_task ▸ hst)
    unfold taskHook
    simp only [hst, h1, ne_eq, not_true_eq_false, if_false]
    rw [taskWrites_eq, (updateChannels_fields h3).1]
    rwa [hch] at hw

/-- The `chan_push` / `chan_pop` of `update_task_ss_channel` on a coupled subsystem channel
    (`maxChanStack`: the `e.maxStack` of a coupled state) is `updateSs` on the copy, then the write of
    the new copy. -/
theorem StackIs.wrOp_ssPart_iff {m : Model} {tv : TaskEv} {c c' : Chan} {st : List Int} {w : TaskWr}
    (h : StackIs c m.cfg.dupSs st) (hw : w ∈ ssPart m tv) :
    wrOp maxChanStack w c = .ok c' ↔ ∃ ss', updateSs m st tv = .ok ss' ∧ c' = c.wr (ss'.reverse.map .int) := by
  cases tv <;> simp only [ssPart, List.mem_singleton, List.not_mem_nil] at hw <;> subst hw
  · exact h.push_ok_iff
  · exact h.pop_ok_iff

theorem updateSs_of_ssPart_nil {m : Model} {tv : TaskEv} {st ss' : List Int} (hnil : ssPart m tv = [])
    (h2 : updateSs m st tv = .ok ss') : ss' = st := by
  cases tv
  case x | e => cases hnil
  case p | r => cases h2; rfl

end Ovni.Emu
