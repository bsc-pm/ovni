import OvniModel.Lemmas.Task
import OvniModel.Lemmas.ExceptLemmas
/-! Event level of the task life-cycle: the thread view invariant of `update_task` (`EInv`), and the
    simulation of `Emu.step` by `Spec.EStep`. -/
namespace Ovni.Task
open Spec

theorem updFn_same {α : Type} {f : Nat → α} {i : Nat} {x : α} : updFn f i x i = x := if_pos rfl

theorem updFn_ne {α : Type} {f : Nat → α} {i j : Nat} {x : α} (h : j ≠ i) : updFn f i x j = f j := if_neg h

theorem updFn_self {α : Type} (f : Nat → α) (i : Nat) : updFn f i (f i) = f := by
  funext j
  by_cases h : j = i
  · subst h; exact updFn_same
  · exact updFn_ne h

/-- `proc->rank + 1`, or null without rank -/
def rankVal (P : ProcInfo) : Option Int := if P.rank ≥ 0 then some (P.rank + 1) else none

def showVals (m : Model) (P : ProcInfo) (t gid b : Nat) : Chans :=
  match m with
  | .nosv => ⟨some t, some gid, some b, some P.appid, rankVal P⟩
  | .nanos6 => ⟨some t, some gid, none, none, rankVal P⟩

def viewOf (m : Model) (P : ProcInfo) : Option (Task × Body) → Chans
  | none => Chans.null
  | some (T, B) => showVals m P T.id T.gid B.id

theorem nosv_body : Cfg.nosv.stTaskBody = Ovni.Generated.Nosv.stTaskBody ∧
    Cfg.nanos6.stTaskBody = Ovni.Generated.Nanos6.stTaskBody := ⟨rfl, rfl⟩

theorem chanSet_ok {dup : Bool} {cur v w : Option Int} :
    chanSet dup cur v = .ok w ↔ (dup = true ∨ cur ≠ v) ∧ w = v := by
  unfold chanSet
  cases dup <;> by_cases h : cur = v <;> simp [h, eq_comm]

/-- the channels after `chan_body_running` / `chan_body_switch` (`vals = some (body id, task id,
    type gid)`) or `chan_body_stopped` (`vals = none`); `chan_task_*` in Nanos6.  `Chans` is
    ⟨taskid, typ, bodyid, appid, rank⟩, so `vals` goes to fields 3, 1, 2. -/
def setsRes (m : Model) (P : ProcInfo) (c : Chans) (vals : Option (Int × Int × Int)) : Chans :=
  match m with
  | .nosv =>
    ⟨vals.map (·.2.1), vals.map (·.2.2), vals.map (·.1), vals.map (fun _ => P.appid),
      if P.rank ≥ 0 then vals.map (fun _ => P.rank + 1) else c.rank⟩
  | .nanos6 =>
    ⟨vals.map (·.2.1), vals.map (·.2.2), c.bodyid, c.appid,
      if P.rank ≥ 0 then vals.map (fun _ => P.rank + 1) else c.rank⟩

/-- `chanShow` (`vals = some (body id, task id, type gid)`) and `chanStopped`
    (`vals = none`) as one function of the values shown -/
def chanSets (m : Model) (P : ProcInfo) (c : Chans) (vals : Option (Int × Int × Int)) : Except Err Chans :=
  let k := m.cfg
  let r := if P.rank ≥ 0 then chanSet k.dupRank c.rank (vals.map fun _ => P.rank + 1) else .ok c.rank
  match m with
  | .nosv => do
    let b ← chanSet k.dupBodyid c.bodyid (vals.map (·.1))
    let t ← chanSet k.dupTaskid c.taskid (vals.map (·.2.1))
    let y ← chanSet k.dupType c.typ (vals.map (·.2.2))
    let a ← chanSet k.dupAppid c.appid (vals.map fun _ => P.appid)
    let r ← r
    pure ⟨t, y, b, a, r⟩
  | .nanos6 => do
    let t ← chanSet k.dupTaskid c.taskid (vals.map (·.2.1))
    let y ← chanSet k.dupType c.typ (vals.map (·.2.2))
    let r ← r
    pure ⟨t, y, c.bodyid, c.appid, r⟩

theorem chanShow_eq (m : Model) (P : ProcInfo) (c : Chans) (T : Task) (B : Body) :
    chanShow m P c T B = chanSets m P c (some ((B.id : Int), (T.id : Int), (T.gid : Int))) := by
  cases m <;> (unfold chanShow chanSets; by_cases hr : P.rank ≥ 0 <;> simp only [hr, if_true, if_false, Option.map_some] <;> rfl)

theorem chanStopped_eq (m : Model) (P : ProcInfo) (c : Chans) : chanStopped m P c = chanSets m P c none := by
  cases m <;> (unfold chanStopped chanSets; by_cases hr : P.rank ≥ 0 <;> simp only [hr, if_true, if_false, Option.map_none] <;> rfl)

/-- In both models the task-id channel is the only one that refuses a duplicate (`chan_dup[]` of
    setup.c, regenerated). -/
theorem chanSets_eq {m : Model} {P : ProcInfo} {c : Chans} {vals : Option (Int × Int × Int)}
    (h : c.taskid ≠ vals.map (·.2.1)) : chanSets m P c vals = .ok (setsRes m P c vals) := by
  have ht : chanSet false c.taskid (vals.map (·.2.1)) = .ok (vals.map (·.2.1)) := chanSet_ok.mpr ⟨.inr h, rfl⟩
  have hd : ∀ cur v, chanSet true cur v = .ok v := fun _ _ => chanSet_ok.mpr ⟨.inl rfl, rfl⟩
  cases m <;>
  · simp only [chanSets, setsRes, Model.cfg, Cfg.nosv, Cfg.nanos6, Ovni.Generated.Nosv.chanDup,
      Ovni.Generated.Nanos6.chanDup, List.getD_cons_zero, List.getD_cons_succ, ht, hd]
    by_cases hr : P.rank ≥ 0 <;> simp only [hr, if_true, if_false] <;> rfl

theorem setsRes_setsRes (m : Model) (P : ProcInfo) (c : Chans) (v w : Option (Int × Int × Int)) :
    setsRes m P (setsRes m P c v) w = setsRes m P c w := by
  cases m <;> by_cases hr : P.rank ≥ 0 <;> simp only [setsRes, hr, if_true, if_false]

theorem viewOf_eq_setsRes (m : Model) (P : ProcInfo) (next : Option (Task × Body)) :
    viewOf m P next = setsRes m P Chans.null (next.map fun x => (x.2.id, x.1.id, x.1.gid)) := by
  cases m <;> rcases next with _ | ⟨T, B⟩ <;> by_cases hr : P.rank ≥ 0 <;>
    simp only [setsRes, viewOf, showVals, rankVal, Chans.null, hr, if_true, if_false] <;> rfl

/-- From the view of `prev` to the view of `next`: the writes go through as soon as the task id
    changes. -/
theorem chanSets_view {m : Model} {P : ProcInfo} {prev next : Option (Task × Body)}
    (h : prev.map (fun x => (x.1.id : Int)) ≠ next.map (fun x => (x.1.id : Int))) :
    chanSets m P (viewOf m P prev) (next.map fun x => (x.2.id, x.1.id, x.1.gid)) = .ok (viewOf m P next) := by
  rw [chanSets_eq, viewOf_eq_setsRes m P next, viewOf_eq_setsRes m P prev, setsRes_setsRes]
  · cases m <;> rcases prev with _ | ⟨Tp, Bp⟩ <;> rcases next with _ | ⟨T, B⟩ <;> exact h

theorem chanStopped_view (m : Model) (P : ProcInfo) (T : Task) (B : Body) :
    chanStopped m P (viewOf m P (some (T, B))) = .ok Chans.null :=
  (chanStopped_eq ..).trans (chanSets_view (next := none) nofun)

theorem chanRunning_ok {m : Model} {P : ProcInfo} {c ch' : Chans} {T : Task} {B : Body} :
    chanRunning m P c (some (T, B)) = .ok ch' ↔
      T.id ≠ 0 ∧ T.gid ≠ 0 ∧ ¬(m = .nosv ∧ P.appid ≤ 0) ∧
        chanSets m P c (some ((B.id : Int), (T.id : Int), (T.gid : Int))) = .ok ch' := by
  rw [← chanShow_eq]
  unfold chanRunning
  by_cases h0 : T.id = 0
  · simp [h0]
  by_cases hg : T.gid = 0
  · simp [h0, hg]
  by_cases h4 : m = .nosv ∧ P.appid ≤ 0 <;> simp [h0, hg, h4]

theorem chanSwitch_ok {m : Model} {P : ProcInfo} {c ch' : Chans} {Tp T : Task} {Bp B : Body} :
    chanSwitch m P c (some (Tp, Bp)) (some (T, B)) = .ok ch' ↔
      samePtr m Tp Bp T B = false ∧ T.id ≠ 0 ∧ T.gid ≠ 0 ∧
        chanSets m P c (some ((B.id : Int), (T.id : Int), (T.gid : Int))) = .ok ch' := by
  rw [← chanShow_eq]
  unfold chanSwitch
  cases hs : samePtr m Tp Bp T B
  · by_cases h0 : T.id = 0
    · simp [hs, h0]
    by_cases hg : T.gid = 0 <;> simp [hs, h0, hg]
  · simp [hs]

/-- `hP` is what `chanRunning` tests for nOS-V only; here and below it is asked of both models. -/
theorem chanRunning_view {m : Model} {P : ProcInfo} {T : Task} {B : Body} (hP : 0 < P.appid)
    (h0 : T.id ≠ 0) (hg : T.gid ≠ 0) :
    chanRunning m P Chans.null (some (T, B)) = .ok (viewOf m P (some (T, B))) :=
  chanRunning_ok.2 ⟨h0, hg, by omega, chanSets_view (prev := none) (next := some (T, B)) nofun⟩

theorem chanSwitch_view {m : Model} {P : ProcInfo} {Tp T : Task} {Bp B : Body} (hne : Tp.id ≠ T.id)
    (h0 : T.id ≠ 0) (hg : T.gid ≠ 0) :
    chanSwitch m P (viewOf m P (some (Tp, Bp))) (some (Tp, Bp)) (some (T, B)) =
      .ok (viewOf m P (some (T, B))) :=
  chanSwitch_ok.2 ⟨by cases m <;> simp [samePtr, hne], h0, hg,
    chanSets_view (prev := some (Tp, Bp)) (next := some (T, B))
      fun h => hne (Int.ofNat_inj.1 (Option.some.inj h))⟩

theorem runningT_some {σ : Sys} {s : Nat} {T : Task} {B : Body} :
    σ.runningT s = some (T, B) ↔
      ∃ r, (σ.stacks s).head? = some r ∧ σ.bodies r.1 r.2 = some B ∧ B.state = .running ∧
        σ.tasks r.1 = some T := by
  constructor
  · intro h
    unfold Sys.runningT at h
    split at h
    · cases h
    · rename_i r B0 hr
      split at h
      · cases h
      · cases h
        obtain ⟨h1, h2, h3⟩ := running_some.1 hr
        exact ⟨r, h1, h2, h3, ‹_›⟩
  · rintro ⟨r, h1, h2, h3, hT⟩
    simp only [Sys.runningT, running_some.2 ⟨h1, h2, h3⟩, hT]

theorem running_top {σ : Sys} (inv : Inv σ) {s t b : Nat} (htop : (abs σ).isTop s t b)
    (hph : (abs σ).phase t b = some .running) :
    ∃ T B, σ.runningT s = some (T, B) ∧ σ.tasks t = some T ∧ σ.bodies t b = some B ∧
      B.state = .running := by
  obtain ⟨B, hB, hst⟩ := bodyOfPhase hph
  obtain ⟨_, _, T, hT, _⟩ := inv.body t b B hB
  exact ⟨T, B, runningT_some.2 ⟨(t, b), htop, hB, hst, hT⟩, hT, hB, hst⟩

theorem runningT_none {σ : Sys} (inv : Inv σ) {s : Nat} :
    σ.runningT s = none ↔
      ∀ t b, (σ.stacks s).head? = some (t, b) → (abs σ).phase t b ≠ some .running := by
  constructor
  · intro h t b hh hph
    obtain ⟨T, B, hr, _⟩ := running_top inv hh hph
    rw [h] at hr; cases hr
  · intro h
    cases hr : σ.runningT s with
    | none => rfl
    | some p =>
      obtain ⟨T, B⟩ := p
      obtain ⟨⟨t, b⟩, hh, hB, hst, _⟩ := runningT_some.1 hr
      exact (h t b hh ((abs_phase_iff hB).2 hst)).elim

/-- From `flags` on: what makes the channel writes of `update_task` succeed. -/
structure EInv (m : Model) (P : ProcInfo) (ε : Emu) : Prop where
  inv : Inv ε.sys
  below : Below (abs ε.sys)
  flags : ∀ t T, ε.sys.tasks t = some T → ∃ par, T.flags = createFlags m par
  gid : ∀ t T, ε.sys.tasks t = some T → T.gid ≠ 0
  /-- kept for `gid`: a created task takes the gid of its type -/
  typeGid : ∀ ty g, ε.sys.types ty = some g → g ≠ 0
  /-- `chanRunning` refuses task id 0, so no body of task 0 ever exists -/
  noZero : ∀ t b B, ε.sys.bodies t b = some B → t ≠ 0
  /-- Nanos6 has one body per task: a body nested over the running one belongs to another task,
      so the task-id channel changes (`chan_step`) -/
  one : m = .nanos6 → ∀ t b B, ε.sys.bodies t b = some B → b = 1
  view : ∀ th, ε.ch th = viewOf m P (ε.sys.runningT th)

def eabs (ε : Emu) : EAbs := ⟨abs ε.sys, ε.ss⟩

theorem no_relax_nosv {par : Bool} : (createFlags .nosv par).relax = false := by
  cases par <;> rfl

theorem EInv.relax_nanos6 {m : Model} {P : ProcInfo} {ε : Emu} (ei : EInv m P ε) {t : Nat} {T : Task}
    (hT : ε.sys.tasks t = some T) (hr : T.flags.relax = true) : m = .nanos6 := by
  obtain ⟨par, hpar⟩ := ei.flags t T hT
  cases m with
  | nosv => rw [hpar, no_relax_nosv] at hr; cases hr
  | nanos6 => rfl

theorem stacks_of_abs {σ' : Sys} {a : Abs} (h : abs σ' = a) : σ'.stacks = a.stack := by
  rw [← h]; rfl

theorem gid_flags_step {m : Model} {P : ProcInfo} {ε : Emu} {σ' : Sys} {v : TaskEv} {th t b i : Nat}
    {T' : Task} (ei : EInv m P ε) (hs : step ε.sys (opOf v th t b) = .ok σ')
    (hT' : σ'.tasks i = some T') : T'.gid ≠ 0 ∧ ∃ par, T'.flags = createFlags m par := by
  obtain ⟨T, T0, Bn, l, _, u, f, _⟩ := body_step ei.inv hs
  rw [u.tasks] at hT'
  split at hT'
  · cases hT'; subst_vars
    exact ⟨f.gid ▸ ei.gid _ T f.task, f.flags ▸ ei.flags _ T f.task⟩
  · exact ⟨ei.gid i T' hT', ei.flags i T' hT'⟩

theorem exec_next {σ σ' : Sys} {th t b : Nat} (inv : Inv σ) (hs : step σ (.exec th t b) = .ok σ') :
    ∃ T' B', σ'.runningT th = some (T', B') ∧ σ'.tasks t = some T' ∧ T'.id = t ∧ B'.state = .running := by
  obtain ⟨inv', st⟩ := step_sound inv hs
  obtain ⟨ha', _, _⟩ := exec_shape st
  obtain ⟨T', B', hnext, hT', _, hrun⟩ := running_top inv' (s := th) (t := t) (b := b)
    (by rw [Abs.isTop, ha', Abs.setStack_stack_same]; rfl)
    (by rw [ha']; exact Abs.setPhase_phase_same)
  exact ⟨T', B', hnext, hT', inv'.taskId t T' hT', hrun⟩

/-- **The channel writes of `update_task` cannot fail in a legal step**, and leave the view of the
    body that runs afterwards.  Task 0 is excepted: `chan_*_running` refuses it.  A switch (`X`,
    `E`) happens only under relaxed nesting, hence in Nanos6, where every body is body 1: the two
    bodies then belong to different tasks, so the task-id channel changes. -/
theorem chan_step {m : Model} {P : ProcInfo} {ε : Emu} {σ' : Sys} {v : TaskEv} {th t b : Nat}
    (hP : 0 < P.appid) (ei : EInv m P ε) (hb1 : m = .nanos6 → b = 1)
    (hs : step ε.sys (opOf v th t b) = .ok σ') (ht : v = .x → t ≠ 0) :
    updateChannels m P (ε.ch th) (expand v (ε.sys.runningT th).isSome (σ'.runningT th).isSome)
      (ε.sys.runningT th) (σ'.runningT th) = .ok (viewOf m P (σ'.runningT th)) := by
  obtain ⟨inv', st⟩ := step_sound ei.inv hs
  have hgid := fun {i T'} (h : σ'.tasks i = some T') => (gid_flags_step ei hs h).1
  rw [ei.view th]
  cases v with
  | x =>
    obtain ⟨_, hcan, hph⟩ := exec_shape st
    obtain ⟨T', B', hnext, hT', hid', _⟩ := exec_next ei.inv hs
    rw [hnext]
    cases hprev : ε.sys.runningT th with
    | none => exact chanRunning_view hP (by have := ht rfl; omega) (hgid hT')
    | some p =>
      obtain ⟨Tp, Bp⟩ := p
      obtain ⟨⟨tp, bp⟩, hh, hBp, hrp, hTp⟩ := runningT_some.1 hprev
      obtain ⟨fp, hfp, hrelax⟩ := hcan tp bp hh ((abs_phase_iff hBp).2 hrp)
      obtain ⟨Tp2, hTp2, rfl⟩ := abs_flags.1 hfp
      rw [hTp] at hTp2; cases hTp2
      obtain rfl := ei.relax_nanos6 hTp hrelax
      have hne : Tp.id ≠ T'.id := by
        rw [ei.inv.taskId tp Tp hTp, hid']
        rintro rfl
        obtain rfl : b = bp := (hb1 rfl).trans (ei.one rfl tp bp Bp hBp).symm
        exact (ainv_of_inv ei.inv).not_mem hph th (List.mem_of_head? hh)
      exact chanSwitch_view hne (by have := ht rfl; omega) (hgid hT')
  | e =>
    generalize ha' : abs σ' = a' at st
    cases st with
    | end_ hph htop =>
      obtain ⟨T, B, hprev, hT, hB, _⟩ := running_top ei.inv htop hph
      rw [hprev]
      cases hnext : σ'.runningT th with
      | none => exact chanStopped_view m P T B
      | some p =>
        -- the old stack is (t,b) :: (tn,bn) :: _ with (tn,bn) running below the top
        obtain ⟨Tn, Bn⟩ := p
        obtain ⟨⟨tn, bn⟩, hh, hBn, hrn, hTn⟩ := runningT_some.1 hnext
        obtain ⟨tl, hl⟩ := List.head?_eq_some_iff.1 (show (ε.sys.stacks th).head? = some (t, b) from htop)
        have hst' : σ'.stacks th = tl := by
          rw [stacks_of_abs ha', Abs.setStack_stack_same]; exact congrArg List.tail hl
        rw [hst'] at hh
        obtain ⟨tl2, rfl⟩ := List.head?_eq_some_iff.1 hh
        have hne : ¬(tn = t ∧ bn = b) := by
          rintro ⟨rfl, rfl⟩
          have nd := ei.inv.nodup th
          rw [hl] at nd
          exact (List.nodup_cons.1 nd).1 List.mem_cons_self
        have hphn : (abs ε.sys).phase tn bn = some .running := by
          have : (abs σ').phase tn bn = some .running := (abs_phase_iff hBn).2 hrn
          rwa [ha', Abs.setStack_phase, Abs.setPhase_phase_ne hne] at this
        obtain ⟨fn, hfn, hrelax⟩ := ei.below th (t, b) ((tn, bn) :: tl2) hl (tn, bn) List.mem_cons_self hphn
        obtain ⟨Tn0, hTn0, rfl⟩ := abs_flags.1 hfn
        obtain rfl := ei.relax_nanos6 hTn0 hrelax
        obtain ⟨Bn0, hBn0, _⟩ := bodyOfPhase hphn
        have hidn : Tn.id = tn := inv'.taskId tn Tn hTn
        have hne' : T.id ≠ Tn.id := by
          rw [ei.inv.taskId t T hT, hidn]
          rintro rfl
          exact hne ⟨rfl, (ei.one rfl _ bn Bn0 hBn0).trans (ei.one rfl _ b B hB).symm⟩
        exact chanSwitch_view hne' (hidn ▸ ei.noZero tn bn Bn0 hBn0) (hgid hTn)
  | p =>
    generalize ha' : abs σ' = a' at st
    cases st with
    | pause _ _ hph htop =>
      obtain ⟨T, B, hprev, _⟩ := running_top ei.inv htop hph
      have hnext : σ'.runningT th = none := (runningT_none inv').2 fun t' b' hh => by
        rw [stacks_of_abs ha'] at hh
        cases hh.symm.trans htop
        rw [ha', Abs.setPhase_phase_same]; nofun
      rw [hnext, hprev]
      exact chanStopped_view m P T B
  | r =>
    generalize ha' : abs σ' = a' at st
    cases st with
    | resume hph htop =>
      have hprev : ε.sys.runningT th = none := (runningT_none ei.inv).2 fun t' b' hh => by
        cases hh.symm.trans htop
        rw [hph]; simp
      obtain ⟨T', B', hnext, hT', _⟩ := running_top inv' (s := th) (t := t) (b := b)
        (by rw [ha']; exact htop) (by rw [ha']; exact Abs.setPhase_phase_same)
      obtain ⟨B, hB, _⟩ := bodyOfPhase hph
      rw [hnext, hprev]
      exact chanRunning_view hP (inv'.taskId t T' hT' ▸ ei.noZero t b B hB) (hgid hT')

/-- A step of thread `th` leaves what the other threads show: their running body is another body, and a
    task keeps its id and gid. -/
theorem view_other {m : Model} {P : ProcInfo} {σ σ' : Sys} {v : TaskEv} {th t b th' : Nat}
    (inv : Inv σ) (hs : step σ (opOf v th t b) = .ok σ') (hne : th' ≠ th) :
    viewOf m P (σ'.runningT th') = viewOf m P (σ.runningT th') := by
  obtain ⟨T, T', Bn, l, _, u, f, _⟩ := body_step inv hs
  have hid : T'.id = T.id := f.id.trans (inv.taskId t T f.task).symm
  unfold Sys.runningT Sys.running
  rw [u.stacks, if_neg hne]
  cases hh : (σ.stacks th').head? with
  | none => rfl
  | some r =>
    obtain ⟨t', b'⟩ := r
    have hne' : ¬(t' = t ∧ b' = b) := by
      rintro ⟨rfl, rfl⟩; exact f.hold th' hne (List.mem_of_head? hh)
    simp only [u.bodies, if_neg hne', u.tasks]
    cases σ.bodies t' b' with
    | none => rfl
    | some B =>
      by_cases hr : B.state = .running
      · simp only [hr, if_true]
        by_cases ht : t' = t
        · subst ht; simp only [if_true, f.task, viewOf, hid, f.gid]
        · simp only [if_neg ht]
      · simp only [if_neg hr]

theorem bodyIdRule_named {m : Model} {T : Task} {bp b : Nat} :
    bodyIdRule m T bp = .ok b ↔ namedBody m T.flags bp = some b := by
  cases m
  · simp only [bodyIdRule, namedBody]
    by_cases hp : T.flags.parallel = true <;> by_cases h0 : bp = 0 <;> simp [hp, h0]
  · simp [bodyIdRule, namedBody]

theorem namedBody_nanos6 {f : TaskFlags} {bp b : Nat} : namedBody .nanos6 f bp = some b ↔ b = 1 := by
  simp [namedBody, eq_comm]

theorem updateTaskState_ok {m : Model} {σ σ' : Sys} {th : Nat} {v : TaskEv} {t bp : Nat} :
    updateTaskState m σ th v t bp = .ok σ' ↔
      ∃ T b, σ.tasks t = some T ∧ namedBody m T.flags bp = some b ∧
        step σ (opOf v th t b) = .ok σ' := by
  unfold updateTaskState
  cases hT : σ.tasks t with
  | none => simp
  | some T =>
    simp only [Option.some.injEq, exists_and_left, exists_eq_left', ← bodyIdRule_named]
    cases bodyIdRule m T bp <;> cases v <;> simp [opOf, step, hT]

theorem updateTask_ok {m : Model} {P : ProcInfo} {ε ε' : Emu} {th : Nat} {v : TaskEv} {t bp : Nat} :
    updateTask m P ε th v t bp = .ok ε' ↔
      ∃ σ' ss' ch', updateTaskState m ε.sys th v t bp = .ok σ' ∧ updateSs m (ε.ss th) v = .ok ss' ∧
        updateChannels m P (ε.ch th)
          (expand v (ε.sys.runningT th).isSome (σ'.runningT th).isSome)
          (ε.sys.runningT th) (σ'.runningT th) = .ok ch' ∧
        enforceRules m (expand v (ε.sys.runningT th).isSome (σ'.runningT th).isSome)
          (σ'.runningT th) ss' = .ok () ∧
        ε' = { sys := σ', ch := updFn ε.ch th ch', ss := updFn ε.ss th ss' } := by
  simp only [updateTask, bind_ok_iff, pure, Except.pure, Except.ok.injEq]
  constructor
  · rintro ⟨σ', h1, ss', h2, ch', h3, ⟨⟩, h4, rfl⟩; exact ⟨σ', ss', ch', h1, h2, h3, h4, rfl⟩
  · rintro ⟨σ', ss', ch', h1, h2, h3, h4, rfl⟩; exact ⟨σ', h1, ss', h2, ch', h3, (), h4, rfl⟩

theorem enforce_nonexec {m : Model} {v : TaskEv} {w w' : Bool} {next : Option (Task × Body)}
    {st : List Int} (hv : v ≠ .x) : enforceRules m (expand v w w') next st = .ok () := by
  cases v <;> cases w <;> cases w' <;> simp_all [enforceRules, expand]

theorem enforce_exec {m : Model} {w : Bool} {T : Task} {B : Body} {st : List Int}
    (hB : B.state = .running) :
    enforceRules m (expand .x w true) (some (T, B)) (m.cfg.stTaskBody :: st) = .ok () := by
  cases w <;> simp [enforceRules, expand, hB]

theorem ssPush_ok {m : Model} {st st' : List Int} {v : Int} :
    ssPush m.cfg.dupSs st v = .ok st' ↔ pushOk m st v ∧ st' = v :: st := by
  unfold ssPush pushOk
  by_cases h1 : m.cfg.dupSs = true <;> by_cases h3 : st.head? = some v <;>
    by_cases h2 : st.length ≥ Ovni.Generated.maxChanStack <;>
    simp [h1, h2, h3, eq_comm (a := st')] <;> omega

theorem ssPop_ok {st st' : List Int} {v : Int} : ssPop st v = .ok st' ↔ st = v :: st' := by
  unfold ssPop
  cases st with
  | nil => simp
  | cons x r =>
    by_cases h : x = v
    · simp [h, eq_comm]
    · simp [h]

theorem exec_zero {m : Model} {P : ProcInfo} {c ch' : Chans} {w : Bool} {prev : Option (Task × Body)}
    {T' : Task} {B' : Body}
    (h : updateChannels m P c (expand .x w true) prev (some (T', B')) = .ok ch') : T'.id ≠ 0 := by
  cases w
  · exact (chanRunning_ok.1 h).1
  · rcases prev with _ | ⟨Tp, Bp⟩
    · cases h
    · exact (chanSwitch_ok.1 h).2.1

theorem einv_task {m : Model} {P : ProcInfo} {ε : Emu} {σ' : Sys} {v : TaskEv} {th t b : Nat}
    {ss' : Nat → List Int} (ei : EInv m P ε) (hb1 : m = .nanos6 → b = 1)
    (hs : step ε.sys (opOf v th t b) = .ok σ') (ht : v = .x → t ≠ 0) :
    EInv m P { sys := σ', ch := updFn ε.ch th (viewOf m P (σ'.runningT th)), ss := ss' } := by
  obtain ⟨inv', st⟩ := step_sound ei.inv hs
  obtain ⟨_, _, Bn, l, _, u, _⟩ := body_step ei.inv hs
  -- the touched body is not a body of task 0
  have ht0 : t ≠ 0 := by
    cases v with
    | x => exact ht rfl
    | e | p | r =>
      generalize abs σ' = a' at st
      cases st <;> rename_i hph0 _ <;>
        (obtain ⟨B, hB, _⟩ := bodyOfPhase hph0; exact ei.noZero t b B hB)
  refine ⟨inv', below_step (ainv_of_inv ei.inv) ei.below st, fun i T' h => (gid_flags_step ei hs h).2,
    fun i T' h => (gid_flags_step ei hs h).1, ?_, ?_, ?_, ?_⟩
  · show ∀ ty g, σ'.types ty = some g → g ≠ 0
    rw [u.types]; exact ei.typeGid
  · intro i j B hB
    have hB : σ'.bodies i j = some B := hB
    rw [u.bodies] at hB
    split at hB
    · rename_i hij; exact hij.1 ▸ ht0
    · exact ei.noZero i j B hB
  · intro hm i j B hB
    have hB : σ'.bodies i j = some B := hB
    rw [u.bodies] at hB
    split at hB
    · rename_i hij; exact hij.2.trans (hb1 hm)
    · exact ei.one hm i j B hB
  · intro th'
    show updFn ε.ch th _ th' = viewOf m P (σ'.runningT th')
    by_cases hne : th' = th
    · subst hne; exact updFn_same
    · rw [updFn_ne hne, ei.view th', view_other ei.inv hs hne]

/-- Under the invariant, `update_task` is the state operation, the subsystem push or pop and the
    view of the body that runs afterwards: neither the channel writes nor `enforce_task_rules`
    refuse anything (but task 0). -/
theorem updateTask_eq {m : Model} {P : ProcInfo} {ε ε' : Emu} {th : Nat} {v : TaskEv} {t bp : Nat}
    (hP : 0 < P.appid) (ei : EInv m P ε) :
    updateTask m P ε th v t bp = .ok ε' ↔
      ∃ T b σ' ss', ε.sys.tasks t = some T ∧ namedBody m T.flags bp = some b ∧
        step ε.sys (opOf v th t b) = .ok σ' ∧ updateSs m (ε.ss th) v = .ok ss' ∧ (v = .x → t ≠ 0) ∧
        ε' = { sys := σ', ch := updFn ε.ch th (viewOf m P (σ'.runningT th)), ss := updFn ε.ss th ss' } := by
  have hb1 : ∀ {T : Task} {b : Nat}, namedBody m T.flags bp = some b → m = .nanos6 → b = 1 := by
    intro T b hn hm; subst hm; exact namedBody_nanos6.mp hn
  rw [updateTask_ok]
  constructor
  · rintro ⟨σ', ss', ch', h1, h2, h3, _, rfl⟩
    obtain ⟨T, b, hT, hn, hs⟩ := updateTaskState_ok.1 h1
    have ht : v = .x → t ≠ 0 := by
      rintro rfl
      obtain ⟨T', B', hnext, _, hid', _⟩ := exec_next ei.inv hs
      rw [hnext] at h3
      exact hid' ▸ exec_zero h3
    rw [chan_step hP ei (hb1 hn) hs ht] at h3
    cases h3
    exact ⟨T, b, σ', ss', hT, hn, hs, h2, ht, rfl⟩
  · rintro ⟨T, b, σ', ss', hT, hn, hs, h2, ht, rfl⟩
    refine ⟨σ', ss', _, updateTaskState_ok.2 ⟨T, b, hT, hn, hs⟩, h2, chan_step hP ei (hb1 hn) hs ht, ?_, rfl⟩
    cases v with
    | x =>
      obtain ⟨T', B', hnext, _, _, hrun⟩ := exec_next ei.inv hs
      obtain ⟨_, rfl⟩ := ssPush_ok.1 h2
      rw [hnext]; exact enforce_exec hrun
    | e | p | r => exact enforce_nonexec (by decide)

/-- The four rules of `EStep` for a state event are one: the life-cycle step of the named body, and
    the push or pop of `update_task_ss_channel`. -/
theorem estep_task_iff {m : Model} {e e' : EAbs} {th : Nat} {v : TaskEv} {t bp : Nat} :
    EStep m e (.task th v t bp) e' ↔
      ∃ f b a' ss', e.a.flags t = some f ∧ namedBody m f bp = some b ∧ Step e.a (opOf v th t b) a' ∧
        updateSs m (e.ss th) v = .ok ss' ∧ (v = .x → t ≠ 0) ∧ e' = ⟨a', updFn e.ss th ss'⟩ := by
  -- pause and resume leave the subsystem stack alone
  have same : updFn e.ss th (e.ss th) = e.ss := updFn_self _ _
  constructor
  · intro h
    cases h with
    | exec hf hn st ht hpush => exact ⟨_, _, _, _, hf, hn, st, ssPush_ok.2 ⟨hpush, rfl⟩, fun _ => ht, rfl⟩
    | end_ hf hn st hrest => exact ⟨_, _, _, _, hf, hn, st, ssPop_ok.2 hrest, nofun, rfl⟩
    | pause hf hn st => exact ⟨_, _, _, _, hf, hn, st, rfl, nofun, by rw [same]⟩
    | resume hf hn st => exact ⟨_, _, _, _, hf, hn, st, rfl, nofun, by rw [same]⟩
  · rintro ⟨f, b, a', ss', hf, hn, st, h2, ht, rfl⟩
    cases v with
    | x => obtain ⟨hpush, rfl⟩ := ssPush_ok.1 h2; exact .exec hf hn st (ht rfl) hpush
    | e => exact .end_ hf hn st (ssPop_ok.1 h2)
    | p => cases h2; rw [same]; exact .pause hf hn st
    | r => cases h2; rw [same]; exact .resume hf hn st

theorem gidOf_ne (h : Nat) : gidOf h ≠ 0 := by
  have key : ∀ g : Nat, (if g < pcfReserved then g + pcfReserved else g) ≠ 0 := by
    intro g; unfold pcfReserved; split <;> omega
  unfold gidOf
  exact key _

theorem Emu.step_type {m : Model} {P : ProcInfo} {ε ε' : Emu} {ty h : Nat} {fits : Bool} :
    Emu.step m P ε (.typeCreate ty h fits) = .ok ε' ↔
      ∃ σ', taskTypeCreate ε.sys ty (gidOf h) fits = .ok σ' ∧ ε' = { ε with sys := σ' } := by
  simp only [Emu.step]
  cases taskTypeCreate ε.sys ty (gidOf h) fits <;> simp [eq_comm (a := ε')]

theorem Emu.step_create {m : Model} {P : ProcInfo} {ε ε' : Emu} {par : Bool} {t ty : Nat} :
    Emu.step m P ε (.taskCreate par t ty) = .ok ε' ↔
      (m = .nanos6 ∧ par = true ∧ ε' = ε) ∨
      (¬(m = .nanos6 ∧ par = true) ∧
        ∃ σ', taskCreate ε.sys ty t (createFlags m par) = .ok σ' ∧ ε' = { ε with sys := σ' }) := by
  simp only [Emu.step]
  split
  · rename_i hold
    simp [hold, eq_comm (a := ε')]
  · rename_i hold
    rw [or_iff_right fun h => hold ⟨h.1, h.2.1⟩, and_iff_right hold]
    cases taskCreate ε.sys ty t (createFlags m par) <;> simp [eq_comm (a := ε')]

theorem Emu.step_type_keeps {m : Model} {P : ProcInfo} {ε ε' : Emu} {ty h : Nat} {fits : Bool}
    (hs : Emu.step m P ε (.typeCreate ty h fits) = .ok ε') : ε'.ch = ε.ch ∧ ε'.ss = ε.ss := by
  obtain ⟨_, _, rfl⟩ := Emu.step_type.1 hs
  exact ⟨rfl, rfl⟩

theorem Emu.step_create_keeps {m : Model} {P : ProcInfo} {ε ε' : Emu} {par : Bool} {t ty : Nat}
    (hs : Emu.step m P ε (.taskCreate par t ty) = .ok ε') : ε'.ch = ε.ch ∧ ε'.ss = ε.ss := by
  rcases Emu.step_create.1 hs with ⟨_, _, rfl⟩ | ⟨_, _, _, rfl⟩ <;> exact ⟨rfl, rfl⟩

@[simp] theorem Emu.step_task {m : Model} {P : ProcInfo} {ε : Emu} {th : Nat} {v : TaskEv} {t bp : Nat} :
    Emu.step m P ε (.task th v t bp) = updateTask m P ε th v t bp := rfl

theorem Emu.step_ssPush {m : Model} {P : ProcInfo} {ε ε' : Emu} {th : Nat} {v : Int} :
    Emu.step m P ε (.ssPush th v) = .ok ε' ↔
      pushOk m (ε.ss th) v ∧ ε' = { ε with ss := updFn ε.ss th (v :: ε.ss th) } := by
  simp only [Emu.step]
  cases h : ssPush m.cfg.dupSs (ε.ss th) v with
  | error x => exact iff_of_false nofun fun hp => by rw [ssPush_ok.2 ⟨hp.1, rfl⟩] at h; cases h
  | ok st => obtain ⟨hp, rfl⟩ := ssPush_ok.1 h; simp [hp, eq_comm (a := ε')]

theorem Emu.step_ssPop {m : Model} {P : ProcInfo} {ε ε' : Emu} {th : Nat} {v : Int} :
    Emu.step m P ε (.ssPop th v) = .ok ε' ↔
      ∃ rest, ε.ss th = v :: rest ∧ ε' = { ε with ss := updFn ε.ss th rest } := by
  simp only [Emu.step, ← ssPop_ok]
  cases ssPop (ε.ss th) v <;> simp [eq_comm (a := ε')]

theorem task_sound {m : Model} {P : ProcInfo} {ε ε' : Emu} {th : Nat} {v : TaskEv} {t bp : Nat}
    (hP : 0 < P.appid) (ei : EInv m P ε) (h : Emu.step m P ε (.task th v t bp) = .ok ε') :
    EInv m P ε' ∧ EStep m (eabs ε) (.task th v t bp) (eabs ε') := by
  rw [Emu.step_task] at h
  obtain ⟨T, b, σ', ss', hT, hn, hs, h2, ht, rfl⟩ := (updateTask_eq hP ei).1 h
  exact ⟨einv_task ei (fun hm => namedBody_nanos6.mp (hm ▸ hn)) hs ht, estep_task_iff.2
    ⟨T.flags, b, _, ss', abs_flags.2 ⟨T, hT, rfl⟩, hn, (step_sound ei.inv hs).2, h2, ht, rfl⟩⟩

theorem task_complete {m : Model} {P : ProcInfo} {ε : Emu} {th : Nat} {v : TaskEv} {t bp : Nat}
    {e' : EAbs} (hP : 0 < P.appid) (ei : EInv m P ε)
    (h : EStep m (eabs ε) (.task th v t bp) e') :
    ∃ ε', Emu.step m P ε (.task th v t bp) = .ok ε' ∧ eabs ε' = e' := by
  simp only [Emu.step_task]
  obtain ⟨f, b, a', ss', hf, hn, st, h2, ht, rfl⟩ := estep_task_iff.1 h
  obtain ⟨T, hT, rfl⟩ := abs_flags.1 hf
  obtain ⟨σ', hs, rfl⟩ := (step_iff ei.inv).2 st
  exact ⟨_, (updateTask_eq hP ei).2 ⟨T, b, σ', ss', hT, hn, hs, h2, ht, rfl⟩, rfl⟩

theorem type_sound {m : Model} {P : ProcInfo} {ε ε' : Emu} {ty h : Nat} {fits : Bool}
    (ei : EInv m P ε) (hs : Emu.step m P ε (.typeCreate ty h fits) = .ok ε') :
    EInv m P ε' ∧ EStep m (eabs ε) (.typeCreate ty h fits) (eabs ε') := by
  obtain ⟨σ', h1, rfl⟩ := Emu.step_type.1 hs
  obtain ⟨_, _, rfl, rfl⟩ := taskTypeCreate_ok.1 h1
  obtain ⟨inv', st⟩ := step_sound (op := .typeCreate ty (gidOf h)) ei.inv h1
  refine ⟨⟨inv', below_step (ainv_of_inv ei.inv) ei.below st, ei.flags, ei.gid, ?_, ei.noZero, ei.one,
    ei.view⟩, EStep.typeCreate st⟩
  intro ty' g hg
  simp only [Sys.setType] at hg
  split at hg
  · exact Option.some.inj hg ▸ gidOf_ne h
  · exact ei.typeGid ty' g hg

theorem type_complete {m : Model} {P : ProcInfo} {ε : Emu} {ty h : Nat} {fits : Bool} {e' : EAbs}
    (ei : EInv m P ε) (hs : EStep m (eabs ε) (.typeCreate ty h fits) e') :
    ∃ ε', Emu.step m P ε (.typeCreate ty h fits) = .ok ε' ∧ eabs ε' = e' := by
  cases hs with
  | typeCreate st =>
    obtain ⟨σ', h1, rfl⟩ := (step_iff ei.inv).2 st
    exact ⟨_, Emu.step_type.2 ⟨σ', h1, rfl⟩, rfl⟩

theorem create_sound {m : Model} {P : ProcInfo} {ε ε' : Emu} {par : Bool} {t ty : Nat}
    (ei : EInv m P ε) (hs : Emu.step m P ε (.taskCreate par t ty) = .ok ε') :
    EInv m P ε' ∧ EStep m (eabs ε) (.taskCreate par t ty) (eabs ε') := by
  rcases Emu.step_create.1 hs with ⟨rfl, rfl, rfl⟩ | ⟨hold, σ', h1, rfl⟩
  · exact ⟨ei, EStep.oldCreate rfl⟩
  · obtain ⟨inv', st⟩ := step_sound (op := .create ty t (createFlags m par)) ei.inv h1
    obtain ⟨hnone, gid, hg, rfl⟩ := taskCreate_ok.1 h1
    refine ⟨⟨inv', below_step (ainv_of_inv ei.inv) ei.below st, ?_, ?_, ei.typeGid, ei.noZero, ei.one, ?_⟩,
      EStep.taskCreate hold st⟩
    · intro i T hT
      simp only [Sys.setTask] at hT
      split at hT
      · cases hT; exact ⟨par, rfl⟩
      · exact ei.flags i T hT
    · intro i T hT
      simp only [Sys.setTask] at hT
      split at hT
      · cases hT; exact ei.typeGid ty gid hg
      · exact ei.gid i T hT
    · intro th
      show ε.ch th = viewOf m P ((ε.sys.setTask t _).runningT th)
      rw [ei.view th]
      refine congrArg _ (Option.ext fun ⟨T, B⟩ => ?_)
      simp only [runningT_some]
      refine exists_congr fun r =>
        and_congr_right fun _ => and_congr_right fun hB => and_congr_right fun _ => ?_
      -- the running body's task existed before, so it is not the new task
      have hne : r.1 ≠ t := by
        intro he
        obtain ⟨_, _, T0, hT0, _⟩ := ei.inv.body _ _ _ hB
        rw [he, hnone] at hT0; cases hT0
      simp [Sys.setTask, hne]

theorem create_complete {m : Model} {P : ProcInfo} {ε : Emu} {par : Bool} {t ty : Nat} {e' : EAbs}
    (ei : EInv m P ε) (hs : EStep m (eabs ε) (.taskCreate par t ty) e') :
    ∃ ε', Emu.step m P ε (.taskCreate par t ty) = .ok ε' ∧ eabs ε' = e' := by
  cases hs with
  | taskCreate hold st =>
    obtain ⟨σ', h1, rfl⟩ := (step_iff ei.inv).2 st
    exact ⟨_, Emu.step_create.2 (.inr ⟨hold, σ', h1, rfl⟩), rfl⟩
  | oldCreate hm =>
    exact ⟨ε, Emu.step_create.2 (.inl ⟨hm, rfl, rfl⟩), rfl⟩

theorem estep_sound {m : Model} {P : ProcInfo} {ε ε' : Emu} {ev : Ev} (hP : 0 < P.appid)
    (ei : EInv m P ε) (hs : Emu.step m P ε ev = .ok ε') :
    EInv m P ε' ∧ EStep m (eabs ε) ev (eabs ε') := by
  have keep : ∀ ss', EInv m P { ε with ss := ss' } := fun _ =>
    ⟨ei.inv, ei.below, ei.flags, ei.gid, ei.typeGid, ei.noZero, ei.one, ei.view⟩
  cases ev with
  | typeCreate ty h fits => exact type_sound ei hs
  | taskCreate par t ty => exact create_sound ei hs
  | task th v t bp => exact task_sound hP ei hs
  | ssPush th v =>
    obtain ⟨hp, rfl⟩ := Emu.step_ssPush.1 hs
    exact ⟨keep _, EStep.ssPush hp⟩
  | ssPop th v =>
    obtain ⟨rest, hp, rfl⟩ := Emu.step_ssPop.1 hs
    exact ⟨keep _, EStep.ssPop hp⟩

theorem estep_complete {m : Model} {P : ProcInfo} {ε : Emu} {ev : Ev} {e' : EAbs} (hP : 0 < P.appid)
    (ei : EInv m P ε) (hs : EStep m (eabs ε) ev e') : ∃ ε', Emu.step m P ε ev = .ok ε' ∧ eabs ε' = e' := by
  cases ev with
  | typeCreate ty h fits => exact type_complete ei hs
  | taskCreate par t ty => exact create_complete ei hs
  | task th v t bp => exact task_complete hP ei hs
  | ssPush th v =>
    cases hs with
    | ssPush hp => exact ⟨_, Emu.step_ssPush.2 ⟨hp, rfl⟩, rfl⟩
  | ssPop th v =>
    cases hs with
    | ssPop hp => exact ⟨_, Emu.step_ssPop.2 ⟨_, hp, rfl⟩, rfl⟩

theorem einv_init (m : Model) (P : ProcInfo) : EInv m P Emu.init := by
  refine ⟨inv_init, below_init, ?_, ?_, ?_, ?_, ?_, ?_⟩ <;> intros <;> simp_all [Emu.init, Sys.init]
  rfl

theorem Emu.run_cons {m : Model} {P : ProcInfo} {ε ε' : Emu} {ev : Ev} {evs : List Ev} :
    Emu.run m P ε (ev :: evs) = .ok ε' ↔
      ∃ ε1, Emu.step m P ε ev = .ok ε1 ∧ Emu.run m P ε1 evs = .ok ε' := by
  simp only [Emu.run]
  cases Emu.step m P ε ev <;> simp

theorem Emu.run_induct {m : Model} {P : ProcInfo} {I : Emu → Prop} {evs : List Ev}
    (hI : ∀ ε ε' ev, ev ∈ evs → I ε → Emu.step m P ε ev = .ok ε' → I ε')
    {ε ε' : Emu} (h0 : I ε) (h : Emu.run m P ε evs = .ok ε') : I ε' := by
  induction evs generalizing ε with
  | nil => cases h; exact h0
  | cons ev evs ih =>
    obtain ⟨ε1, hs, h⟩ := Emu.run_cons.1 h
    exact ih (fun ε ε' ev' hm => hI ε ε' ev' (List.mem_cons_of_mem _ hm)) (hI ε ε1 ev List.mem_cons_self h0 hs) h

theorem erun_inv {m : Model} {P : ProcInfo} {ε ε' : Emu} {evs : List Ev} (hP : 0 < P.appid)
    (ei : EInv m P ε) (h : Emu.run m P ε evs = .ok ε') : EInv m P ε' :=
  Emu.run_induct (fun _ _ _ _ ei hs => (estep_sound hP ei hs).1) ei h

inductive Spec.ERun (m : Model) : EAbs → List Ev → EAbs → Prop
  | nil {e : EAbs} : ERun m e [] e
  | cons {e e' e'' : EAbs} {ev : Ev} {evs : List Ev} :
      EStep m e ev e' → ERun m e' evs e'' → ERun m e (ev :: evs) e''

theorem erun_final {m : Model} {P : ProcInfo} {ε : Emu} {evs : List Ev} (hP : 0 < P.appid)
    (ei : EInv m P ε) (e'' : EAbs) :
    (∃ ε', Emu.run m P ε evs = .ok ε' ∧ eabs ε' = e'') ↔ ERun m (eabs ε) evs e'' := by
  induction evs generalizing ε with
  | nil =>
    constructor
    · rintro ⟨ε', h, rfl⟩
      cases h; exact ERun.nil
    · intro h
      cases h; exact ⟨ε, rfl, rfl⟩
  | cons ev evs ih =>
    constructor
    · rintro ⟨ε', h, rfl⟩
      obtain ⟨ε1, hs, h⟩ := Emu.run_cons.1 h
      obtain ⟨ei1, st⟩ := estep_sound hP ei hs
      exact ERun.cons st ((ih ei1).1 ⟨ε', h, rfl⟩)
    · intro h
      cases h with
      | cons st rest =>
        obtain ⟨ε1, hs, rfl⟩ := estep_complete hP ei st
        obtain ⟨ε', h', hfin⟩ := (ih (estep_sound hP ei hs).1).2 rest
        exact ⟨ε', Emu.run_cons.2 ⟨ε1, hs, h'⟩, hfin⟩

theorem elegal_iff {m : Model} {e : EAbs} {evs : List Ev} : ELegal m e evs ↔ ∃ e'', ERun m e evs e'' := by
  induction evs generalizing e with
  | nil => exact ⟨fun _ => ⟨e, .nil⟩, fun _ => .nil⟩
  | cons ev evs ih =>
    constructor
    · intro h
      cases h with
      | cons st rest => obtain ⟨e'', hr⟩ := ih.1 rest; exact ⟨e'', .cons st hr⟩
    · rintro ⟨e'', h⟩
      cases h with
      | cons st hr => exact .cons st (ih.2 ⟨e'', hr⟩)

theorem erun_ok_iff {m : Model} {P : ProcInfo} {ε : Emu} {evs : List Ev} (hP : 0 < P.appid)
    (ei : EInv m P ε) : (∃ ε', Emu.run m P ε evs = .ok ε') ↔ ELegal m (eabs ε) evs := by
  rw [elegal_iff]
  constructor
  · rintro ⟨ε', h⟩; exact ⟨_, (erun_final hP ei _).1 ⟨ε', h, rfl⟩⟩
  · rintro ⟨e'', hr⟩
    obtain ⟨ε', h, _⟩ := (erun_final hP ei e'').2 hr
    exact ⟨ε', h⟩

/-- An event that is not a table-driven push/pop of the "running body" value itself. -/
def Ev.clean (m : Model) : Ev → Prop
  | .ssPush _ v => v ≠ m.cfg.stTaskBody
  | .ssPop _ v => v ≠ m.cfg.stTaskBody
  | _ => True

def SsCovers (m : Model) (ε : Emu) : Prop :=
  ∀ th, (ε.sys.stacks th).length ≤ (ε.ss th).count m.cfg.stTaskBody

/-- On the specification alone: a step keeps at least as many "running body" values on a thread's
    subsystem stack as the thread has bodies stacked. -/
theorem Spec.EStep.covers {m : Model} {e e' : EAbs} {ev : Ev} (st : EStep m e ev e') (hcl : ev.clean m) (th0 : Nat)
    (h0 : (e.a.stack th0).length ≤ (e.ss th0).count m.cfg.stTaskBody) :
    (e'.a.stack th0).length ≤ (e'.ss th0).count m.cfg.stTaskBody := by
  cases st with
  | typeCreate s => cases s; exact h0
  | taskCreate _ s => cases s; exact h0
  | oldCreate _ => exact h0
  | @exec th t bp b f a' _ _ s _ _ =>
    obtain ⟨rfl, _, _⟩ := exec_shape s
    by_cases hth : th0 = th
    · subst hth; simp only [updFn_same, Abs.setStack_stack_same, List.length_cons, List.count_cons_self]; omega
    · simp only [updFn_ne hth, Abs.setStack_stack_ne hth]; exact h0
  | @end_ th t bp b f a' rest _ _ s hr =>
    cases s with
    | end_ _ htop =>
      by_cases hth : th0 = th
      · subst hth
        obtain ⟨tl, hl⟩ := List.head?_eq_some_iff.1 htop
        rw [hr, List.count_cons_self, hl, List.length_cons] at h0
        simp only [updFn_same, Abs.setStack_stack_same, hl, List.tail_cons]; omega
      · simp only [updFn_ne hth, Abs.setStack_stack_ne hth]; exact h0
  | pause _ _ s => cases s; exact h0
  | resume _ _ s => cases s; exact h0
  | @ssPush th v _ =>
    by_cases hth : th0 = th
    · subst hth; simp only [updFn_same, List.count_cons]; omega
    · simp only [updFn_ne hth]; exact h0
  | @ssPop th v rest hr =>
    by_cases hth : th0 = th
    · subst hth
      have hv : v ≠ m.cfg.stTaskBody := hcl
      rw [hr, List.count_cons_of_ne hv] at h0
      simp only [updFn_same]; exact h0
    · simp only [updFn_ne hth]; exact h0

theorem sscovers_run {m : Model} {P : ProcInfo} {ε ε' : Emu} {evs : List Ev} (hP : 0 < P.appid)
    (ei : EInv m P ε) (hc : SsCovers m ε) (hcl : ∀ ev ∈ evs, ev.clean m)
    (h : Emu.run m P ε evs = .ok ε') : SsCovers m ε' :=
  (Emu.run_induct (I := fun ε => EInv m P ε ∧ SsCovers m ε)
    (fun _ _ ev hm ⟨ei, hc⟩ hs =>
      have ⟨ei1, st⟩ := estep_sound hP ei hs
      ⟨ei1, fun th0 => st.covers (hcl ev hm) th0 (hc th0)⟩)
    ⟨ei, hc⟩ h).2

end Ovni.Task
