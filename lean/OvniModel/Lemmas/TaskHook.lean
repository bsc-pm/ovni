import OvniModel.Lemmas.CoreBayHandlers

/-
  C06 / C20: the task hook (`Emu/TaskHook.lean`) is a sequence of channel
  operations on raw channels of the event's thread — the task channels of its
  model — hence `HookSim`, refined by the set of channels it can write, and by
  the order of its two groups of writes (`taskHook_two_phase`); what a list of
  writes does channel by channel (`applyWrites_src`, `applyWrites_ok`).
-/
namespace Ovni.Emu

theorem applyWrites_ops {ti mc : Nat} : ∀ (ws : List TaskWr) {e e' : Emu},
    applyWrites e ti mc ws = .ok e' → Ops (fun s => ∃ w ∈ ws, rawAt e.specs ti mc w.chan s) e e' := by
  intro ws
  induction ws with
  | nil => intro e e' h; cases h; exact .nil _
  | cons w ws ih =>
    intro e e' h
    obtain ⟨e1, h1, h⟩ := applyWrites_cons_ok h
    refine ((withChan_ops (chanOp_wrOp _ w) h1).mono fun s hs => ⟨w, List.mem_cons_self, hs⟩).trans
      ((ih h).mono ?_)
    rintro s ⟨w', hw', hs⟩
    exact ⟨w', List.mem_cons_of_mem _ hw', withChan_specs h1 ▸ hs⟩

theorem applyWrites_simP {ti mc : Nat} (ws : List TaskWr) {e e' : Emu} (cs : List Nat)
    (hcs : ∀ w ∈ ws, w.chan ∈ cs) (h : applyWrites e ti mc ws = .ok e') : SimP (rawOf ti cs) e e' :=
  ((applyWrites_ops ws h).mono fun _ ⟨w, hw, k, _, _, _, hq⟩ => ⟨k, w.chan, hq, hcs w hw⟩).simP

/-! `applyWrites` on a list that writes no channel twice, at the level of `Emu.src` and at the position `k`
    of the model in the spec list: every write meets its channel as it was before the first one.  Hence
    what an accepted list leaves (`applyWrites_src`) and which lists are accepted (`applyWrites_ok`); the
    shape, and the sources that are not written, are those of any `Ops` (`Ops.upd`, `Ops.frame`). -/

theorem applyWrites_src {ti mc k : Nat} {ms : ModelSpec} : ∀ (ws : List TaskWr) {e e' : Emu}, Shaped e →
    e.specs[k]? = some ms → ms.char = mc → (ws.map TaskWr.chan).Nodup → applyWrites e ti mc ws = .ok e' →
    ∀ w ∈ ws, ∃ c c', e.src (.raw ti k w.chan) = some c ∧ wrOp e.maxStack w c = .ok c' ∧
      e'.src (.raw ti k w.chan) = some c' := by
  intro ws
  induction ws with
  | nil => intro e e' _ _ _ _ _ w hw; cases hw
  | cons w ws ih =>
    intro e e' hs hk hc hnd h w' hw'
    rw [List.map_cons, List.nodup_cons] at hnd
    obtain ⟨e1, h1, ht⟩ := applyWrites_cons_ok h
    obtain ⟨⟨c, c', a1, a2, a3⟩, a4, hs1, hk1, hms⟩ := withChan_wr hs hk hc h1
    rcases List.mem_cons.mp hw' with rfl | hw'
    · -- no later write is on the channel of the head
      refine ⟨c, c', a1, a2, ((applyWrites_ops ws ht).frame hs1 ?_).trans a3⟩
      rintro ⟨w2, hw2, hr⟩
      injection rawAt_eq hs1 hk1 hc hr with _ _ hq
      exact hnd.1 (hq ▸ List.mem_map_of_mem hw2)
    · obtain ⟨d, d', q1, q2, q3⟩ := ih hs1 hk1 hc hnd.2 ht w' hw'
      exact ⟨d, d', (a4 _ (ne_of_mem_of_not_mem (List.mem_map_of_mem hw') hnd.1)).symm.trans q1, hms ▸ q2, q3⟩

theorem applyWrites_ok {ti mc k : Nat} {ms : ModelSpec} : ∀ (ws : List TaskWr) {e : Emu}, Shaped e →
    e.specs[k]? = some ms → ms.char = mc → (ws.map TaskWr.chan).Nodup →
    (∀ w ∈ ws, ∃ c c', e.src (.raw ti k w.chan) = some c ∧ wrOp e.maxStack w c = .ok c') →
    ∃ e', applyWrites e ti mc ws = .ok e' := by
  intro ws
  induction ws with
  | nil => intro e _ _ _ _ _; exact ⟨e, rfl⟩
  | cons w ws ih =>
    intro e hs hk hc hnd hall
    rw [List.map_cons, List.nodup_cons] at hnd
    obtain ⟨c, c', h1, h2⟩ := hall w List.mem_cons_self
    obtain ⟨e1, hw⟩ := withChan_ok_of_src hs hk hc h1 h2
    obtain ⟨_, a4, hs1, hk1, hms⟩ := withChan_wr hs hk hc hw
    obtain ⟨e', he'⟩ := ih hs1 hk1 hc hnd.2 fun w' hw' => by
      obtain ⟨d, d', q1, q2⟩ := hall w' (List.mem_cons_of_mem _ hw')
      exact ⟨d, d', (a4 _ (ne_of_mem_of_not_mem (List.mem_map_of_mem hw') hnd.1)).trans q1, hms ▸ q2⟩
    exact ⟨e', by rw [applyWrites_cons, hw]; exact he'⟩

/-- the channels of `update_task_channels` (every task channel but the subsystem) -/
def TaskChanIdx.sets (k : TaskChanIdx) : List Nat :=
  k.bodyid.toList ++ [k.taskid, k.typ] ++ k.appid.toList ++ [k.rank]

theorem TaskChanIdx.mem_all {k : TaskChanIdx} {i : Nat} : i ∈ k.all ↔ i = k.ss ∨ i ∈ k.sets := by
  simp only [TaskChanIdx.all, TaskChanIdx.sets, List.mem_append, List.mem_cons, List.not_mem_nil, or_false]
  exact or_left_comm

/-- the `chan_push` / `chan_pop` of `update_task_ss_channel` -/
def ssPart (m : Ovni.Task.Model) (tv : Ovni.Task.TaskEv) : List TaskWr :=
  match tv with
  | .x => [TaskWr.push (taskIdx m).ss (.int m.cfg.stTaskBody)]
  | .e => [TaskWr.pop (taskIdx m).ss (.int m.cfg.stTaskBody)]
  | _ => []

/-- the `chan_set`s of `update_task_channels` -/
def setPart (m : Ovni.Task.Model) (P : Ovni.Task.ProcInfo) (tr : Ovni.Task.Tr)
    (next : Option (Ovni.Task.Task × Ovni.Task.Body)) : List TaskWr :=
  match tr with
  | .e | .p => taskSets (taskIdx m) P none
  | _ =>
    match next with
    | some (T, B) => taskSets (taskIdx m) P (some ((B.id : Int), (T.id : Int), (T.gid : Int)))
    | none => []

theorem taskWrites_eq (m : Ovni.Task.Model) (P : Ovni.Task.ProcInfo) (tv : Ovni.Task.TaskEv) (tr : Ovni.Task.Tr)
    (next : Option (Ovni.Task.Task × Ovni.Task.Body)) :
    taskWrites m P tv tr next = ssPart m tv ++ setPart m P tr next := by
  unfold taskWrites ssPart setPart
  cases tv <;> cases tr <;> rfl

theorem setPart_cases (m : Ovni.Task.Model) (P : Ovni.Task.ProcInfo) (tr : Ovni.Task.Tr)
    (next : Option (Ovni.Task.Task × Ovni.Task.Body)) :
    setPart m P tr next = [] ∨ ∃ vals, setPart m P tr next = taskSets (taskIdx m) P vals := by
  unfold setPart
  cases tr
  case e | p => exact .inr ⟨none, rfl⟩
  all_goals
    cases next with
    | none => exact .inl rfl
    | some x => exact .inr ⟨_, rfl⟩

theorem ssPart_chans (m : Ovni.Task.Model) (tv : Ovni.Task.TaskEv) : ∀ w ∈ ssPart m tv, w.chan = (taskIdx m).ss := by
  intro w hw
  cases tv <;> simp only [ssPart, List.mem_singleton, List.not_mem_nil] at hw <;> subst hw <;> rfl

theorem taskSets_chans (k : TaskChanIdx) (P : Ovni.Task.ProcInfo) (vals : Option (Int × Int × Int)) :
    ∀ w ∈ taskSets k P vals, w.chan ∈ k.sets := by
  -- the channels written are `k.sets`, the rank only with `proc->rank`
  have hl : (taskSets k P vals).map TaskWr.chan =
      k.bodyid.toList ++ [k.taskid, k.typ] ++ k.appid.toList ++ if P.rank ≥ 0 then [k.rank] else [] := by
    unfold taskSets
    rw [List.map_append, apply_ite (List.map TaskWr.chan)]
    cases k.bodyid <;> cases k.appid <;> rfl
  intro w hw
  have hm := hl ▸ List.mem_map.mpr ⟨w, hw, rfl⟩
  rcases List.mem_append.mp hm with hm | hm
  · exact List.mem_append_left _ hm
  · split at hm
    · exact List.mem_append_right _ hm
    · cases hm

theorem setPart_chans (m : Ovni.Task.Model) (P : Ovni.Task.ProcInfo) (tr : Ovni.Task.Tr)
    (next : Option (Ovni.Task.Task × Ovni.Task.Body)) : ∀ w ∈ setPart m P tr next, w.chan ∈ (taskIdx m).sets := by
  intro w hw
  rcases setPart_cases m P tr next with h | ⟨vals, h⟩ <;> rw [h] at hw
  · cases hw
  · exact taskSets_chans _ _ _ w hw

theorem applyWrites_append {ti mc : Nat} : ∀ (ws1 ws2 : List TaskWr) {e e' : Emu},
    applyWrites e ti mc (ws1 ++ ws2) = .ok e' →
    ∃ e1, applyWrites e ti mc ws1 = .ok e1 ∧ applyWrites e1 ti mc ws2 = .ok e' := by
  intro ws1
  induction ws1 with
  | nil => intro ws2 e e' h; exact ⟨e, rfl, h⟩
  | cons w ws ih =>
    intro ws2 e e' h
    obtain ⟨e0, h0, h⟩ := applyWrites_cons_ok h
    rw [applyWrites_cons, h0]
    exact ih ws2 h

theorem taskHook_ev {m : Ovni.Task.Model} {P : Ovni.Task.ProcInfo} {ε : Ovni.Task.Emu} {ev : Ovni.Task.Ev}
    {e e' : Emu} {ti mc a : Nat} {p : List Nat} (h : taskHook m P ε ev e ti mc a p = .ok e') :
    (∃ t v bp, ev = .task ti v t bp) ∨ (∃ ty hh f, ev = .typeCreate ty hh f) ∨ (∃ par t ty, ev = .taskCreate par t ty) := by
  obtain ⟨_, ⟨hev, _⟩ | ⟨_, _, _, _, rfl, _⟩⟩ := taskHook_cases h
  · exact .inr hev
  · exact .inl ⟨_, _, _, rfl⟩

theorem taskHook_create {m : Ovni.Task.Model} {P : Ovni.Task.ProcInfo} {ε ε' : Ovni.Task.Emu} {ev : Ovni.Task.Ev}
    (e : Emu) (ti mc a : Nat) (p : List Nat) (hst : Ovni.Task.Emu.step m P ε ev = .ok ε')
    (hev : (∃ ty hh f, ev = .typeCreate ty hh f) ∨ (∃ par t ty, ev = .taskCreate par t ty)) :
    taskHook m P ε ev e ti mc a p = .ok e := by
  unfold taskHook
  rcases hev with ⟨_, _, _, rfl⟩ | ⟨_, _, _, rfl⟩ <;> rw [hst]

theorem taskHook_ops {m : Ovni.Task.Model} {P : Ovni.Task.ProcInfo} {ε : Ovni.Task.Emu} {ev : Ovni.Task.Ev}
    {e e' : Emu} {ti a b : Nat} {p : List Nat} (h : taskHook m P ε ev e ti a b p = .ok e') :
    Ops (rawOf ti (taskIdx m).all) e e' := by
  obtain ⟨_, ⟨_, rfl⟩ | ⟨_, _, _, _, _, _, h⟩⟩ := taskHook_cases h
  · exact .nil _
  · refine (applyWrites_ops _ (taskWrites_eq .. ▸ h)).mono ?_
    rintro _ ⟨w, hw, k, _, _, _, rfl⟩
    refine ⟨k, w.chan, rfl, TaskChanIdx.mem_all.mpr ?_⟩
    rcases List.mem_append.mp hw with hw | hw
    · exact .inl (ssPart_chans _ _ w hw)
    · exact .inr (setPart_chans _ _ _ _ w hw)

theorem taskHook_simP {m : Ovni.Task.Model} {P : Ovni.Task.ProcInfo} {ε : Ovni.Task.Emu} {ev : Ovni.Task.Ev}
    {e e' : Emu} {ti a b : Nat} {p : List Nat} (h : taskHook m P ε ev e ti a b p = .ok e') :
    SimP (rawOf ti (taskIdx m).all) e e' :=
  (taskHook_ops h).simP

theorem hookSim_task (m : Ovni.Task.Model) (P : Ovni.Task.ProcInfo) (ε : Ovni.Task.Emu) (ev : Ovni.Task.Ev) :
    HookSim (taskHook m P ε ev) := by
  intro e ti a b p e' h
  exact (taskHook_simP h).sim

/-! The hook as TWO groups of writes, in the order of `update_task`: first
    `update_task_ss_channel` (the subsystem channel), then `update_task_channels` (body id, task id,
    type, app id, rank). -/

/-- The first group is there for the events `x` / `e` only. -/
theorem taskHook_two_phase {m : Ovni.Task.Model} {P : Ovni.Task.ProcInfo} {ε : Ovni.Task.Emu} {ev : Ovni.Task.Ev}
    {e e' : Emu} {ti a b : Nat} {p : List Nat} (h : taskHook m P ε ev e ti a b p = .ok e') :
    ∃ e1, SimP (fun s => (∃ th t bp, ev = .task th .x t bp ∨ ev = .task th .e t bp) ∧
        rawOf ti [(taskIdx m).ss] s) e e1 ∧
      SimP (rawOf ti (taskIdx m).sets) e1 e' := by
  obtain ⟨_, ⟨_, he⟩ | ⟨tv, t, bp, _, rfl, _, h⟩⟩ := taskHook_cases h
  · subst he
    exact ⟨_, SimP.refl _, SimP.refl _⟩
  · rw [taskWrites_eq] at h
    obtain ⟨e1, h1, h2⟩ := applyWrites_append _ _ h
    refine ⟨e1, ?_, applyWrites_simP _ _ (setPart_chans _ _ _ _) h2⟩
    have s1 := applyWrites_simP _ _ (fun w hw => List.mem_singleton.mpr (ssPart_chans _ _ w hw)) h1
    cases tv with
    | x => exact s1.mono fun _ hs => ⟨⟨ti, t, bp, .inl rfl⟩, hs⟩
    | e => exact s1.mono fun _ hs => ⟨⟨ti, t, bp, .inr rfl⟩, hs⟩
    | p => cases h1; exact SimP.refl _
    | r => cases h1; exact SimP.refl _

/-- `6` and `5` are `CH_IDLE` of `enum nosv_chan` / `enum nanos6_chan`; `TaskChanIdx` has no field
    for it: the task layer never writes it. -/
theorem task_channel_groups :
    (taskIdx .nosv).ss ∉ (taskIdx .nosv).sets ∧ (taskIdx .nosv).typ ∈ (taskIdx .nosv).sets ∧
    (taskIdx .nanos6).ss ∉ (taskIdx .nanos6).sets ∧ (taskIdx .nanos6).typ ∈ (taskIdx .nanos6).sets ∧
    6 ∉ (taskIdx .nosv).sets ∧ 5 ∉ (taskIdx .nanos6).sets := by decide

end Ovni.Emu
