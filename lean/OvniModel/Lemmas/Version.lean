import OvniModel.Version
import OvniModel.Lemmas.ListLemmas

/-! C14: `dec`, the decimal rendering through which the statements of Props/C14 write version strings (the core
    library's `Nat.toDigits 10`, whose lemmas it inherits through `dec_eq`); what `strtok` and `parseField` do on
    a text of the expected form (`strtok_append`, `parseField_append`); the enabling logic in closed form. -/
namespace Ovni.Version

def dec (n : Nat) : Str :=
  if n < 10 then [n + 48] else dec (n / 10) ++ [n % 10 + 48]
decreasing_by omega

theorem dec_eq (n : Nat) : dec n = (Nat.toDigits 10 n).map Char.toNat := by
  have digit : ∀ d < 10, [d.digitChar].map Char.toNat = [d + 48] := by decide
  induction n using Nat.strongRecOn with
  | _ n ih =>
    rw [dec, Nat.toDigits_eq_if (by omega)]
    split
    · rename_i h; exact (digit n h).symm
    · rw [ih (n / 10) (by omega), List.map_append, digit _ (Nat.mod_lt _ (by omega))]

theorem digitsVal_map (l : List Char) : ∀ acc, digitsVal acc (l.map Char.toNat) = Nat.ofDigitChars 10 l acc := by
  induction l with
  | nil => intro acc; rfl
  | cons c r ih =>
    intro acc
    show digitsVal (acc * 10 + (c.toNat - 48)) (r.map Char.toNat) = Nat.ofDigitChars 10 r (10 * acc + (c.toNat - 48))
    rw [ih, Nat.mul_comm]

theorem digitsVal_dec (n : Nat) : digitsVal 0 (dec n) = n := by
  rw [dec_eq, digitsVal_map, Nat.ofDigitChars_ten_toDigits]

theorem dec_ne_nil (n : Nat) : dec n ≠ [] := by
  rw [dec_eq]; simp [Nat.toDigits_ne_nil]

theorem dec_all_digits (n : Nat) : ∀ c ∈ dec n, isDigit c = true := by
  rw [dec_eq]
  intro c hc
  obtain ⟨ch, hch, rfl⟩ := List.mem_map.mp hc
  have := Nat.isDigit_of_mem_toDigits (by decide) (by decide) hch
  simp only [Char.isDigit, Bool.and_eq_true, decide_eq_true_eq, ge_iff_le, UInt32.le_iff_toNat_le] at this
  simp only [isDigit, Bool.and_eq_true, decide_eq_true_eq]
  exact this

theorem dec_length_le (k n : Nat) (h : n < 10 ^ (k + 1)) : (dec n).length ≤ k + 1 := by
  rw [dec_eq, List.length_map]
  exact (Nat.length_toDigits_le_iff (by decide) (by omega)).mpr h

theorem isDigit_iff (c : Nat) : isDigit c = true ↔ 48 ≤ c ∧ c ≤ 57 := by
  simp [isDigit]

theorem isSpace_iff (c : Nat) : isSpace c = true ↔ c = 32 ∨ c = 9 ∨ c = 10 ∨ c = 11 ∨ c = 12 ∨ c = 13 := by
  simp [isSpace, or_assoc]

theorem isDigit_not_space (c : Nat) (h : isDigit c = true) : isSpace c = false := by
  rw [isDigit_iff] at h
  cases hs : isSpace c with
  | false => rfl
  | true => rw [isSpace_iff] at hs; omega

/-- below 2^31 neither `ERANGE` nor the `(int)` cast interferes: the value comes back unless it is negative -/
theorem fieldValue_of_lt {n : Nat} (h : n < 2 ^ 31) (neg : Bool) :
    fieldValue neg n = if neg = true ∧ 0 < n then none else some n := by
  have hr : ¬ n > longMax ∧ ¬ n > longMax + 1 := by unfold longMax; omega
  have hc : ∀ v : Int, -2 ^ 31 < v → v < 2 ^ 31 → castInt v = v := by
    intro v h1 h2; unfold castInt; simp only; split <;> omega
  cases neg
  · simp [fieldValue, hr.1, hc n (by omega) (by omega)]
  · simp only [fieldValue, hr, if_true, hc (-n) (by omega) (by omega)]
    by_cases h0 : 0 < n <;> simp [h0]
    omega

theorem stripSign_eq (u : Str) : ∃ sg, (sg = [] ∨ sg = [45] ∨ sg = [43]) ∧ u = sg ++ (stripSign u).2 := by
  unfold stripSign
  split
  · exact ⟨[45], .inr (.inl rfl), rfl⟩
  · exact ⟨[43], .inr (.inr rfl), rfl⟩
  · exact ⟨[], .inl rfl, rfl⟩

/-- `strtol` and the checks after it on blanks, an optional sign and digits: the converse of
    `Props.C14.parseField_sound` -/
theorem parseField_append {ws sg ds : Str} (hws : ∀ c ∈ ws, isSpace c = true)
    (hsg : sg = [] ∨ sg = [45] ∨ sg = [43]) (hne : ds ≠ []) (hd : ∀ c ∈ ds, isDigit c = true) :
    parseField (ws ++ sg ++ ds) = fieldValue (sg == [45]) (digitsVal 0 ds) := by
  obtain ⟨c, cs, rfl⟩ := List.exists_cons_of_ne_nil hne
  have hdc := hd c (by simp)
  have hc := (isDigit_iff c).1 hdc
  have hsp : (ws ++ sg ++ c :: cs).dropWhile isSpace = sg ++ c :: cs := by
    rw [List.append_assoc, List.dropWhile_append_of_pos hws]
    rcases hsg with rfl | rfl | rfl
    · exact List.dropWhile_cons_of_neg (by simp [isDigit_not_space c hdc])
    · rfl
    · rfl
  have hst : stripSign (sg ++ c :: cs) = (sg == [45], c :: cs) := by
    rcases hsg with rfl | rfl | rfl
    · unfold stripSign
      split
      · rename_i r heq; cases heq; omega
      · rename_i r heq; cases heq; omega
      · rfl
    · rfl
    · rfl
  unfold parseField
  simp only [hsp, hst]
  rw [takeWhile_all isDigit _ hd, dropWhile_all isDigit _ hd]
  rfl

theorem parseField_dec {sg : Str} (hsg : sg = [] ∨ sg = [45] ∨ sg = [43]) {n : Nat} (h : n < 2 ^ 31) :
    parseField (sg ++ dec n) = if sg = [45] ∧ 0 < n then none else some n := by
  refine (parseField_append (ws := []) nofun hsg (dec_ne_nil n) (dec_all_digits n)).trans ?_
  rw [digitsVal_dec, fieldValue_of_lt h]
  simp only [beq_iff_eq]

/-- `strtok_r` on a text that begins with a token: the token ends where the text does or at a delimiter,
    which is consumed -/
theorem strtok_append (isDelim : Nat → Bool) (tok rest : Str) (hne : tok ≠ [])
    (ht : ∀ c ∈ tok, isDelim c = false) (hr : ∀ d ∈ rest.head?, isDelim d = true) :
    strtok isDelim (tok ++ rest) = some (tok, rest.drop 1) := by
  obtain ⟨c, cs, rfl⟩ := List.exists_cons_of_ne_nil hne
  have ht' : ∀ x ∈ c :: cs, (!isDelim x) = true := fun x hx => by simp [ht x hx]
  unfold strtok
  rw [List.cons_append, List.dropWhile_cons_of_neg (by simp [ht c (by simp)]), ← List.cons_append]
  obtain ⟨e1, e2⟩ := takeWhile_dropWhile_stop (r := rest) ht' fun d hd => by simp [hr d hd]
  simp only [e1, e2]
  rfl

/-! The emulator side in closed form: what `model_version_probe`, the per-model step of `model_probe` and
    `model_probe` as a whole compute.  The statements of Props/C14 are read off these. -/

/-- one unusable requirement aborts; otherwise one compatible requirement (or an earlier one: `en`) enables -/
theorem probeLoop_eq (h : Ver) (ts : List ThreadReq) (en : Bool) :
    probeLoop h en ts =
      if ts.any (shouldEnable h · == .error) then .error
      else if en || ts.any (shouldEnable h · == .enabled) then .enabled else .disabled := by
  induction ts generalizing en with
  | nil => cases en <;> rfl
  | cons t ts ih =>
    rw [probeLoop]
    cases hs : shouldEnable h t <;> simp [hs, ih]

theorem modelEnabled_eq (all : Bool) (specV : Str) (ts : List ThreadReq) (on : Bool) :
    modelEnabled all specV ts on = (parse (some specV)).bind fun h =>
      if ts.any (shouldEnable h · == .error) then none
      else some (all || on || ts.any (shouldEnable h · == .enabled)) := by
  unfold modelEnabled versionProbe
  cases parse (some specV) with
  | none => rfl
  | some h =>
    simp only [probeLoop_eq, Option.bind_some]
    by_cases e : ts.any (shouldEnable h · == .error) = true
    · simp [e]
    · by_cases a : ts.any (shouldEnable h · == .enabled) = true <;> simp [e, a]

/-- `model_probe` aborts when the probe of some registered model does; otherwise it enables the models whose
    probe says so, in registration order -/
theorem enabledSet_eq (all : Bool) (threads : List Require) (models : List (Str × Str × Nat)) :
    enabledSet all threads models =
      if models.all (fun m => (modelEnabled all m.2.1 (threads.map (reqFor m.1)) (alwaysOn m.2.2)).isSome)
      then some ((models.filter fun m =>
        modelEnabled all m.2.1 (threads.map (reqFor m.1)) (alwaysOn m.2.2) == some true).map (·.2.2))
      else none := by
  induction models with
  | nil => rfl
  | cons m ms ih =>
    obtain ⟨name, ver, ch⟩ := m
    rw [enabledSet]
    cases hm : modelEnabled all ver (threads.map (reqFor name)) (alwaysOn ch) with
    | none => simp [hm]
    | some b => split at ih <;> rename_i hA <;> rw [ih] <;> cases b <;> simp [hm, hA]

theorem enabledSet_eq_none {all : Bool} {threads : List Require} {models : List (Str × Str × Nat)} :
    enabledSet all threads models = none ↔ ∃ name ver ch, (name, ver, ch) ∈ models ∧
      modelEnabled all ver (threads.map (reqFor name)) (alwaysOn ch) = none := by
  rw [enabledSet_eq]
  simp

end Ovni.Version
