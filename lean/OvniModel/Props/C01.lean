import OvniModel.Lemmas.Rt
import OvniModel.Lemmas.RtEvent

/-!
# C01 — runtime stream fidelity

Model: `Rt/Event.lean`, `Rt/Buffer.lean` (transcription of `src/rt/ovni.c`).
`cap` (OVNI_MAX_EV_BUF) is a parameter: the theorems hold for every capacity
above 24 bytes (room for the two flush markers), hence for every alignment of
the buffer-full boundary.  Only well-formedness of jumbo records (`built_spec`,
`run_wf`) also needs `cap ≤ 2^32`: the jumbo size field is a u32
(`Rec.WF.jumbo`), and a jumbo that fits the buffer is smaller than `cap`.
-/
-- `[JData D]` is in scope for every statement, also for those that never look at jumbo data
set_option linter.unusedSectionVars false
namespace Ovni.Props.C01
open Ovni.Rt
variable {D : Type} [JData D]

/-- What `ovni_payload_add` accepts. -/
def ChunksOK (chs : List (List Nat)) : Prop := (∀ c ∈ chs, 2 ≤ c.length) ∧ chs.flatten.length ≤ 16

/-- A fresh event (`struct ovni_ev ev = {0}` + set_mcv/set_clock). -/
def Fresh (e : Ev) : Prop := e.flags = 0 ∧ e.payload = []

theorem fresh_wf (e : Ev) (h : Fresh e) : e.WF := by
  obtain ⟨hf, hp⟩ := h
  exact ⟨by rw [hf, hp]; rfl, by omega⟩

/-- `ovni_payload_add` accepts exactly the documented sizes, and payload sizes
    0, 2..16 round-trip through the size nibble. -/
theorem payload_roundtrip (e : Ev) (he : Fresh e) (chs : List (List Nat)) :
    (∀ e', payloadAddAll e chs = some e' →
        e'.payload = chs.flatten ∧ payloadSize e'.flags = chs.flatten.length ∧ ChunksOK chs ∧
        e'.m = e.m ∧ e'.c = e.c ∧ e'.v = e.v ∧ e'.clock = e.clock) ∧
    (ChunksOK chs → (payloadAddAll e chs).isSome = true) := by
  have hw := fresh_wf e he
  have heq := payloadAddAll_eq e chs hw
  rw [he.2] at heq
  simp only [List.nil_append, List.length_nil, Nat.zero_add] at heq
  constructor
  · intro e' h
    have hw' := payloadAddAll_wf hw h
    rw [heq] at h
    split at h
    · rename_i hc
      cases h
      exact ⟨rfl, hw'.size, hc, rfl, rfl, rfl, rfl⟩
    · cases h
  · intro hc
    rw [heq, if_pos (show _ ∧ _ from hc)]; rfl

/-- Any sequence of records the library produces decodes back, event by event,
    to exactly those records: MCV, clock, payload and jumbo data byte for byte,
    and the events tile the byte string. -/
theorem decode_encode (rs : List (Rec D)) (h : ∀ r ∈ rs, r.WF) :
    decodeAll (rs.flatMap Rec.encode).length (rs.flatMap Rec.encode) = some (rs.map Rec.toDec) :=
  decodeAll_encode rs h _ (Nat.le_refl _)

theorem decode_stream (magic : List Nat) (hm : magic.length = 4) (version : Nat)
    (rs : List (Rec D)) (h : ∀ r ∈ rs, r.WF) :
    decodeStream magic version (streamHeader magic version ++ rs.flatMap Rec.encode) =
      some (rs.map Rec.toDec) := by
  have hl : (streamHeader magic version).length = 8 := by simp [streamHeader, le_length, hm]
  rw [decodeStream, List.take_left' hl, List.drop_left' hl, if_pos ⟨rfl, by simp [hl]⟩]
  exact decodeAll_encode rs h _ (by simp)

/-- The user records an operation hands over.  Of the state only the clock reading `s.now` matters,
    of `cap` only the size guard of `ovni_ev_add_jumbo` (`jumboRec`). -/
def handed (cap : Nat) (s : St D) : Op D → List (Rec D)
  | .emit e ch => match payloadAddAll e ch with
    | some e' => [.ev e'] | none => []
  | .emitNow e ch => match payloadAddAll { e with clock := s.now } ch with
    | some e' => [.ev e'] | none => []
  | .jumbo e ch d => match jumboRec cap e ch d with
    | some r => [r] | none => []
  | .jumboNow e ch d => match jumboRec cap { e with clock := s.now } ch d with
    | some r => [r] | none => []
  | .mark k t v => match payloadAddAll { m := 79, c := 77, v := k, clock := s.now } [sle 8 v, sle 4 t] with
    | some e' => [.ev e'] | none => []
  | _ => []

/-- Reachable states: the bookkeeping invariant, and nothing buffered before
    `ovni_thread_init`. -/
structure Good (cap : Nat) (s : St D) : Prop where
  inv : Inv cap s
  fresh : s.ready = false → s.finished = false → s.buf = []

/-- A call that returns is one `ovni_ev_add` of the record handed over, after a clock reading or
    not; or `ovni_flush`; or it emits nothing (`Frame`; `ovni_thread_init` finds the buffer of a thread
    that never ran empty).  In that last case a state that never ran comes from one that never ran:
    this is what carries `Good.fresh` over. -/
theorem step_cases {cap : Nat} {s s' : St D} {op : Op D} (hg : Good cap s) (h : step cap s op = some s') :
    (∃ r s1, handed cap s op = [r] ∧ Frame s s1 ∧ evAdd cap addFuel s1 r .user = some s') ∨
    handed cap s op = [] ∧ (flush cap s = some s' ∨
      Frame s s' ∧ (s'.ready = false → s'.finished = false → s.ready = false ∧ s.finished = false)) := by
  cases op with
  | emit e ch =>
    obtain ⟨e', hp, h⟩ := emit_eq_some h
    exact .inl ⟨_, s, by simp only [handed, hp], .refl s, h⟩
  | emitNow e ch =>
    obtain ⟨e', hp, h⟩ := emit_eq_some (s := s.clockNow.2) (e := { e with clock := s.now }) h
    exact .inl ⟨_, _, by simp only [handed, hp], .clockNow s, h⟩
  | jumbo e ch d =>
    obtain ⟨r, hp, h⟩ := emitJumbo_eq_some h
    exact .inl ⟨_, s, by simp only [handed, hp], .refl s, h⟩
  | jumboNow e ch d =>
    obtain ⟨r, hp, h⟩ := emitJumbo_eq_some (s := s.clockNow.2) (e := { e with clock := s.now }) h
    exact .inl ⟨_, _, by simp only [handed, hp], .clockNow s, h⟩
  | mark k t v =>
    obtain ⟨e', hp, h⟩ := mark_eq_some h
    exact .inl ⟨_, _, by simp only [handed, hp], .clockNow s, h⟩
  | flush => exact .inr ⟨rfl, .inl h⟩
  | init =>
    rcases threadInit_eq_some h with ⟨_, rfl⟩ | ⟨hnr, hnf, rfl⟩
    · exact .inr ⟨rfl, .inr ⟨.refl _, And.intro⟩⟩
    · have hb := hg.fresh hnr hnf
      exact .inr ⟨rfl, .inr ⟨⟨rfl, hb.symm, by rw [hg.inv.len, hb]; rfl, Nat.le_refl _, fun _ => rfl⟩,
        fun hx => by cases hx⟩⟩
  | setTick n => cases h; exact .inr ⟨rfl, .inr ⟨⟨rfl, rfl, rfl, Nat.le_refl _, id⟩, And.intro⟩⟩
  | metaOp =>
    simp only [step] at h
    split at h <;> cases h
    exact .inr ⟨rfl, .inr ⟨.refl _, And.intro⟩⟩
  | free =>
    cases threadFree_eq_some h
    exact .inr ⟨rfl, .inr ⟨⟨rfl, rfl, rfl, Nat.le_refl _, id⟩, fun _ hx => by cases hx⟩⟩

/-- A flush marker: library origin, `OF[` or `OF]`, no payload. -/
def IsMarker (x : Rec D × Origin) : Prop :=
  x.2 = .lib ∧ ∃ t, x.1 = markerOpen t ∨ x.1 = markerClose t

def userOf (l : List (Rec D × Origin)) : List (Rec D) :=
  l.filterMap (fun x => if x.2 = .user then some x.1 else none)

theorem userOf_append (a b : List (Rec D × Origin)) : userOf (a ++ b) = userOf a ++ userOf b := by
  simp [userOf]

theorem userOf_map_user (l : List (Rec D)) : userOf (l.map (fun r => (r, Origin.user))) = l := by
  induction l with
  | nil => rfl
  | cons x xs ih => rw [List.map_cons, userOf, List.filterMap_cons_some (by rfl), ← userOf, ih]

theorem userOf_markers (ms : List (Rec D × Origin)) (h : ∀ x ∈ ms, IsMarker x) : userOf ms = [] := by
  induction ms with
  | nil => rfl
  | cons x xs ih =>
    simp only [List.forall_mem_cons] at h
    rw [userOf, List.filterMap_cons_none (by rw [h.1.1]; rfl), ← userOf, ih h.2]

theorem markers_pair (t0 t1 : Nat) :
    ∀ x ∈ [((markerOpen t0 : Rec D), Origin.lib), (markerClose t1, Origin.lib)], IsMarker x := by
  simp only [List.forall_mem_cons, List.not_mem_nil, false_imp_iff, implies_true, and_true]
  exact ⟨⟨rfl, t0, .inl rfl⟩, ⟨rfl, t1, .inr rfl⟩⟩

theorem evAdd_effect (cap : Nat) (hcap : 24 < cap) (s s' : St D) (r : Rec D) (o : Origin)
    (hi : Inv cap s) (h : evAdd cap addFuel s r o = some s') :
    ∃ ms, s'.all = s.all ++ (r, o) :: ms ∧ (∀ x ∈ ms, IsMarker x) ∧ Inv cap s' ∧
      s'.ready = true ∧ s'.finished = s.finished ∧ s'.hdrOnDisk = s.hdrOnDisk ∧ s.now ≤ s'.now := by
  obtain ⟨hr, ⟨hfit, rfl⟩ | rfl⟩ := evAdd_cases hcap h
  · exact ⟨[], append_all s r o, by simp, append_inv cap s r o hi (by omega), hr, rfl, rfl, Nat.le_refl _⟩
  · exact ⟨_, flushedForm_all cap s r o, markers_pair _ _, flushedForm_inv cap hcap s r o,
      by simp [flushedForm, hr], by simp [flushedForm], by simp [flushedForm],
      by simp [flushedForm]; omega⟩

theorem markers_append {a b : List (Rec D × Origin)} (ha : ∀ x ∈ a, IsMarker x)
    (hb : ∀ x ∈ b, IsMarker x) : ∀ x ∈ a ++ b, IsMarker x := by
  intro x hx
  rcases List.mem_append.1 hx with h | h
  · exact ha x h
  · exact hb x h

theorem flush_effect (cap : Nat) (hcap : 24 < cap) (s s' : St D) (h : flush cap s = some s') :
    s'.disk = s.disk ++ s.buf ∧ (∀ x ∈ s'.buf, IsMarker x) ∧ Inv cap s' ∧ s'.ready = true ∧
      s'.finished = s.finished ∧ s'.hdrOnDisk = s.hdrOnDisk := by
  obtain ⟨hr, rfl⟩ := flush_cases hcap h
  exact ⟨by simp, markers_pair _ _, ⟨by simp [sizes], by simp; omega⟩, by simp [hr], by simp, by simp⟩

/-- Every operation that returns appends exactly what the user handed over
    (nothing, or one record) followed only by flush markers: no event is lost,
    duplicated or reordered, whatever the position of the buffer-full boundary. -/
theorem step_fidelity (cap : Nat) (hcap : 24 < cap) (s s' : St D) (op : Op D)
    (hg : Good cap s) (h : step cap s op = some s') :
    (∃ ms, s'.all = s.all ++ (handed cap s op).map (fun r => (r, Origin.user)) ++ ms ∧
        (∀ x ∈ ms, IsMarker x)) ∧ Good cap s' ∧ (s.hdrOnDisk = true → s'.hdrOnDisk = true) := by
  rcases step_cases hg h with ⟨r, s1, hr, hf, h⟩ | ⟨hr, h | ⟨hf, hfr⟩⟩
  · obtain ⟨ms, ha, hm, hinv, hr', _, hh, _⟩ := evAdd_effect cap hcap s1 s' r .user (hg.inv.frame hf) h
    exact ⟨⟨ms, by rw [ha, hf.all, hr]; simp, hm⟩, ⟨hinv, fun hx => by rw [hr'] at hx; cases hx⟩,
      fun x => by rw [hh]; exact hf.hdr x⟩
  · obtain ⟨hd, hb, hinv, hr', _, hh⟩ := flush_effect cap hcap s s' h
    exact ⟨⟨s'.buf, by simp [St.all, hd, hr], hb⟩, ⟨hinv, fun hx => by rw [hr'] at hx; cases hx⟩,
      fun x => by rw [hh]; exact x⟩
  · exact ⟨⟨[], by rw [hf.all, hr]; simp, by simp⟩,
      ⟨hg.inv.frame hf, fun a b => by rw [hf.buf]; exact hg.fresh (hfr a b).1 (hfr a b).2⟩, hf.hdr⟩

/-- All user records handed over by a program, in call order. -/
def handedAll (cap : Nat) : St D → List (Op D) → List (Rec D)
  | _, [] => []
  | s, op :: ops =>
    handed cap s op ++ (match step cap s op with
      | some s' => handedAll cap s' ops
      | none => [])

/-- After any program that does not abort, the user records in (file ++ buffer)
    are exactly the records handed over, each once, in call order; everything
    else that was added is a flush marker; `evlen` is exact and below the capacity. -/
theorem run_fidelity (cap : Nat) (hcap : 24 < cap) (ops : List (Op D)) (s s' : St D)
    (hg : Good cap s) (h : run cap s ops = some s') :
    userOf s'.all = userOf s.all ++ handedAll cap s ops ∧
    (∃ rest, s'.all = s.all ++ rest ∧ ∀ x ∈ rest, x.2 = .lib → IsMarker x) ∧ Good cap s' ∧
    (s.hdrOnDisk = true → s'.hdrOnDisk = true) := by
  induction ops generalizing s with
  | nil =>
    cases h
    exact ⟨by simp [handedAll], ⟨[], by simp, by simp⟩, hg, id⟩
  | cons op ops ih =>
    rw [run_cons, Option.bind_eq_some_iff] at h
    obtain ⟨s1, hs, h⟩ := h
    obtain ⟨⟨ms, ha, hm⟩, hg1, hh1⟩ := step_fidelity cap hcap s s1 op hg hs
    obtain ⟨hu, ⟨rest, hr, hrm⟩, hg', hh'⟩ := ih s1 hg1 h
    refine ⟨?_, ⟨(handed cap s op).map (fun r => (r, Origin.user)) ++ ms ++ rest, ?_, ?_⟩, hg',
      fun x => hh' (hh1 x)⟩
    · rw [hu, ha]
      simp only [handedAll, hs, userOf_append, userOf_markers ms hm, userOf_map_user, List.append_nil,
        List.append_assoc]
    · rw [hr, ha]; simp
    · intro x hx hl
      simp only [List.append_assoc, List.mem_append, List.mem_map] at hx
      rcases hx with ⟨r, _, rfl⟩ | hx | hx
      · cases hl
      · exact hm x hx
      · exact hrm x hx hl

def init0 : St D := {}

theorem good_init0 (cap : Nat) (hcap : 0 < cap) : Good cap (init0 : St D) :=
  ⟨⟨rfl, hcap⟩, fun _ _ => rfl⟩

/-- **C01.** A thread runs `init; ops; flush; free` without aborting. Then the
    stream file begins with the header, its user events are exactly those handed
    to the library by `ops` — each once, in call order — and every other record
    in the file is one of the library's own payload-free flush markers. -/
theorem stream_fidelity (cap : Nat) (hcap : 24 < cap) (ops : List (Op D)) (s' : St D)
    (h : run cap (init0 : St D) (.init :: ops ++ [.flush, .free]) = some s') :
    s'.hdrOnDisk = true ∧
    userOf s'.disk = handedAll cap init0 (.init :: ops) ∧
    (∀ x ∈ s'.disk, x.2 = .lib → IsMarker x) := by
  -- `ovni_thread_init` on the initial state gives `s0`; then `ops` lead to `s1`, the flush to `s2`
  generalize hs0 : ({ (init0 : St D) with ready := true, hdrOnDisk := true, nflush := 1 } : St D) = s0
  have hinit : step cap (init0 : St D) .init = some s0 := by rw [← hs0]; rfl
  have hg0 : Good cap s0 := by
    rw [← hs0]; exact ⟨⟨rfl, by show 0 < cap; omega⟩, fun hr _ => by cases hr⟩
  have hall0 : s0.all = [] := by rw [← hs0]; rfl
  simp only [List.cons_append, run_cons, run_append, hinit, Option.bind_some,
    Option.bind_eq_some_iff] at h
  obtain ⟨s1, h1, s2, h2, s3, h3, hs'⟩ := h
  cases hs'
  obtain ⟨hu, ⟨rest, hr, hrm⟩, _, hh1⟩ := run_fidelity cap hcap ops s0 s1 hg0 h1
  obtain ⟨hd, _, _, _, _, hh⟩ := flush_effect cap hcap s1 s2 h2
  cases threadFree_eq_some h3
  have hd' : s2.disk = s1.all := hd
  rw [hall0, List.nil_append] at hr
  refine ⟨by rw [← hs0] at hh1; exact hh.trans (hh1 rfl), ?_, ?_⟩
  · show userOf s2.disk = _
    rw [hd', hu, hall0, handedAll, hinit]; rfl
  · intro x hx
    exact hrm x (by rw [← hr, ← hd']; exact hx)

/-- The bytes of the file after such a run decode (header check, exact tiling)
    to exactly the records of `disk`: together with `stream_fidelity` this is
    the byte-for-byte statement. -/
theorem file_decodes (magic : List Nat) (hm : magic.length = 4) (version : Nat) (s : St D)
    (hh : s.hdrOnDisk = true) (hw : ∀ x ∈ s.disk, x.1.WF) :
    decodeStream magic version (s.diskBytes magic version) = some (s.disk.map (fun x => x.1.toDec)) := by
  have := decode_stream magic hm version (s.disk.map (·.1))
    (fun r hr => by obtain ⟨x, hx, rfl⟩ := List.mem_map.1 hr; exact hw x hx)
  rw [List.flatMap_map, List.map_map] at this
  rw [St.diskBytes, if_pos hh]
  exact this

/-- The program uses the API as documented: events start from a zeroed
    `struct ovni_ev` (flags and payload only ever touched by `ovni_payload_add`). -/
def FreshEv : Op D → Prop
  | .emit e _ => Fresh e
  | .emitNow e _ => Fresh e
  | .jumbo e _ _ => Fresh e
  | .jumboNow e _ _ => Fresh e
  | _ => True

/-- `r` is what `ovni_ev_emit` or `ovni_ev_jumbo_emit` makes of the event `e`. -/
def Built (cap : Nat) (e : Ev) (r : Rec D) : Prop :=
  (∃ chs e', payloadAddAll e chs = some e' ∧ r = .ev e') ∨ ∃ chs d, jumboRec cap e chs d = some r

/-- The `struct ovni_ev` an emitting call starts from. -/
def userEv (s : St D) : Op D → Option Ev
  | .emit e _ | .jumbo e _ _ => some e
  | .emitNow e _ | .jumboNow e _ _ => some { e with clock := s.now }
  | .mark k _ _ => some { m := 79, c := 77, v := k, clock := s.now }
  | _ => none

theorem handed_built {cap : Nat} {s : St D} {op : Op D} {r : Rec D} (hr : r ∈ handed cap s op) :
    ∃ e, userEv s op = some e ∧ Built cap e r := by
  cases op with
  | emit e ch | emitNow e ch | mark k t v =>
    simp only [handed] at hr
    split at hr
    · rename_i e' hp
      exact ⟨_, rfl, .inl ⟨_, e', hp, List.mem_singleton.1 hr⟩⟩
    · cases hr
  | jumbo e ch d | jumboNow e ch d =>
    simp only [handed] at hr
    split at hr
    · rename_i r' hp
      cases List.mem_singleton.1 hr
      exact ⟨_, rfl, .inr ⟨_, d, hp⟩⟩
    · cases hr
  | _ => cases hr

theorem userEv_fresh {s : St D} {op : Op D} {e : Ev} (hf : FreshEv op) (he : userEv s op = some e) :
    Fresh e := by
  cases op <;> cases he <;> first | exact hf | exact ⟨rfl, rfl⟩

/-- `flags = 19`: size nibble 3 and the jumbo bit. -/
theorem jumboRec_some {cap : Nat} {e : Ev} {chs : List (List Nat)} {d : D} {r : Rec D} (hw : e.WF)
    (h : jumboRec cap e chs d = some r) :
    ∃ e', r = .jumbo e' d ∧ e'.flags = 19 ∧ e'.m = e.m ∧ e'.c = e.c ∧ e'.v = e.v ∧
      e'.clock = e.clock ∧ 16 + JData.len d < cap := by
  unfold jumboRec at h
  cases h1 : payloadAddAll e chs with
  | none => rw [h1] at h; cases h
  | some e1 =>
    have hw1 := payloadAddAll_wf hw h1
    obtain ⟨hm, hc, hv, hk⟩ := payloadAddAll_fields hw h1
    simp only [h1, payloadAdd_eq e1 _ hw1, hw1.size, le_length, List.length_append] at h
    split at h
    · cases h
    · rename_i h0
      rw [if_pos (by omega)] at h
      simp only [Decidable.not_not] at h0
      simp only [h0, Nat.zero_add, Nat.add_one_sub_one, show payloadSize 3 = 4 from rfl] at h
      split at h
      · cases h
      · cases h
        exact ⟨_, rfl, rfl, hm, hc, hv, hk, by omega⟩

/-- 29: the largest normal event has 28 bytes.  For a jumbo,
    `16 + len < cap ≤ 2^32` bounds the u32 size field. -/
theorem built_spec {cap : Nat} {e : Ev} {r : Rec D} (he : Fresh e) (hb : Built cap e r) :
    r.mcv = (e.m, e.c, e.v) ∧ r.clock = e.clock ∧ r.size < max cap 29 ∧ (cap ≤ 2 ^ 32 → r.WF) := by
  have hw := fresh_wf e he
  rcases hb with ⟨chs, e', hp, rfl⟩ | ⟨chs, d, hp⟩
  · have hw' := payloadAddAll_wf hw hp
    obtain ⟨hm, hc, hv, hk⟩ := payloadAddAll_fields hw hp
    refine ⟨by rw [Rec.mcv, hm, hc, hv], hk, ?_, fun _ => .ev e' hw'⟩
    have := ((wf_iff e').1 hw').1
    rw [Rec.size, hw'.size]
    exact Nat.lt_of_lt_of_le (by omega : _ < 29) (Nat.le_max_right _ _)
  · obtain ⟨e', rfl, hf, hm, hc, hv, hk, hlt⟩ := jumboRec_some hw hp
    exact ⟨by rw [Rec.mcv, hm, hc, hv], hk, Nat.lt_of_lt_of_le hlt (Nat.le_max_left _ _),
      fun _ => .jumbo e' d hf (by omega)⟩

theorem handed_spec {cap : Nat} {s : St D} {op : Op D} {r : Rec D} (hf : FreshEv op)
    (hr : r ∈ handed cap s op) : r.size < max cap 29 ∧ (cap ≤ 2 ^ 32 → r.WF) := by
  obtain ⟨e, he, hb⟩ := handed_built hr
  exact (built_spec (userEv_fresh hf he) hb).2.2

theorem run_all_records (cap : Nat) (hcap : 24 < cap) (P : Rec D → Prop)
    (hm : ∀ t, P (markerOpen t) ∧ P (markerClose t))
    (ops : List (Op D)) (s s' : St D) (hg : Good cap s)
    (hh : ∀ op ∈ ops, ∀ st : St D, ∀ r ∈ handed cap st op, P r)
    (hw : ∀ x ∈ s.all, P x.1) (h : run cap s ops = some s') : ∀ x ∈ s'.all, P x.1 := by
  refine (run_invariant (P := fun s => Good cap s ∧ ∀ x ∈ s.all, P x.1) ?_ ⟨hg, hw⟩ h).2
  intro op ho s s1 ⟨hg, hw⟩ hs
  obtain ⟨⟨ms, ha, hmk⟩, hg1, _⟩ := step_fidelity cap hcap s s1 op hg hs
  refine ⟨hg1, fun x hx => ?_⟩
  rw [ha] at hx
  simp only [List.mem_append, List.mem_map] at hx
  rcases hx with (hx | ⟨r, hr, rfl⟩) | hx
  · exact hw x hx
  · exact hh op ho s r hr
  · obtain ⟨_, t, ht | ht⟩ := hmk x hx
    · rw [ht]; exact (hm t).1
    · rw [ht]; exact (hm t).2

theorem marker_wf (x : Rec D × Origin) (h : IsMarker x) : x.1.WF := by
  obtain ⟨_, t, ht | ht⟩ := h
  all_goals rw [ht]; exact .ev _ ⟨rfl, by show (0 : Nat) < 16; omega⟩

/-- Every record ever produced by an API-conformant program is well formed,
    so the file decodes (`file_decodes`). -/
theorem run_wf (cap : Nat) (hcap : 24 < cap) (hc : cap ≤ 2 ^ 32) (ops : List (Op D)) (s s' : St D)
    (hg : Good cap s) (hf : ∀ op ∈ ops, FreshEv op) (hw : ∀ x ∈ s.all, x.1.WF)
    (h : run cap s ops = some s') : ∀ x ∈ s'.all, x.1.WF :=
  run_all_records cap hcap Rec.WF
    (fun t => ⟨marker_wf (_, .lib) ⟨rfl, t, .inl rfl⟩, marker_wf (_, .lib) ⟨rfl, t, .inr rfl⟩⟩)
    ops s s' hg (fun op ho _ _ hr => (handed_spec (hf op ho) hr).2 hc) hw h

/-- Every record a program leaves in (file ++ buffer) is smaller than `max cap 29`: a jumbo is tested
    against the capacity, a normal event has up to 28 bytes whatever the capacity is. -/
theorem run_sizes (cap : Nat) (hcap : 24 < cap) (ops : List (Op D)) (s' : St D)
    (hf : ∀ op ∈ ops, FreshEv op) (h : run cap (init0 : St D) ops = some s') :
    ∀ x ∈ s'.all, x.1.size < max cap 29 :=
  run_all_records cap hcap (fun r => r.size < max cap 29)
    (fun _ => by constructor <;> (show 12 < max cap 29; omega))
    ops init0 s' (good_init0 cap (by omega)) (fun op ho _ _ hr => (handed_spec (hf op ho) hr).1)
    (fun _ hx => by cases hx) h

/-- Between two API calls `evlen` is the exact number of buffered bytes and below the capacity.
    The copy inside `ovni_ev_add` after a forced flush starts at 0, with a record that `run_sizes`
    bounds when the events are built with the API: it stays inside the buffer once `28 < cap`. -/
theorem buffer_in_bounds (cap : Nat) (hcap : 24 < cap) (ops : List (Op D)) (s' : St D)
    (h : run cap (init0 : St D) ops = some s') :
    s'.evlen = sizes s'.buf ∧ s'.evlen < cap := by
  obtain ⟨_, _, hg, _⟩ := run_fidelity cap hcap ops init0 s' (good_init0 cap (by omega)) h
  exact ⟨hg.inv.len, hg.inv.lt⟩

/-- The hypothesis of `stream_fidelity` is satisfiable: a program at capacity 64 that returns.  Its
    three events (15 + 36 + 12 bytes) fill the buffer to 63 bytes, one short of a forced flush; a
    run that does force one is the last example of `Props/C02.lean`. -/
example :
    (run 64 (init0 : St (List Nat))
      (.init :: [.emitNow { m := 65, c := 66, v := 67, clock := 0 } [[1, 2, 3]],
                 .jumboNow { m := 74, c := 74, v := 74, clock := 0 } [] [9, 8, 7, 6, 5, 4, 3, 2, 1, 0, 1, 2, 3, 4, 5, 6, 7, 8, 9, 10],
                 .emitNow { m := 65, c := 66, v := 68, clock := 0 } []] ++ [.flush, .free])).isSome = true := by
  decide

end Ovni.Props.C01
