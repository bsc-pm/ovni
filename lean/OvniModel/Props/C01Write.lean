import OvniModel.Rt.WriteLoop

/-!
# C01, the write loop — `write_evbuf` under every short-write schedule

`Props/C01.lean` takes buffers to reach the file whole.  Here the operating
system may transfer fewer bytes than asked at every call (model
`Rt/WriteLoop.lean`, the OS being an arbitrary list of answers).  The call log
of the loop is what `replay` demands of the real library's call log.
-/
namespace Ovni.Props.C01Write
open Ovni.Rt.WriteLoop

@[simp] theorem file_cons (c : Call) (o : Out) : (o.cons c).file = o.file := by cases o <;> rfl
@[simp] theorem isDone_cons (c : Call) (o : Out) : (o.cons c).isDone = o.isDone := by cases o <;> rfl
@[simp] theorem rest_cons (c : Call) (o : Out) : (o.cons c).rest = o.rest := by cases o <;> rfl
@[simp] theorem log_cons (c : Call) (o : Out) : (o.cons c).log = c :: o.log := by cases o <;> rfl

/-- Induction along the loop, with the clamping of the count done once. -/
theorem loop_induction {P : List Ret → List Nat → List Nat → Out → Prop}
    (nil : ∀ file buf, P [] file buf (.running file buf []))
    (err : ∀ rest file buf, P (.err :: rest) file buf (.died file [(buf.length, none)]))
    (last : ∀ k rest file buf, buf.length ≤ k →
      P (.count k :: rest) file buf (.done (file ++ buf) [(buf.length, some buf.length)]))
    (more : ∀ k rest file buf, k < buf.length → P rest (file ++ buf.take k) (buf.drop k)
        (loop rest (file ++ buf.take k) (buf.drop k)) →
      P (.count k :: rest) file buf
        ((loop rest (file ++ buf.take k) (buf.drop k)).cons (buf.length, some k))) :
    ∀ o file buf, P o file buf (loop o file buf) := by
  intro o
  induction o with
  | nil => exact nil
  | cons r rest ih =>
    intro file buf
    cases r with
    | err => exact err rest file buf
    | count k =>
      rw [loop]
      by_cases h : buf.length ≤ k
      · rw [Nat.min_eq_right h, if_pos (Nat.sub_self _), List.take_length]
        exact last k rest file buf h
      · rw [Nat.min_eq_left (by omega), if_neg (by omega)]
        exact more k rest file buf (by omega) (ih _ _)

def PrefixOf (file0 buf : List Nat) (o : Out) : Prop :=
  ∃ n, n ≤ buf.length ∧ o.file = file0 ++ buf.take n ∧
    (o.isDone = true → n = buf.length) ∧ (∀ r, o.rest = some r → r = buf.drop n)

/-- Abort or still looping: the file has gained a prefix of the buffer, and a
    loop that is still running owes exactly the remainder; a loop that ended
    has written it all. -/
theorem write_evbuf_prefix (o : List Ret) (file buf : List Nat) :
    PrefixOf file buf (writeEvbuf o file buf) := by
  refine loop_induction (P := fun _ file buf out => PrefixOf file buf out) ?_ ?_ ?_ ?_ o file buf
  · exact fun file buf => ⟨0, Nat.zero_le _, (List.append_nil _).symm, nofun, fun _ h => by cases h; rfl⟩
  · exact fun _ file buf => ⟨0, Nat.zero_le _, (List.append_nil _).symm, nofun, nofun⟩
  · exact fun _ _ file buf _ =>
      ⟨buf.length, Nat.le_refl _, by rw [List.take_length]; rfl, fun _ => rfl, nofun⟩
  · intro k _ file buf hk ⟨n, hn, hf, hd, hr⟩
    rw [List.length_drop] at hn hd
    refine ⟨k + n, by omega, ?_, ?_, ?_⟩
    · rw [file_cons, hf, List.append_assoc, List.take_add]
    · intro hd'; rw [isDone_cons] at hd'; have := hd hd'; omega
    · intro r hr'; rw [rest_cons] at hr'; rw [hr r hr', List.drop_drop]

/-- For every answer list of the operating system: if `write_evbuf` returns, the
    file is the earlier content followed by the whole buffer. -/
theorem write_evbuf_exact (o : List Ret) (file buf f : List Nat) (l : List Call)
    (h : writeEvbuf o file buf = .done f l) : f = file ++ buf := by
  obtain ⟨n, _, hf, hd, _⟩ := write_evbuf_prefix o file buf
  rw [h] at hf hd
  rw [show f = _ from hf, hd rfl, List.take_length]

def Progress (o : List Ret) : Prop := ∀ r ∈ o, ∃ k, r = .count k ∧ 1 ≤ k

/-- If the operating system transfers at least one byte per call, `max 1 size`
    answers are enough for the loop to return, for every choice of the counts. -/
theorem write_evbuf_terminates (o : List Ret) (file buf : List Nat)
    (hp : Progress o) (hl : max 1 buf.length ≤ o.length) :
    ∃ l, writeEvbuf o file buf = .done (file ++ buf) l := by
  refine loop_induction (P := fun o file buf out =>
    Progress o → max 1 buf.length ≤ o.length → ∃ l, out = .done (file ++ buf) l) ?_ ?_ ?_ ?_ o file buf hp hl
  · intro _ _ _ hl; simp at hl
  · intro rest _ _ hp; obtain ⟨_, h, _⟩ := hp .err (List.mem_cons_self ..); cases h
  · exact fun _ _ _ _ _ _ _ => ⟨_, rfl⟩
  · intro k rest file buf hk ih hp hl
    obtain ⟨_, h, hk1⟩ := hp (.count k) (List.mem_cons_self ..)
    cases h
    obtain ⟨l, hq⟩ := ih (fun r hr => hp r (List.mem_cons_of_mem _ hr))
      (by rw [List.length_drop]; rw [List.length_cons] at hl; omega)
    rw [hq, List.append_assoc, List.take_append_drop]
    exact ⟨_, rfl⟩

theorem replayAux_short {n k : Nat} {owed : Option Nat} (ho : owed = none ∨ owed = some n) (hk : k < n)
    (l : List Call) (i loops bytes : Nat) :
    replayAux ((n, some k) :: l) owed i loops bytes =
      replayAux l (some (n - k)) (i + 1) loops (bytes + k) := by
  have h1 : ¬ k > n := by omega
  have h2 : ¬ n - k = 0 := by omega
  rcases ho with rfl | rfl <;> simp [replayAux, h1, h2]

/-- Stated for `replayAux` entered anywhere in a longer log: outside a loop or
    inside one that owes the `n` bytes. -/
def ReplayOK (n : Nat) (out : Out) : Prop :=
  ∀ (owed : Option Nat) (i loops bytes : Nat), (owed = none ∨ owed = some n) →
    match out with
    | .done _ l => replayAux l owed i loops bytes = .ok (loops + 1) (bytes + n)
    | .died _ l => replayAux l owed i loops bytes = .aborted (i + l.length - 1) true
    | .running _ _ _ => True

theorem replay_loop (o : List Ret) (file buf : List Nat) : ReplayOK buf.length (loop o file buf) := by
  refine loop_induction (P := fun _ _ buf out => ReplayOK buf.length out) ?_ ?_ ?_ ?_ o file buf
  · intro _ _ _ _ _ _ _; trivial
  · intro _ _ buf owed i loops bytes ho
    rcases ho with rfl | rfl <;> simp [replayAux]
  · intro _ _ _ buf _ owed i loops bytes ho
    rcases ho with rfl | rfl <;> simp [replayAux]
  · intro k rest file buf hk ih owed i loops bytes ho
    -- the first call leaves `buf.length - k` owed, which is the rest of the buffer
    have ih := ih (some (buf.length - k)) (i + 1) loops (bytes + k) (.inr (by rw [List.length_drop]))
    rw [List.length_drop] at ih
    cases hq : loop rest (file ++ buf.take k) (buf.drop k) <;> rw [hq] at ih
    case running => trivial
    case done =>
      show replayAux (_ :: _) owed i loops bytes = _
      rw [replayAux_short ho hk, ih]
      congr 1; omega
    case died =>
      show replayAux (_ :: _) owed i loops bytes = _
      rw [replayAux_short ho hk, ih, List.length_cons]
      congr 1; omega

/-- The call log of a finished loop is accepted by `replay`, for every answer list. -/
theorem replay_accepts (o : List Ret) (file buf f : List Nat) (l : List Call)
    (h : writeEvbuf o file buf = .done f l) : replay l = .ok 1 buf.length := by
  have := replay_loop o file buf none 0 0 0 (.inl rfl)
  rw [show loop o file buf = .done f l from h] at this
  simpa [replay] using this

/-- … and the log of an aborted loop ends with the failed call. -/
theorem replay_accepts_abort (o : List Ret) (file buf f : List Nat) (l : List Call)
    (h : writeEvbuf o file buf = .died f l) : replay l = .aborted (l.length - 1) true := by
  have := replay_loop o file buf none 0 0 0 (.inl rfl)
  rw [show loop o file buf = .died f l from h] at this
  simpa [replay] using this

/-- The header and every flushed buffer go through their own loop with their own
    answers: if all loops return, the file is the concatenation of the buffers
    in flush order, which is what `Rt/Buffer`'s `disk` is. -/
theorem writeAll_exact : ∀ (os : List (List Ret)) (bufs : List (List Nat)) (file f : List Nat),
    writeAll os bufs file = some f → f = file ++ bufs.flatten
  | _, [], file, f, h => by simp [writeAll] at h; simp [h]
  | [], _ :: _, _, _, h => by simp [writeAll] at h
  | o :: os, b :: bs, file, f, h => by
    simp only [writeAll] at h
    split at h
    · rename_i f1 l hq
      rw [writeAll_exact os bs f1 f h, write_evbuf_exact o file b f1 l hq, List.flatten_cons,
        List.append_assoc]
    · cases h

/-- … and all loops do return when every answer of every loop moves at least one
    byte and there are enough answers. -/
theorem writeAll_terminates : ∀ (os : List (List Ret)) (bufs : List (List Nat)) (file : List Nat),
    os.length = bufs.length →
    (∀ i (h : i < os.length) (h' : i < bufs.length), Progress os[i] ∧ max 1 bufs[i].length ≤ os[i].length) →
    writeAll os bufs file = some (file ++ bufs.flatten)
  | [], [], file, _, _ => by simp [writeAll]
  | [], _ :: _, _, hl, _ => by simp at hl
  | _ :: _, [], _, hl, _ => by simp at hl
  | o :: os, b :: bs, file, hl, hp => by
    have h0 := hp 0 (Nat.zero_lt_succ _) (Nat.zero_lt_succ _)
    obtain ⟨l, hq⟩ := write_evbuf_terminates o file b h0.1 h0.2
    simp only [writeAll, hq]
    rw [writeAll_terminates os bs (file ++ b) (Nat.succ.inj hl)
      (fun i h h' => hp (i + 1) (Nat.succ_lt_succ h) (Nat.succ_lt_succ h')),
      List.flatten_cons, List.append_assoc]

example : writeAll [[.count 3, .count 9], [.count 1, .count 1]] [[1, 2, 3, 4], [5, 6]] [0] = some [0, 1, 2, 3, 4, 5, 6] := by decide

/-- a kernel that answers 0 for ever: the loop never ends (no bound in the code) -/
theorem zero_progress_never_ends (n : Nat) (file buf : List Nat) (hb : buf ≠ []) :
    (writeEvbuf (List.replicate n (.count 0)) file buf).isDone = false := by
  unfold writeEvbuf
  induction n generalizing file with
  | zero => rfl
  | succ n ih =>
    have : buf.length ≠ 0 := by simpa using hb
    simp only [List.replicate_succ, loop, Nat.zero_min, Nat.sub_zero, this, if_false, isDone_cons,
      List.take_zero, List.drop_zero, List.append_nil]
    exact ih file

/-- a 5-byte buffer written as 2 + 1 + 2: three calls asking for 5, 3, 2 -/
example : writeEvbuf [.count 2, .count 1, .count 9] [7] [1, 2, 3, 4, 5] =
    .done [7, 1, 2, 3, 4, 5] [(5, some 2), (3, some 1), (2, some 2)] := by decide

/-- an empty buffer: `write` is still called once (`do … while`) -/
example : writeEvbuf [.count 0] [7] [] = .done [7] [(0, some 0)] := by decide

/-- an error at the second call: the file holds the first two bytes -/
example : writeEvbuf [.count 2, .err] [] [1, 2, 3] = .died [1, 2] [(3, some 2), (1, none)] := by decide

example : replay [(5, some 2), (3, some 1), (2, some 2), (4, some 4)] = .ok 2 9 := by decide
/-- the trial change to `write_evbuf` kept under `seeded/C01-3` (asks for `size` again instead of
    `size - done`) is a mismatch at call 1 -/
example : replay [(5, some 2), (5, some 3)] = .mismatch 1 3 5 := by decide

/-- The trial change kept under `seeded/C01-1` (a short write retried from the start of the buffer)
    ends with a file that is not `file ++ buf`. -/
theorem retry_from_start_duplicates :
    loopRetryFromStart [.count 2, .count 1] [] [1, 2, 3] 3 = .done [1, 2, 1] [] := by decide

end Ovni.Props.C01Write
