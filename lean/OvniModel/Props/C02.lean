import OvniModel.Props.C01

/-!
# C02 — traces produced through correct API use are valid

Same model as C01.  The theorem is about the code after the repair `fix:
reserve room for both flush events after a forced flush`; for the code before
it the statement is false (witness: `nested_markers_before_fix`).
-/
-- `[JData D]` is in scope for every statement, also for those that never look at jumbo data
set_option linter.unusedSectionVars false
namespace Ovni.Props.C02
open Ovni.Rt Ovni.Props.C01
variable {D : Type} [JData D]

def isOpen (r : Rec D) : Bool := r.mcv == (79, 70, 91)
def isClose (r : Rec D) : Bool := r.mcv == (79, 70, 93)

/-- Scan the flush markers: depth is 0 or 1; `none` = nested or unmatched. -/
def scan : Nat → List (Rec D × Origin) → Option Nat
  | d, [] => some d
  | d, x :: xs =>
    if isOpen x.1 then (if d = 0 then scan 1 xs else none)
    else if isClose x.1 then (if d = 1 then scan 0 xs else none)
    else scan d xs

/-- Flush markers come in properly paired, non-nested begin/end pairs. -/
def Balanced (l : List (Rec D × Origin)) : Prop := scan 0 l = some 0

def ClockSorted (l : List (Rec D × Origin)) : Prop := l.Pairwise (fun a b => a.1.clock ≤ b.1.clock)

theorem scan_append (d : Nat) (a b : List (Rec D × Origin)) :
    scan d (a ++ b) = (scan d a).bind (fun d' => scan d' b) := by
  induction a generalizing d with
  | nil => rfl
  | cons x xs ih =>
    rw [List.cons_append, scan, scan]
    simp only [ih, apply_ite (Option.bind · (fun d' => scan d' b)), Option.bind_none]

theorem balanced_append {a b : List (Rec D × Origin)} (ha : Balanced a) (hb : Balanced b) :
    Balanced (a ++ b) := by
  unfold Balanced at *
  rw [scan_append, ha]; exact hb

theorem balanced_nil : Balanced ([] : List (Rec D × Origin)) := rfl

theorem balanced_single (x : Rec D × Origin) (h1 : isOpen x.1 = false) (h2 : isClose x.1 = false) :
    Balanced [x] := by
  unfold Balanced; simp [scan, h1, h2]

theorem balanced_pair (t0 t1 : Nat) :
    Balanced [((markerOpen t0 : Rec D), Origin.lib), (markerClose t1, Origin.lib)] := rfl

/-- Protocol conformance of a call: the event is emitted through the entry points
    that stamp it with the clock read at the call (`emitNow` / `jumboNow` / the
    mark API), from a zeroed struct, and does not forge the library's own `OF`. -/
def Conformant : Op D → Prop
  | .emit _ _ => False
  | .jumbo _ _ _ => False
  | .emitNow e _ => Fresh e ∧ ¬ (e.m = 79 ∧ e.c = 70)
  | .jumboNow e _ _ => Fresh e ∧ ¬ (e.m = 79 ∧ e.c = 70)
  | _ => True

/-- The part of the invariant without `evlen` and the capacity: it also holds in
    the states inside `ovni_ev_add` and `ovni_flush`, where `Inv` may not. -/
structure Stream (s : St D) : Prop where
  sorted : ClockSorted s.all
  bound : ∀ x ∈ s.all, x.1.clock ≤ s.now
  bdisk : Balanced s.disk
  bbuf : Balanced s.buf

structure Valid (cap : Nat) (s : St D) : Prop where
  good : Good cap s
  sorted : ClockSorted s.all
  bound : ∀ x ∈ s.all, x.1.clock ≤ s.now
  bdisk : Balanced s.disk
  bbuf : Balanced s.buf

theorem Valid.stream {cap : Nat} {s : St D} (hv : Valid cap s) : Stream s :=
  ⟨hv.sorted, hv.bound, hv.bdisk, hv.bbuf⟩

theorem Stream.valid {cap : Nat} {s : St D} (hs : Stream s) (hg : Good cap s) : Valid cap s :=
  ⟨hg, hs.sorted, hs.bound, hs.bdisk, hs.bbuf⟩

theorem conformant_fresh {op : Op D} (hc : Conformant op) : FreshEv op := by
  cases op <;> first | exact hc.1 | trivial

theorem conformant_userEv {s : St D} {op : Op D} {e : Ev} (hc : Conformant op)
    (he : userEv s op = some e) : Fresh e ∧ e.clock = s.now ∧ ¬ (e.m = 79 ∧ e.c = 70) := by
  cases op with
  | emit _ _ | jumbo _ _ _ => exact hc.elim
  | emitNow _ _ | jumboNow _ _ _ => cases he; exact ⟨hc.1, rfl, hc.2⟩
  | mark _ _ _ => cases he; exact ⟨⟨rfl, rfl⟩, rfl, fun h => by have h2 : (77 : Nat) = 70 := h.2; omega⟩
  | _ => cases he

theorem notMarker_of {r : Rec D} {m c v : Nat} (hr : r.mcv = (m, c, v)) (h : ¬ (m = 79 ∧ c = 70)) :
    isOpen r = false ∧ isClose r = false := by
  unfold isOpen isClose
  rw [hr]
  constructor <;>
  · rw [beq_eq_false_iff_ne]
    intro hh
    simp only [Prod.mk.injEq] at hh
    exact h ⟨hh.1, hh.2.1⟩

theorem clocks_snoc {l : List (Rec D × Origin)} {n : Nat} (hs : ClockSorted l) (x : Rec D × Origin)
    (hx : ∀ y ∈ l, y.1.clock ≤ x.1.clock) (hn : x.1.clock ≤ n) :
    ClockSorted (l ++ [x]) ∧ ∀ y ∈ l ++ [x], y.1.clock ≤ n := by
  constructor
  · unfold ClockSorted at *
    rw [List.pairwise_append]
    exact ⟨hs, by simp, fun a ha b hb => by cases List.mem_singleton.1 hb; exact hx a ha⟩
  · intro y hy
    rcases List.mem_append.1 hy with hy | hy
    · exact Nat.le_trans (hx y hy) hn
    · cases List.mem_singleton.1 hy; exact hn

/-- Where a forced flush leaves the record: in the file when the buffer has no room for it
    beside the two markers, otherwise in the buffer ahead of them. -/
theorem flushedForm_disk (cap : Nat) (s : St D) (r : Rec D) (o : Origin) :
    (flushedForm cap s r o).disk =
      if r.size + 24 ≥ cap then s.disk ++ s.buf ++ [(r, o)] else s.disk ++ s.buf := by
  unfold flushedForm makeRoom
  simp only [append_disk, forcedFlush_evlen, Nat.zero_add]
  split <;> simp

theorem flushedForm_buf (cap : Nat) (s : St D) (r : Rec D) (o : Origin) :
    (flushedForm cap s r o).buf =
      (if r.size + 24 ≥ cap then [] else [(r, o)]) ++
        [(markerOpen s.now, .lib), (markerClose (s.now + s.tick), .lib)] := by
  unfold flushedForm makeRoom
  simp only [append_buf, forcedFlush_evlen, Nat.zero_add]
  split <;> simp

namespace Stream

theorem frame {s s' : St D} (hs : Stream s) (h : Frame s s') : Stream s' :=
  ⟨h.all ▸ hs.sorted, fun x hx => Nat.le_trans (hs.bound x (h.all ▸ hx)) h.now, h.disk ▸ hs.bdisk,
    h.buf ▸ hs.bbuf⟩

theorem flushBuf {s : St D} (hs : Stream s) : Stream s.flushBuf := by
  have ha : s.flushBuf.all = s.all := by simp [St.all]
  exact ⟨ha ▸ hs.sorted, fun x hx => hs.bound x (ha ▸ hx), balanced_append hs.bdisk hs.bbuf, balanced_nil⟩

/-- `t0 = clock(); flush_evbuf(); t1 = clock();` -/
theorem timedFlush {s : St D} (hs : Stream s) : Stream ((s.clockNow.2.flushBuf).clockNow.2) :=
  ((hs.frame (.clockNow s)).flushBuf).frame (.clockNow _)

theorem makeRoom (cap : Nat) {s : St D} (hs : Stream s) : Stream (makeRoom cap s) := by
  unfold Rt.makeRoom
  split
  · exact hs.flushBuf
  · exact hs

theorem append {s : St D} (hs : Stream s) (r : Rec D) (o : Origin) (ho : isOpen r = false)
    (hc : isClose r = false) (hclk : r.clock ≤ s.now) (hall : ∀ x ∈ s.all, x.1.clock ≤ r.clock) :
    Stream (s.append r o) := by
  have := clocks_snoc hs.sorted (r, o) hall hclk
  rw [← append_all] at this
  exact ⟨this.1, this.2, hs.bdisk, balanced_append hs.bbuf (balanced_single _ ho hc)⟩

theorem markers {s : St D} (hs : Stream s) (t0 t1 : Nat) (h0 : ∀ x ∈ s.all, x.1.clock ≤ t0)
    (h01 : t0 ≤ t1) (h1 : t1 ≤ s.now) :
    Stream ((s.append (markerOpen t0) .lib).append (markerClose t1) .lib) := by
  have a := clocks_snoc hs.sorted (markerOpen t0, .lib) h0 h01
  have b := clocks_snoc a.1 (markerClose t1, .lib) a.2 h1
  rw [← append_all, ← append_all] at b
  exact ⟨b.1, b.2, hs.bdisk, by
    rw [append_buf, append_buf, List.append_assoc]; exact balanced_append hs.bbuf (balanced_pair t0 t1)⟩

theorem evAdd {cap : Nat} (hcap : 24 < cap) {s s' : St D} {r : Rec D} {o : Origin}
    (hs : Stream s) (ho : isOpen r = false) (hc : isClose r = false) (hclk : r.clock ≤ s.now)
    (hall : ∀ x ∈ s.all, x.1.clock ≤ r.clock) (h : evAdd cap addFuel s r o = some s') : Stream s' := by
  obtain ⟨_, ⟨_, rfl⟩ | rfl⟩ := evAdd_cases hcap h
  · exact hs.append r o ho hc hclk hall
  · -- `forcedFlush` is the timed flush and the copy; then room is made and the markers follow
    have h1 : Stream (forcedFlush s r o) :=
      hs.timedFlush.append r o ho hc (by simp only [clockNow_now, flushBuf_now]; omega)
        (by simpa [St.all] using hall)
    refine (h1.makeRoom cap).markers _ _ ?_ (Nat.le_add_right _ _) (by simp)
    intro x hx
    rw [makeRoom_all, forcedFlush_all] at hx
    rcases List.mem_append.1 hx with hx | hx
    · exact Nat.le_trans (hall x hx) hclk
    · cases List.mem_singleton.1 hx; exact hclk

end Stream

theorem step_valid (cap : Nat) (hcap : 24 < cap) (s s' : St D) (op : Op D) (hv : Valid cap s)
    (hc : Conformant op) (h : step cap s op = some s') : Valid cap s' := by
  have hs := hv.stream
  suffices hs' : Stream s' from hs'.valid (step_fidelity cap hcap s s' op hv.good h).2.1
  rcases step_cases hv.good h with ⟨r, s1, hr, hf, h⟩ | ⟨_, h | ⟨hf, _⟩⟩
  · -- one `ovni_ev_add` of a record stamped `s.now`, at a clock that is not behind
    obtain ⟨e, he, hb⟩ := handed_built (r := r) (by rw [hr]; exact List.mem_singleton_self r)
    obtain ⟨hfr, hclk, hnm⟩ := conformant_userEv hc he
    obtain ⟨hmcv, hk, _⟩ := built_spec hfr hb
    have nm := notMarker_of hmcv hnm
    rw [hclk] at hk
    exact (hs.frame hf).evAdd hcap nm.1 nm.2 (by rw [hk]; exact hf.now)
      (fun x hx => by rw [hk]; exact hs.bound x (hf.all ▸ hx)) h
  · obtain ⟨_, rfl⟩ := flush_cases hcap h
    exact hs.timedFlush.markers _ _ (by simpa [St.all] using hs.bound) (Nat.le_add_right _ _)
      (by simp)
  · exact hs.frame hf

theorem valid_init0 (cap : Nat) (hcap : 0 < cap) : Valid cap (init0 : St D) :=
  ⟨good_init0 cap hcap, List.Pairwise.nil, (by intro x hx; cases hx), balanced_nil, balanced_nil⟩

theorem run_valid (cap : Nat) (hcap : 24 < cap) (ops : List (Op D)) (s s' : St D) (hv : Valid cap s)
    (hc : ∀ op ∈ ops, Conformant op) (h : run cap s ops = some s') : Valid cap s' :=
  run_invariant (fun op ho s s' hv hs => step_valid cap hcap s s' op hv (hc op ho) hs) hv h

/-- **C02.** For every capacity in (24, 2^32] and every protocol-conformant
    program that returns, the stream file — whatever was still buffered — has
    never-decreasing clocks, paired, non-nested flush markers and well-formed
    records; and once the header is in the file (`hdrOnDisk`, set by `init`),
    its events tile the file exactly and decode to the records produced. -/
theorem conformant_stream_valid (cap : Nat) (hcap : 24 < cap) (hc32 : cap ≤ 2 ^ 32)
    (ops : List (Op D)) (hc : ∀ op ∈ ops, Conformant op) (s' : St D)
    (h : run cap (init0 : St D) ops = some s') :
    ClockSorted s'.disk ∧ Balanced s'.disk ∧ (∀ x ∈ s'.disk, x.1.WF) ∧
    (s'.hdrOnDisk = true →
      ∀ magic version, magic.length = 4 →
        decodeStream magic version (s'.diskBytes magic version) = some (s'.disk.map (fun x => x.1.toDec))) := by
  have hv := run_valid cap hcap ops init0 s' (valid_init0 cap (by omega)) hc h
  have hw := run_wf cap hcap hc32 ops init0 s' (good_init0 cap (by omega))
    (fun op ho => conformant_fresh (hc op ho)) (by intro x hx; cases hx) h
  have hwd : ∀ x ∈ s'.disk, x.1.WF := fun x hx => hw x (List.mem_append_left _ hx)
  exact ⟨(List.pairwise_append.1 hv.sorted).1, hv.bdisk, hwd,
    fun hh magic version hm => file_decodes magic hm version s' hh hwd⟩

/-- `ovni_ev_add` as it was before the repair (no `makeRoom`). -/
def evAddOld (cap : Nat) : Nat → St D → Rec D → Origin → Option (St D)
  | 0, _, _, _ => none
  | fuel + 1, s, r, o =>
    if !s.ready then none
    else if s.evlen + r.size ≥ cap then
      match evAddOld cap fuel (forcedFlush s r o) (markerOpen s.now) .lib with
      | none => none
      | some s5 => evAddOld cap fuel s5 (markerClose (s.now + s.tick)) .lib
    else some (s.append r o)

/-- Witness at capacity 64, two raw `evAddOld` calls on a ready state: one small
    event, then a jumbo of 40 bytes (total 56 ≥ 64 − 12) — what was produced
    (file ++ buffer) has `OF[ OF[ OF] OF]`: not balanced. -/
theorem nested_markers_before_fix :
    ∃ s' : St (List Nat),
      (match evAddOld 64 4 ({ ready := true, now := 10 } : St (List Nat))
              (.ev { m := 65, c := 66, v := 67, clock := 5 }) .user with
        | none => none
        | some s1 => evAddOld 64 4 s1
            (.jumbo { flags := 19, m := 74, c := 74, v := 74, clock := 11 } (List.replicate 40 0)) .user) = some s'
      ∧ scan 0 s'.all = none := by
  refine ⟨_, rfl, ?_⟩
  decide

example : Conformant (Op.emitNow (D := List Nat) { m := 65, c := 66, v := 67, clock := 0 } [[1, 2]]) :=
  ⟨⟨rfl, rfl⟩, by decide⟩

/-- a conformant program at capacity 64 that returns and forces a flush with a
    jumbo within 24 bytes of the capacity -/
example :
    (run 64 (init0 : St (List Nat))
      [.init, .emitNow { m := 65, c := 66, v := 67, clock := 0 } [],
       .jumboNow { m := 74, c := 74, v := 74, clock := 0 } [] (List.replicate 40 0),
       .mark 61 1 5, .flush, .free]).isSome = true := by decide

end Ovni.Props.C02
