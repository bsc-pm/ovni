import OvniModel.Props.C02
import OvniModel.Props.C12

/-!
# C02, second half: "consequently the emulator accepts the trace" (stream layer)

Composition of the runtime model (Rt/Buffer, C01/C02) with the emulator's
byte-level stream cursor (Emu/Stream, C12): the bytes a protocol-conformant
program leaves in its stream file are accepted by `check_stream_header` /
`stream_step`.  Acceptance of the *events* by the models is not proved here:
the C02 check runs the real `ovniemu`.
-/
namespace Ovni.Props.C02
open Ovni.Rt Ovni.Props.C01 Ovni.Generated
open Ovni.Emu.Stream (SEv streamBytes Sorted isJumboF_eq_isJumbo nibSize_eq_payloadSize)
variable {D : Type} [JData D]

/-- A runtime record as the emulator's decoder sees it. -/
def toSEv : Rec D → SEv
  | .ev e => ⟨e.flags % 256, [e.m % 256, e.c % 256, e.v % 256], e.clock, e.payload.take (payloadSize e.flags)⟩
  | .jumbo e d => ⟨e.flags % 256, [e.m % 256, e.c % 256, e.v % 256], e.clock, le 4 (JData.len d) ++ JData.bytes d⟩

theorem toSEv_encode (r : Rec D) : (toSEv r).encode = r.encode := by
  cases r with
  | ev e => simp [toSEv, SEv.encode, Rec.encode, headerBytes]
  | jumbo e d => simp [toSEv, SEv.encode, Rec.encode, headerBytes]

theorem toSEv_clock (r : Rec D) : (toSEv r).clock = r.clock := by
  cases r <;> rfl

theorem encodeAll_map (rs : List (Rec D × Origin)) :
    Ovni.Emu.Stream.encodeAll (rs.map (fun x => toSEv x.1)) = rs.flatMap (fun r => r.1.encode) := by
  induction rs with
  | nil => rfl
  | cons x xs ih =>
    simp only [Ovni.Emu.Stream.encodeAll, List.map_cons, List.flatMap_cons] at ih ⊢
    rw [toSEv_encode, ih]

theorem toSEv_wf (r : Rec D) (h : r.WF) (hc : r.clock < 9223372036854775808)
    (hs : r.size < 2147483648) : (toSEv r).WF := by
  cases h with
  | ev e hw =>
    have hf : e.flags % 256 = e.flags := Nat.mod_eq_of_lt (by have := hw.small; omega)
    refine ⟨rfl, hc, ?_⟩
    simp only [toSEv, isJumboF_eq_isJumbo, nibSize_eq_payloadSize, hf, isJumbo_small _ hw.small,
      Bool.false_eq_true, if_false, hw.size, List.take_length]
  | jumbo e d hf hl =>
    have hb := JData.len_eq d
    have hsz : 16 + JData.len d < 2147483648 := hs
    refine ⟨rfl, hc, ?_⟩
    simp only [toSEv, isJumboF_eq_isJumbo, hf]
    rw [if_pos (by decide), List.take_left' (le_length 4 _), unle_le, Nat.mod_eq_of_lt hl, List.length_append,
      le_length]
    omega

/-- For every capacity in (24, 2^31], every protocol-conformant program that
    returns with at least one event in the file and clock readings below 2^63:
    the file content is accepted by the (repaired) `stream_step` loop — header
    check, every event complete, exact tiling, clocks never backwards — for
    every content of memory beyond the file. -/
theorem conformant_stream_accepted (cap : Nat) (hcap : 24 < cap) (hc31 : cap ≤ 2147483648)
    (ops : List (Op D)) (hc : ∀ op ∈ ops, Conformant op) (s' : St D)
    (h : run cap (init0 : St D) ops = some s') (hh : s'.hdrOnDisk = true) (hne : s'.disk ≠ [])
    (hclk : s'.now < 9223372036854775808) (g : Ovni.Emu.Stream.Garbage) :
    Ovni.Emu.Stream.Fixed.acceptsN (s'.disk.length + 1) g (s'.diskBytes streamMagic streamVersion) = true := by
  have hv := run_valid cap hcap ops init0 s' (valid_init0 cap (by omega)) hc h
  obtain ⟨hsorted, _, hwf, _⟩ := conformant_stream_valid cap hcap (by omega) ops hc s' h
  -- the file is the emulator-side encoding of the mapped records
  have hbytes : s'.diskBytes streamMagic streamVersion =
      streamBytes (s'.disk.map (fun x => toSEv x.1)) := by
    unfold St.diskBytes streamBytes Ovni.Emu.Stream.header streamHeader
    rw [hh, encodeAll_map]; rfl
  have hvalid : Ovni.Emu.Stream.Valid (s'.disk.map (fun x => toSEv x.1)) := by
    refine ⟨by simpa using hne, ?_, ?_⟩
    · intro e he
      obtain ⟨x, hx, rfl⟩ := List.mem_map.1 he
      have hxall : x ∈ s'.all := by simp [St.all, hx]
      apply toSEv_wf x.1 (hwf x hx)
      · have := hv.bound x hxall; omega
      · have := run_sizes cap hcap ops s' (fun op ho => conformant_fresh (hc op ho)) h x hxall
        omega
    · unfold Sorted
      rw [List.pairwise_map]
      exact hsorted.imp (fun hab => by rw [toSEv_clock, toSEv_clock]; exact hab)
  rw [hbytes]
  -- the fuel is the one `Fixed.valid_accepted` is stated with: a `stream_step` per event, plus one
  have := Ovni.Props.C12.Fixed.valid_accepted g _ hvalid
  simpa using this

end Ovni.Props.C02
