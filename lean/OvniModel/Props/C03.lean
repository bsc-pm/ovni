import OvniModel.Lemmas.Player

/-!
# C03 — the emulator replays all streams as one time-ordered, loss-free sequence

Models: `Emu/Heap.lean` (`src/include/heap.h`) and `Emu/Player.lean`
(`src/emu/player.c`, the relevant parts of `stream.c`, `trace.c`, `system.c`).
Any number of heap elements, streams and events; clocks are unbounded integers.
-/
namespace Ovni.Props.C03
open Ovni.Heap Ovni.Player

section heap
variable {α : Type} (gt : α → α → Bool) (key : α → Int)

/-- `heap_insert` on a heap-ordered complete tree of `size` nodes (`Shape`) never
    reaches a `die()` and keeps both invariants; the elements are the old ones
    plus the new one.  `GtKey gt key`: the comparison handed to the heap is
    "`cmp(a,b) > 0` iff `key a > key b`". -/
theorem heap_insert_inv (hgt : GtKey gt key) (h : Heap α) (x : α)
    (hs : Shape h.root h.size) (ho : Ordered key h.root) :
    ∃ h', insert gt h x = some h' ∧ h'.size = h.size + 1 ∧ Shape h'.root h'.size ∧
      Ordered key h'.root ∧ h'.root.toList.Perm (x :: h.root.toList) := by
  obtain ⟨h', a, b, c, d, e⟩ := insert_inv gt h x hs
  exact ⟨h', a, b, c, e key hgt ho, d⟩

/-- `heap_pop_max` on a non-empty well-formed heap never dies and leaves a
    well-formed heap holding exactly the other elements. -/
theorem heap_pop_inv (hgt : GtKey gt key) (h : Heap α)
    (hs : Shape h.root h.size) (ho : Ordered key h.root) (hne : h.root ≠ .nil) :
    ∃ m h', popMax gt h = some (some m, h') ∧ h'.size = h.size - 1 ∧ Shape h'.root h'.size ∧
      Ordered key h'.root ∧ h.root.toList.Perm (m :: h'.root.toList) := by
  obtain ⟨m, h', a, b, c, d, e⟩ := popMax_inv gt h hs hne
  exact ⟨m, h', a, b, c, (e key hgt ho).1, d⟩

/-- The element returned by `heap_pop_max` is a maximum of the heap. -/
theorem pop_is_max (hgt : GtKey gt key) (h : Heap α)
    (hs : Shape h.root h.size) (ho : Ordered key h.root) (m : α) (h' : Heap α)
    (hp : popMax gt h = some (some m, h')) : ∀ y ∈ h.root.toList, key y ≤ key m := by
  have hne : h.root ≠ .nil := by
    intro hn
    rw [popMax_empty gt h hn] at hp
    cases hp
  obtain ⟨m', h'', a, _, _, _, f⟩ := popMax_inv gt h hs hne
  rw [a] at hp
  cases hp
  exact (f key hgt ho).2

/-- `heap_pop_max` on the empty heap returns NULL and changes nothing. -/
theorem pop_empty (h : Heap α) (hr : h.root = .nil) : popMax gt h = some (none, h) :=
  popMax_empty gt h hr

/-- A shape-correct heap is empty exactly when its size is 0 (so `root == NULL`
    and `size == 0` never disagree). -/
theorem shape_empty_iff (h : Heap α) (hs : Shape h.root h.size) : h.root = .nil ↔ h.size = 0 :=
  shape_nil_iff hs

inductive Op (α : Type) where
  | ins (x : α)
  | pop

/-- `none` = some operation died. -/
def exec : Heap α → List (Op α) → Option (Heap α)
  | h, [] => some h
  | h, .ins x :: ops =>
    match insert gt h x with
    | some h' => exec h' ops
    | none => none
  | h, .pop :: ops =>
    match popMax gt h with
    | some (_, h') => exec h' ops
    | none => none

/-- Starting from `heap_init`, no sequence of insertions and extractions ever
    reaches a `die()` (or a NULL dereference). -/
theorem heap_ops_never_die (hgt : GtKey gt key) (ops : List (Op α)) :
    ∀ (h : Heap α), Shape h.root h.size → Ordered key h.root →
      ∃ h', exec gt h ops = some h' ∧ Shape h'.root h'.size ∧ Ordered key h'.root := by
  induction ops with
  | nil => intro h hs ho; exact ⟨h, rfl, hs, ho⟩
  | cons op ops ih =>
    intro h hs ho
    cases op with
    | ins x =>
      obtain ⟨h', e, _, hs', _, ho'⟩ := insert_inv gt h x hs
      simp only [exec, e]
      exact ih h' hs' (ho' key hgt ho)
    | pop =>
      by_cases hne : h.root = .nil
      · simp only [exec, popMax_empty gt h hne]
        exact ih h hs ho
      · obtain ⟨m, h', e, _, hs', _, ho'⟩ := popMax_inv gt h hs hne
        simp only [exec, e]
        exact ih h' hs' (ho' key hgt ho).1

theorem heap_init_wf : Shape (Heap.empty : Heap α).root (Heap.empty : Heap α).size ∧
    Ordered key (Heap.empty : Heap α).root := ⟨shape_empty, trivial⟩

end heap

/-- The move list computed by `heap_get_move` is the binary expansion of the
    node index below its leading one. -/
theorem heap_path_bits (n : Nat) (h : 2 ≤ n) : path n = path (n / 2) ++ [decide (n % 2 = 1)] :=
  path_step n h

/-- `stream_cmp` turns the max-heap into a min-heap on `lastclock`. -/
theorem stream_cmp_min : GtKey sgt (fun s => - s.lastclock) := sgt_key

def allEvents (ss : List Stream) : List (Str × Ev) :=
  ss.flatMap fun s => s.rest.map fun e => (s.relpath, e)

/-- **Loss-free.**  Whenever the replay does not fail, the emitted sequence is
    a permutation of all events of all streams (each exactly once). -/
theorem replay_perm (u : Bool) (ss : List Stream) (out : List Out) (hl : ∀ s ∈ ss, Loaded s)
    (h : replay u ss = some out) :
    (out.map fun o => (o.relpath, o.ev)).Perm (allEvents ss) := by
  have h2 := (replay_pending u ss out hl h).map (fun x : PE => (x.1, x.2.2))
  rw [List.map_map] at h2
  have e1 : ((fun x : PE => (x.1, x.2.2)) ∘ peOut) = fun o : Out => (o.relpath, o.ev) := rfl
  rw [e1] at h2
  refine h2.trans (List.Perm.of_eq ?_)
  unfold allEvents
  rw [List.map_flatMap]
  congr 1
  funext s
  rw [List.map_map]
  rfl

/-- **Corrected time.**  Each emitted event carries as `sclock` its own clock
    plus the clock offset of the stream it comes from. -/
theorem replay_clock (u : Bool) (ss : List Stream) (out : List Out) (hl : ∀ s ∈ ss, Loaded s)
    (h : replay u ss = some out) :
    ∀ o ∈ out, ∃ s ∈ ss, s.relpath = o.relpath ∧ o.ev ∈ s.rest ∧ o.sclock = o.ev.clock + s.offset := by
  intro o ho
  have hm := (replay_pending u ss out hl h).subset (List.mem_map_of_mem ho)
  rw [List.mem_flatMap] at hm
  obtain ⟨s, hs, hx⟩ := hm
  rw [List.mem_map] at hx
  obtain ⟨e, he, hx⟩ := hx
  simp only [peOut, Prod.mk.injEq] at hx
  refine ⟨s, hs, hx.1, by rw [← hx.2.2]; exact he, ?_⟩
  have := hx.2.1
  omega

/-- **Time-ordered.**  If the corrected clocks inside each stream never
    decrease, the emitted sequence is non-decreasing in corrected time (both
    in `ovniemu`'s mode and in the unsorted mode of `ovnidump`). -/
theorem replay_sorted (u : Bool) (ss : List Stream) (out : List Out) (hl : ∀ s ∈ ss, Loaded s)
    (hsorted : ∀ s ∈ ss, SortedRest s) (h : replay u ss = some out) :
    out.Pairwise fun a b => a.sclock ≤ b.sclock := by
  have hm := (replay_merge u ss out hl h).sorted fun b hb => by
    obtain ⟨s, hs, rfl⟩ := List.mem_map.1 hb
    exact List.pairwise_map.2 (hsorted s hs)
  refine (List.pairwise_map.1 hm).imp fun {a b} hab => ?_
  simp only [PE.corr, peOut] at hab
  omega

/-- In the emulator's own mode (`unsorted = 0`) the order does not even depend
    on the streams being sorted: a replay that is not rejected is
    non-decreasing in corrected time. -/
theorem replay_sorted_or_rejected (ss : List Stream) (out : List Out) (hl : ∀ s ∈ ss, Loaded s)
    (h : replay false ss = some out) : out.Pairwise fun a b => a.sclock ≤ b.sclock := by
  obtain ⟨p, h1, h2, _, _, h6⟩ := replay_some false ss out hl h
  exact (run_sorted_mode _ p out h2 h1 h6).1

/-- **Order inside a stream.**  With distinct relative paths, the events
    emitted for a stream are that stream's events in their original order. -/
theorem replay_stream_order (u : Bool) (ss : List Stream) (out : List Out) (hl : ∀ s ∈ ss, Loaded s)
    (hn : (ss.map (·.relpath)).Nodup) (h : replay u ss = some out) :
    ∀ s ∈ ss, (out.filter fun o => o.relpath == s.relpath).map (·.ev) = s.rest := by
  intro s hs
  have hm := (replay_merge u ss out hl h).order (by rw [List.map_map]; exact hn) _
    (List.mem_map_of_mem (f := fun s => entry s s.rest) hs)
  have := congrArg (List.map Prod.snd) hm
  simp only [entry, List.filter_map, List.map_map] at this
  exact this.trans (List.map_id'' (fun _ => rfl) _)

/-- **Paraver time.**  `dclock` of every emitted event is its corrected clock
    minus the corrected clock of the first emitted event. -/
theorem dclock_def (u : Bool) (ss : List Stream) (o0 : Out) (out : List Out)
    (hl : ∀ s ∈ ss, Loaded s) (h : replay u ss = some (o0 :: out)) :
    ∀ o ∈ o0 :: out, o.dclock = o.sclock - o0.sclock := by
  obtain ⟨p, h1, h2, _, h5, _⟩ := replay_some u ss (o0 :: out) hl h
  intro o ho
  have := run_dclock _ p _ h2 h1 o0 rfl o ho
  rwa [h5, if_pos rfl] at this

/-- **Totality, emulator mode.**  For per-stream sorted inputs that pass the
    one-hour `check_clock_gate`, the replay never fails: the `update_clocks`
    guard and every `die()` of the heap are dead.  The corrected clocks may have
    any sign: after `fix: do not compare the first clock of a stream with
    lastclock` the first event of a stream is not compared with the
    zero-initialised `lastclock`. -/
theorem replay_total (ss : List Stream) (hl : ∀ s ∈ ss, Loaded s)
    (hsorted : ∀ s ∈ ss, SortedRest s)
    (hgate : clockGate (ss.map (stepped false)) = true) :
    ∃ out, replay false ss = some out :=
  replay_total_of false ss hl fun _ => ⟨hgate, hsorted⟩

/-- **Totality, `ovnidump` mode.**  With `unsorted = 1` the replay never
    fails, whatever the streams contain. -/
theorem replay_total_unsorted (ss : List Stream) (hl : ∀ s ∈ ss, Loaded s) :
    ∃ out, replay true ss = some out :=
  replay_total_of true ss hl nofun

/-- The emulator-mode replay is refused only through the documented guards:
    the clock gate, or (contrapositive of `replay_total`) a stream that is not
    sorted. -/
theorem replay_rejects_only_by_guards (ss : List Stream) (hl : ∀ s ∈ ss, Loaded s)
    (h : replay false ss = none) :
    (∃ s ∈ ss, ¬ SortedRest s) ∨ clockGate (ss.map (stepped false)) = false := by
  by_cases h1 : ∃ s ∈ ss, ¬ SortedRest s
  · exact Or.inl h1
  · by_cases h3 : clockGate (ss.map (stepped false)) = true
    · exfalso
      have g1 : ∀ s ∈ ss, SortedRest s := fun s hs =>
        Classical.byContradiction fun hns => h1 ⟨s, hs, hns⟩
      obtain ⟨out, ho⟩ := replay_total ss hl g1 h3
      rw [ho] at h; cases h
    · right; simpa using h3

/-- The loaded list is sorted by `strcmp` and holds the same streams. -/
theorem traceLoad_sorted (found : List Raw) :
    (traceLoad found).Pairwise (fun a b => strLe a.relpath b.relpath = true) ∧
    (traceLoad found).Perm found := by
  unfold traceLoad
  refine ⟨?_, List.mergeSort_perm found _⟩
  exact List.pairwise_mergeSort (le := fun a b : Raw => strLe a.relpath b.relpath)
    (fun a b c => strLe_trans a.relpath b.relpath c.relpath)
    (fun a b => strLe_total a.relpath b.relpath) found

/-- **Enumeration independence.**  `trace_load` sorts the streams by relative
    path, so any two enumerations of the same stream directories (distinct
    relative paths) give the same stream list… -/
theorem enumeration_independent (found1 found2 : List Raw) (hp : found1.Perm found2)
    (hn : (found1.map (·.relpath)).Nodup) : traceLoad found1 = traceLoad found2 := by
  obtain ⟨s1, p1⟩ := traceLoad_sorted found1
  obtain ⟨s2, p2⟩ := traceLoad_sorted found2
  -- a sorted permutation is unique when the order is antisymmetric on the elements
  refine List.Perm.eq_of_pairwise (fun a b ha hb h1 h2 => ?_) s1 s2 (p1.trans (hp.trans p2.symm))
  exact eq_of_nodup_map (f := (·.relpath)) hn (p1.subset ha) (hp.symm.subset (p2.subset hb))
    (strLe_antisymm _ _ h1 h2)

/-- … hence the same `ovnidump` output … -/
theorem dump_enumeration_independent (found1 found2 : List Raw) (hp : found1.Perm found2)
    (hn : (found1.map (·.relpath)).Nodup) : dumpTrace found1 = dumpTrace found2 := by
  unfold dumpTrace; rw [enumeration_independent found1 found2 hp hn]

/-- … and the same emulation, for every clock-offset table. -/
theorem emu_enumeration_independent (table : Option (List (Str × Int))) (found1 found2 : List Raw)
    (hp : found1.Perm found2) (hn : (found1.map (·.relpath)).Nodup) :
    emuTrace table found1 = emuTrace table found2 := by
  unfold emuTrace; rw [enumeration_independent found1 found2 hp hn]

/-- `ovnidump` never fails in the player and emits every event of every
    stream directory exactly once. -/
theorem dump_total_perm (found : List Raw) :
    ∃ out, dumpTrace found = some out ∧
      (out.map fun o => (o.relpath, o.ev)).Perm
        (found.flatMap fun r => r.evs.map fun e => (r.relpath, e)) := by
  unfold dumpTrace
  have hl : ∀ s ∈ (traceLoad found).map (fun r => Stream.load r.relpath r.evs), Loaded s := by
    intro s hs
    rw [List.mem_map] at hs
    obtain ⟨r, _, rfl⟩ := hs
    exact load_loaded _ _
  obtain ⟨out, ho⟩ := replay_total_unsorted _ hl
  refine ⟨out, ho, (replay_perm true _ out hl ho).trans ?_⟩
  unfold allEvents
  rw [List.flatMap_map]
  exact List.Perm.flatMap_right _ (traceLoad_sorted found).2

/-- `ovniemu`: if the emulation is not rejected, the streams carry the offset
    of their loom, every event is emitted exactly once, and the sequence is
    non-decreasing in corrected time. -/
theorem emu_perm_sorted (table : Option (List (Str × Int))) (found : List Raw) (out : List Out)
    (h : emuTrace table found = some out) :
    ∃ ls, loomOffsets table ((traceLoad found).map (·.loom)) = some ls ∧
      (out.map fun o => (o.relpath, o.ev)).Perm
        (found.flatMap fun r => r.evs.map fun e => (r.relpath, e)) ∧
      (out.Pairwise fun a b => a.sclock ≤ b.sclock) ∧
      (∀ o ∈ out, ∃ r ∈ found, r.relpath = o.relpath ∧ o.ev ∈ r.evs ∧
        o.sclock = o.ev.clock + offOf ls r.loom) := by
  unfold emuTrace applyOffsets at h
  cases hls : loomOffsets table ((traceLoad found).map (·.loom)) with
  | none => rw [hls] at h; cases h
  | some ls =>
    rw [hls] at h
    simp only [setOffsets_eq] at h
    have hl : ∀ s ∈ (traceLoad found).map (mkStream ls), Loaded s := by
      intro s hs
      rw [List.mem_map] at hs
      obtain ⟨r, _, rfl⟩ := hs
      exact mkStream_loaded _ _
    refine ⟨ls, rfl, ?_, replay_sorted_or_rejected _ out hl h, ?_⟩
    · refine (replay_perm false _ out hl h).trans ?_
      unfold allEvents
      rw [List.flatMap_map]
      exact List.Perm.flatMap_right _ (traceLoad_sorted found).2
    · intro o ho
      obtain ⟨s, hs, h1, h2, h3⟩ := replay_clock false _ out hl h o ho
      rw [List.mem_map] at hs
      obtain ⟨r, hr, rfl⟩ := hs
      exact ⟨r, (traceLoad_sorted found).2.subset hr, h1, h2, h3⟩

/-- a heap built by the model from empty, with equal keys -/
def exHeap : Option (Heap (Int × Nat)) :=
  [((3 : Int), 0), (1, 1), (3, 2), (2, 3), (3, 4)].foldlM
    (fun h x => insert (fun a b => decide (a.1 > b.1)) h x) Heap.empty

example : (exHeap.map fun h => (h.size, h.root.toList)) =
    some (5, [(3, 0), (3, 4), (1, 1), (2, 3), (3, 2)]) := by decide

/-- popping it returns a maximal key: the first inserted among the equal ones -/
example : (exHeap.bind fun h => (popMax (fun a b => decide (a.1 > b.1)) h).map
    fun r => (r.1, r.2.root.toList)) = some (some (3, 0), [(3, 4), (2, 3), (1, 1), (3, 2)]) := by
  decide

example : path 6 = [true, false] ∧ path 11 = [false, true, true] := by decide

/-- three streams: two sorted ones whose corrected clocks coincide across
    streams (the second through a negative offset), and an empty one -/
def exStreams : List Stream :=
  [ { Stream.load [97] [⟨10, 0⟩, ⟨20, 1⟩, ⟨20, 2⟩] with offset := 0 },
    Stream.load [98] [],
    { Stream.load [99] [⟨15, 0⟩, ⟨25, 1⟩] with offset := -5 } ]

example : ∀ s ∈ exStreams, Loaded s ∧ SortedRest s := by
  intro s hs
  simp only [exStreams, List.mem_cons, List.mem_nil_iff, or_false] at hs
  rcases hs with rfl | rfl | rfl <;> refine ⟨⟨rfl, rfl, rfl, rfl⟩, ?_⟩ <;>
    simp [SortedRest, Stream.load]

example : clockGate (exStreams.map (stepped false)) = true := by decide

example : (exStreams.map (·.relpath)).Nodup := by decide

/-- the replay of the example: equal corrected clocks (10 and 10, 20 20 20)
    are emitted in the order the heap fixes; times are relative to the first -/
example : (replay false exStreams).map (fun os => os.map fun o => (o.relpath, o.ev.tag, o.sclock, o.dclock)) =
    some [([97], 0, 10, 0), ([99], 0, 10, 0), ([97], 1, 20, 10), ([99], 1, 20, 10), ([97], 2, 20, 10)] := by
  decide

/-- a stream whose first corrected clock is negative is replayed like any
    other (before `fix: do not compare the first clock of a stream with
    lastclock` the emulator refused it: "clock goes backwards 0 -> -2"); times
    stay relative to the first event -/
example : (replay false [{ Stream.load [97] [⟨3, 0⟩, ⟨9, 1⟩] with offset := -5 }]).map
    (fun os => os.map fun o => (o.sclock, o.dclock)) = some [(-2, 0), (4, 6)] := by decide
example : (replay true [{ Stream.load [97] [⟨3, 0⟩] with offset := -5 }]).isSome = true := by decide

end Ovni.Props.C03
