import OvniModel.Lemmas.EmuCoreTotal

/-!
# C04 — thread life-cycle: accepted traces follow the documented state machine

The model is the reference emulator of `Emu/Core.lean` (`preThread*`,
`Thread.setState/setCpu/unsetCpu`, `cpuUpdate`, `finish`), tied to `ovniemu`
by the correspondence check.  The specification (`Legal`, `specThread`,
`SpecAccepts`) is written from the property text / doc/user/emulation/ovni.md
and never mentions the model's handlers.

`NoZeroIds` is the side condition under which the record emission inside
`stepEv` cannot fail: no TID / PID is 0 (the loader refuses them) and no model
channel or CPU-mux default holds an integer 0 on a Paraver type without PRV_ZERO.

The checks audit the `Props` modules only, so a statement of the property that is a lemma of
`Lemmas/EmuCore*` stands here again under the property's name (`wf_init`, `noZeroIds_init_extra`,
`stepEv_rejects_only_zero`; `records_total` is the OH* case of `records_total_step`).
-/
namespace Ovni.Props.C04
open Ovni.Emu Ovni.Generated

/-- The documented thread state machine; the event is the third character of `OH?`:
    `x` = 120 execute, `c` = 99 cool, `p` = 112 pause, `w` = 119 warm, `r` = 114 resume,
    `e` = 101 end. -/
def Legal : ThState → Nat → Option ThState
  | .unknown, 120 => some .running
  | .running, 99 => some .cooling
  | .running, 112 => some .paused
  | .cooling, 112 => some .paused
  | .paused, 119 => some .warming
  | .paused, 114 => some .running
  | .warming, 114 => some .running
  | .running, 101 => some .dead
  | .cooling, 101 => some .dead
  | _, _ => none

/-- Execute binds the thread to the CPU named in the payload, end releases it.  Written again
    for the specification: the model side's `cpuAfter` has the same body. -/
def specCpu (op : Nat) (cur : Option Nat) (target : Nat) : Option Nat :=
  if op = 120 then some target else if op = 101 then none else cur

def specThread (s : LState) (ti op target : Nat) : Option LState :=
  match s[ti]? with
  | none => none
  | some (st, cur) =>
    match Legal st op with
    | none => none
    | some st' => some (s.set ti (st', specCpu op cur target))

/-- An OH* event: thread index, event character, payload. -/
abbrev HEv := Nat × Nat × List Nat

def HEv.toOEv (ev : HEv) : OEv := (ev.1, 72, ev.2.1, ev.2.2)

/-- "every step is legal, no physical CPU is ever oversubscribed, and all threads end dead";
    `target ti payload` is the global index of the CPU an execute payload names. -/
def SpecAccepts (phys : Nat → Prop) (target : Nat → List Nat → Nat) : LState → List HEv → Prop
  | s, [] => ∀ x ∈ s, x.1 = .dead
  | s, ev :: rest => ∃ s', specThread s ev.1 ev.2.1 (target ev.1 ev.2.2) = some s' ∧
      NoOversub phys s' ∧ SpecAccepts phys target s' rest

/-- The specification state after a history (legality only). -/
def specRun (target : Nat → List Nat → Nat) : LState → List HEv → Option LState
  | s, [] => some s
  | s, ev :: rest =>
    match specThread s ev.1 ev.2.1 (target ev.1 ev.2.2) with
    | none => none
    | some s' => specRun target s' rest

/-- the CPU an execute payload of thread `ti` names: a lookup in the (static) hierarchy -/
def targetOf (e0 : Emu) (ti : Nat) (payload : List Nat) : Nat :=
  match e0.threads[ti]? with
  | some t => (loomGetCpu e0 t.loom (i32At payload 0)).getD 0
  | none => 0

/-- The quantified space: OH{x,c,p,w,r,e} events; an execute carries at least four payload
    bytes naming an existing CPU of the thread's loom, and never hits a dead thread. -/
def Admissible (e0 : Emu) : LState → List HEv → Prop
  | _, [] => True
  | s, ev :: rest =>
    ev.2.1 ∈ [120, 99, 112, 119, 114, 101] ∧
    (ev.2.1 = 120 → ∀ t, e0.threads[ev.1]? = some t →
      (∀ st c, s[ev.1]? = some (st, c) → st ≠ .dead) ∧ 4 ≤ ev.2.2.length ∧
      ∃ ci, loomGetCpu e0 t.loom (i32At ev.2.2 0) = some ci) ∧
    ∀ s', specThread s ev.1 ev.2.1 (targetOf e0 ev.1 ev.2.2) = some s' → Admissible e0 s' rest

theorem wf_init (threads : List (Int × Int × Nat)) (cpus : List (Nat × Int × Bool))
    (enabled : List Nat) (lint : Bool) (extra : List ModelSpec := []) :
    WF (mkEmu threads cpus enabled lint extra) :=
  wf_mkEmu threads cpus enabled lint extra

section
variable (th mh : Emu → Nat → Nat → Nat → List Nat → Except Err Emu)

theorem wf_step {e e' : Emu} (h : WF e) (hen : e.enabled.contains 79 = true) {ev : HEv}
    (hv : ev.2.1 ∈ [120, 99, 112, 119, 114, 101]) {rs : List PrvRec}
    (hs : stepEv e ev.1 79 72 ev.2.1 ev.2.2 th mh = .ok (e', rs)) : WF e' := by
  obtain ⟨_, _, hso⟩ := emuStep_sound th mh h hen (ev := ev.toOEv) (Or.inl ⟨rfl, hv⟩)
    (stepEv_emuStep th mh (ev := ev.toOEv) hs)
  exact hso.wf

/-- The model's transition table is the documented one (the table allows execute on a dead
    thread, which the property leaves open). -/
theorem legal_eq_modelNext {st : ThState} {v : Nat} (hv : v ∈ [120, 99, 112, 119, 114, 101])
    (hd : v = 120 → st ≠ .dead) : Legal st v = modelNext st v := by
  simp only [List.mem_cons, List.not_mem_nil, or_false] at hv
  rcases hv with rfl | rfl | rfl | rfl | rfl | rfl <;> cases st <;>
    first | rfl | exact absurd rfl (hd rfl)

theorem legal_ne {s s' : ThState} {v : Nat} (h : Legal s v = some s') : s' ≠ .unknown ∧ s' ≠ s := by
  unfold Legal at h
  split at h <;> first | (cases h; decide) | cases h

theorem thread_verdict {e : Emu} (h : WF e) {ti : Nat} {t : Thread} (ht : e.threads[ti]? = some t)
    {v : Nat} (hv : v ∈ [120, 99, 112, 119, 114, 101]) {payload : List Nat} {ci : Nat}
    (hx : v = 120 → t.state ≠ .dead ∧ 4 ≤ payload.length ∧
      loomGetCpu e t.loom (i32At payload 0) = some ci) :
    Verdict e ti ((Legal t.state v).map fun st' => (st', specCpu v t.cpu ci)) (preThread e ti v payload) := by
  rw [legal_eq_modelNext hv fun h' => (hx h').1]
  exact preThread_verdict h ht hv fun h' => (hx h').2

theorem specThread_eq {e : Emu} {ti : Nat} {t : Thread} (ht : e.threads[ti]? = some t) (v ci : Nat) :
    specThread (absOf e.threads) ti v ci =
      ((Legal t.state v).map fun st' => (st', specCpu v t.cpu ci)).map ((absOf e.threads).set ti) := by
  unfold specThread
  simp only [absOf_getElem? ht]
  cases Legal t.state v <;> rfl

/-- In a well-formed state an OH* event on thread `ti` (for an execute: payload of at least
    four bytes naming CPU `ci` of the thread's loom, thread not dead) is accepted by the handler
    iff the transition is `Legal` from the thread's state and in the resulting logical state no
    physical CPU has more than one running thread. -/
theorem thread_accept_iff {e : Emu} (h : WF e) {ti : Nat} {t : Thread} (ht : e.threads[ti]? = some t)
    {v : Nat} (hv : v ∈ [120, 99, 112, 119, 114, 101]) {payload : List Nat} {ci : Nat}
    (hx : v = 120 → t.state ≠ .dead ∧ 4 ≤ payload.length ∧
      loomGetCpu e t.loom (i32At payload 0) = some ci) :
    (∃ e1, preThread e ti v payload = .ok e1) ↔
      ∃ s', specThread (absOf e.threads) ti v ci = some s' ∧ NoOversub e.phys s' := by
  rw [specThread_eq ht]
  exact (thread_verdict h ht hv hx).accept_iff

/-- An accepted event leaves a well-formed state whose logical state is the specification's. -/
theorem thread_step_sound {e e1 : Emu} (h : WF e) {ti : Nat} {t : Thread} (ht : e.threads[ti]? = some t)
    {v : Nat} (hv : v ∈ [120, 99, 112, 119, 114, 101]) {payload : List Nat} {ci : Nat}
    (hx : v = 120 → t.state ≠ .dead ∧ 4 ≤ payload.length ∧
      loomGetCpu e t.loom (i32At payload 0) = some ci)
    (hacc : preThread e ti v payload = .ok e1) :
    WF e1.flushAll ∧ SameStatic e e1.flushAll ∧
      specThread (absOf e.threads) ti v ci = some (absOf e1.flushAll.threads) := by
  obtain ⟨y, hy, hso, _⟩ := (thread_verdict h ht hv hx).ok hacc
  exact ⟨hso.wf, hso.static, by rw [specThread_eq ht, hy, hso.abs]; rfl⟩

/-- The model accepts a history: every event is accepted by the handlers and flushed (the
    emulator component of `stepEv`), and `finish` succeeds at the end. -/
def Accepts (e : Emu) : List HEv → Prop
  | [] => finish e = .ok ()
  | ev :: rest => ∃ e', emuStep th mh e ev.toOEv = .ok e' ∧ Accepts e' rest

def Reaches (e : Emu) : List HEv → Emu → Prop
  | [], e' => e' = e
  | ev :: rest, e' => ∃ e2, emuStep th mh e ev.toOEv = .ok e2 ∧ Reaches e2 rest e'

theorem emuStep_OH {e : Emu} (h : WF e) (hen : e.enabled.contains 79 = true) {ti : Nat} {t : Thread}
    (ht : e.threads[ti]? = some t) (v : Nat) (payload : List Nat) (e' : Emu) :
    emuStep th mh e (ti, 72, v, payload) = .ok e' ↔
      ∃ e1, preThread e ti v payload = .ok e1 ∧ e' = e1.flushAll := by
  rw [emuStep_ok_iff]
  simp only [modelEvent_ovni_eq th mh hen, ovniEvent_OH ht (h.th ti t ht).inCpu]

theorem admissible_hx {e0 e : Emu} (hst : SameStatic e0 e) {ti : Nat} {t : Thread}
    (ht : e.threads[ti]? = some t) {v : Nat} {payload : List Nat}
    (hadm : v = 120 → ∀ t0, e0.threads[ti]? = some t0 →
      (∀ st c, (absOf e.threads)[ti]? = some (st, c) → st ≠ .dead) ∧ 4 ≤ payload.length ∧
      ∃ ci, loomGetCpu e0 t0.loom (i32At payload 0) = some ci) :
    v = 120 → t.state ≠ .dead ∧ 4 ≤ payload.length ∧
      loomGetCpu e t.loom (i32At payload 0) = some (targetOf e0 ti payload) := by
  intro hv
  obtain ⟨t0, ht0, hs⟩ := hst.thread ht
  obtain ⟨h1, h2, ci, h3⟩ := hadm hv t0 ht0
  refine ⟨h1 _ _ (absOf_getElem? ht), h2, ?_⟩
  rw [loomGetCpu_static hst, static_loom hs]
  unfold targetOf
  simp only [ht0, h3]
  rfl

theorem admissible_step (e0 : Emu) (hen : e0.enabled.contains 79 = true) {e : Emu} (hw : WF e)
    (hst : SameStatic e0 e) {ev : HEv} {rest : List HEv} (hadm : Admissible e0 (absOf e.threads) (ev :: rest)) :
    (∀ e', emuStep th mh e ev.toOEv = .ok e' →
      WF e' ∧ SameStatic e0 e' ∧
      specThread (absOf e.threads) ev.1 ev.2.1 (targetOf e0 ev.1 ev.2.2) = some (absOf e'.threads) ∧
      Admissible e0 (absOf e'.threads) rest) ∧
    (∀ s', specThread (absOf e.threads) ev.1 ev.2.1 (targetOf e0 ev.1 ev.2.2) = some s' → NoOversub e0.phys s' →
      ∃ e', emuStep th mh e ev.toOEv = .ok e') := by
  obtain ⟨ti, v, payload⟩ := ev
  obtain ⟨hv, hadx, hadr⟩ := hadm
  have hen' : e.enabled.contains 79 = true := by rw [hst.enabled]; exact hen
  cases ht : e.threads[ti]? with
  | none =>
    refine ⟨fun e' he' => ?_, fun s' hs' _ => ?_⟩
    · obtain ⟨e1, hm, _⟩ := (emuStep_ok_iff th mh e _ e').mp he'
      obtain ⟨t, ht'⟩ := modelEvent_ovni_thread th mh hm
      exact nomatch ht.symm.trans ht'
    · unfold specThread at hs'
      have : (absOf e.threads)[ti]? = none := by unfold absOf; rw [List.getElem?_map, ht]; rfl
      simp only [this] at hs'
      cases hs'
  | some t =>
    have hx := admissible_hx hst ht hadx
    refine ⟨fun e' he' => ?_, fun s' hs' hno => ?_⟩
    · obtain ⟨e1, hacc, rfl⟩ := (emuStep_OH th mh hw hen' ht v payload e').mp he'
      obtain ⟨hw1, hst1, hsp⟩ := thread_step_sound hw ht hv hx hacc
      exact ⟨hw1, hst.trans hst1, hsp, hadr _ hsp⟩
    · obtain ⟨e1, hacc⟩ := (thread_accept_iff hw ht hv hx).mpr ⟨s', hs', fun g hg => hno g ((hst.phys g).mp hg)⟩
      exact ⟨_, (emuStep_OH th mh hw hen' ht v payload _).mpr ⟨e1, hacc, rfl⟩⟩

theorem history_aux (e0 : Emu) (hen : e0.enabled.contains 79 = true)
    (hl : (e0.lint && lintOpen e0) = false) :
    ∀ (hist : List HEv) (e : Emu), WF e → SameStatic e0 e → Admissible e0 (absOf e.threads) hist →
      (Accepts th mh e hist ↔ SpecAccepts e0.phys (targetOf e0) (absOf e.threads) hist)
  | [], e, hw, hst, _ => by
    unfold Accepts SpecAccepts
    rw [finish_ok_iff, lintOpen_static hst, hst.lint]
    constructor
    · rintro ⟨hd, _⟩ x hx
      unfold absOf at hx
      obtain ⟨t, ht, rfl⟩ := List.mem_map.mp hx
      exact hd t ht
    · intro hd
      exact ⟨fun t ht => hd (t.state, t.cpu) (List.mem_map.mpr ⟨t, ht, rfl⟩), hl⟩
  | ev :: rest, e, hw, hst, hadm => by
    obtain ⟨hfw, hbw⟩ := admissible_step th mh e0 hen hw hst hadm
    unfold Accepts SpecAccepts
    constructor
    · rintro ⟨e', he', hrest⟩
      obtain ⟨hw1, hst1, hsp, hadr⟩ := hfw e' he'
      exact ⟨_, hsp, fun g hg => noOversub_of_wf hw1 g ((hst1.phys g).mpr hg),
        (history_aux e0 hen hl rest e' hw1 hst1 hadr).mp hrest⟩
    · rintro ⟨s', hsp, hno, hrest⟩
      obtain ⟨e', he'⟩ := hbw s' hsp hno
      obtain ⟨hw1, hst1, hsp1, hadr⟩ := hfw e' he'
      cases hsp.symm.trans hsp1
      exact ⟨e', he', (history_aux e0 hen hl rest e' hw1 hst1 hadr).mpr hrest⟩

/-- From any well-formed state (in particular `mkEmu …`) with the ovni model enabled, an OH*
    history on any number of threads that never executes a dead thread is accepted (all handlers
    and `finish` succeed) iff every step is `Legal`, no physical CPU is ever oversubscribed, and
    all threads end dead. -/
theorem history_accept_iff {e0 : Emu} (h0 : WF e0) (hen : e0.enabled.contains 79 = true)
    (hl : (e0.lint && lintOpen e0) = false) (hist : List HEv)
    (hadm : Admissible e0 (absOf e0.threads) hist) :
    Accepts th mh e0 hist ↔ SpecAccepts e0.phys (targetOf e0) (absOf e0.threads) hist :=
  history_aux th mh e0 hen hl hist e0 h0 (SameStatic.refl e0) hadm

/-- Acceptance by the full emulation step: `stepEv` (handlers, Paraver record emission, flush)
    succeeds on every event, and `finish` at the end. -/
def StepAccepts (e : Emu) : List HEv → Prop
  | [] => finish e = .ok ()
  | ev :: rest => ∃ e' rs, stepEv e ev.1 79 72 ev.2.1 ev.2.2 th mh = .ok (e', rs) ∧ StepAccepts e' rest

/-- the same as a function: final state and the records of every step -/
def stepRun (e : Emu) : List HEv → Except Err (Emu × List (List PrvRec))
  | [] => .ok (e, [])
  | ev :: rest =>
    match stepEv e ev.1 79 72 ev.2.1 ev.2.2 th mh with
    | .error err => .error err
    | .ok (e', rs) =>
      match stepRun e' rest with
      | .error err => .error err
      | .ok (e'', rss) => .ok (e'', rs :: rss)

theorem stepAccepts_iff_run : ∀ (hist : List HEv) (e : Emu),
    StepAccepts th mh e hist ↔ ∃ e' rss, stepRun th mh e hist = .ok (e', rss) ∧ finish e' = .ok ()
  | [], e => by
    unfold StepAccepts stepRun
    constructor
    · intro h; exact ⟨e, [], rfl, h⟩
    · rintro ⟨e', rss, h1, h2⟩; cases h1; exact h2
  | ev :: rest, e => by
    unfold StepAccepts stepRun
    cases stepEv e ev.1 79 72 ev.2.1 ev.2.2 th mh with
    | error _ => exact ⟨fun ⟨_, _, h, _⟩ => (nomatch h), fun ⟨_, _, h, _⟩ => (nomatch h)⟩
    | ok p =>
      have ih := stepAccepts_iff_run rest p.1
      constructor
      · rintro ⟨e', rs, hs, hrest⟩
        cases hs
        obtain ⟨e'', rss, hr, hf⟩ := ih.mp hrest
        exact ⟨e'', rs :: rss, by simp only [hr], hf⟩
      · rintro ⟨e'', rss, hr, hf⟩
        refine ⟨p.1, p.2, rfl, ih.mpr ?_⟩
        cases hr2 : stepRun th mh p.1 rest with
        | error _ => simp only [hr2] at hr; cases hr
        | ok q => simp only [hr2] at hr; cases hr; exact ⟨q.1, q.2, rfl, hf⟩

/-- No side condition: the emulator component of `stepEv` is `emuStep`. -/
theorem stepAccepts_accepts : ∀ (hist : List HEv) (e : Emu), StepAccepts th mh e hist → Accepts th mh e hist
  | [], _, h => h
  | ev :: rest, e, h => by
    obtain ⟨e', rs, hs, hrest⟩ := h
    exact ⟨e', stepEv_emuStep th mh (ev := ev.toOEv) hs, stepAccepts_accepts rest e' hrest⟩

/-- The side condition holds initially: for the emulator built from the hierarchy (no run-time
    channel groups) it is enough that no TID and no PID is 0, which `thread_stream_get_tid` /
    `proc_stream_get_pid` guarantee; the connect-time values and CPU-mux defaults of the eight
    models are accepted by `emit` (`allSpecs_initOk_defaultOk`). -/
theorem noZeroIds_init (threads : List (Int × Int × Nat)) (cpus : List (Nat × Int × Bool))
    (enabled : List Nat) (lint : Bool) (hid : ∀ x ∈ threads, x.1 ≠ 0 ∧ x.2.1 ≠ 0) :
    NoZeroIds (mkEmu threads cpus enabled lint) := by
  apply noZeroIds_mkEmu threads cpus enabled lint [] hid (fun m hm => by cases hm)
  rw [List.append_nil]
  exact (allSpecs_chars_nodup.sublist ((List.filter_sublist).map _))

/-- … and with run-time channel groups (the mark types), when their ids are distinct from the
    models' and their connect-time values / CPU-mux defaults are accepted by `emit`. -/
theorem noZeroIds_init_extra (threads : List (Int × Int × Nat)) (cpus : List (Nat × Int × Bool))
    (enabled : List Nat) (lint : Bool) (extra : List ModelSpec)
    (hid : ∀ x ∈ threads, x.1 ≠ 0 ∧ x.2.1 ≠ 0)
    (hx : ∀ m ∈ extra, m.initOk = true ∧ m.defaultOk = true)
    (hnd : ((allSpecs.filter (fun s => enabled.contains s.char) ++ extra).map (·.char)).Nodup) :
    NoZeroIds (mkEmu threads cpus enabled lint extra) :=
  noZeroIds_mkEmu threads cpus enabled lint extra hid hx hnd

/-- Record emission is total: in a well-formed state satisfying `NoZeroIds`, for every OH* event
    the handlers accept, `records` succeeds, and `NoZeroIds` holds again after the step.
    Why no value is refused: on the thread rows the CPU value is `gindex + 1 ≥ 1` (PRV_NEXT) or
    nothing, the TID is non-zero or nothing, the state value is nothing or a code 1 … 5; on the
    CPU rows nrun has PRV_ZERO and pid / tid are those of the unique running thread or nothing;
    the model views show untouched model-channel values or CPU-mux defaults. -/
theorem records_total {e e1 : Emu} (h : WF e) (hz : NoZeroIds e) (hen : e.enabled.contains 79 = true)
    {ti v : Nat} (hv : v ∈ [120, 99, 112, 119, 114, 101]) {payload : List Nat}
    (hm : modelEvent e ti 79 72 v payload th mh = .ok e1) :
    (∃ rs, records e e1 = .ok rs) ∧ NoZeroIds e1.flushAll :=
  records_total_step th mh h hz hen (ev := (ti, 72, v, payload)) (Or.inl ⟨rfl, hv⟩) hm

/-- The record emission is the only place where the full step can differ from its emulator
    component: whenever `emuStep` accepts an event and the full `stepEv` does not, the error is
    `emit`'s "forbidden value 0". -/
theorem stepEv_rejects_only_zero {e e' : Emu} {ev : HEv} (hs : emuStep th mh e ev.toOEv = .ok e') {err : Err}
    (hf : stepEv e ev.1 79 72 ev.2.1 ev.2.2 th mh = .error err) : err = .prvZero :=
  stepEv_error_of_emuStep_ok th mh (ev := ev.toOEv) hs hf

theorem noZeroIds_step {e e' : Emu} (h : WF e) (hz : NoZeroIds e) (hen : e.enabled.contains 79 = true)
    {ev : HEv} (hv : ev.2.1 ∈ [120, 99, 112, 119, 114, 101]) {rs : List PrvRec}
    (hs : stepEv e ev.1 79 72 ev.2.1 ev.2.2 th mh = .ok (e', rs)) : NoZeroIds e' := by
  obtain ⟨e1, hm, _, rfl⟩ := (stepEv_ok_iff th mh).mp hs
  exact (records_total th mh h hz hen hv hm).2

theorem stepAccepts_iff_accepts (e0 : Emu) (hen : e0.enabled.contains 79 = true) :
    ∀ (hist : List HEv) (e : Emu), WF e → NoZeroIds e → SameStatic e0 e →
      Admissible e0 (absOf e.threads) hist →
      (StepAccepts th mh e hist ↔ Accepts th mh e hist)
  | [], _, _, _, _, _ => Iff.rfl
  | ev :: rest, e, hw, hz, hst, hadm => by
    have hen' : e.enabled.contains 79 = true := by rw [hst.enabled]; exact hen
    constructor
    · exact stepAccepts_accepts th mh _ _
    · rintro ⟨e', he', hrest⟩
      obtain ⟨hw1, hst1, _, hadr⟩ := (admissible_step th mh e0 hen hw hst hadm).1 e' he'
      obtain ⟨rs, hs⟩ := (stepEv_iff_emuStep th mh hw hz hen' (ev := ev.toOEv) (Or.inl ⟨rfl, hadm.1⟩) e').mpr he'
      exact ⟨e', rs, hs, (stepAccepts_iff_accepts e0 hen rest e' hw1
        (noZeroIds_step th mh hw hz hen' hadm.1 hs) hst1 hadr).mpr hrest⟩

/-- From any well-formed state satisfying `NoZeroIds` (in particular `mkEmu …` with
    non-zero TIDs and PIDs: `wf_init`, `noZeroIds_init`) with the ovni model enabled, for every OH*
    history on any number of threads that never executes a dead thread: folding the full `stepEv`
    and then `finish` succeeds iff every step is `Legal`, no physical CPU is ever oversubscribed,
    and all threads end dead. -/
theorem stepEv_history_accept_iff {e0 : Emu} (h0 : WF e0) (hz : NoZeroIds e0)
    (hen : e0.enabled.contains 79 = true) (hl : (e0.lint && lintOpen e0) = false) (hist : List HEv)
    (hadm : Admissible e0 (absOf e0.threads) hist) :
    StepAccepts th mh e0 hist ↔ SpecAccepts e0.phys (targetOf e0) (absOf e0.threads) hist :=
  (stepAccepts_iff_accepts th mh e0 hen hist e0 h0 hz (SameStatic.refl e0) hadm).trans
    (history_accept_iff th mh h0 hen hl hist hadm)

/-- The same for the emulator built from a hierarchy whose TIDs and PIDs are non-zero. -/
theorem stepEv_history_accept_iff_init (threads : List (Int × Int × Nat)) (cpus : List (Nat × Int × Bool))
    (enabled : List Nat) (lint : Bool) (hid : ∀ x ∈ threads, x.1 ≠ 0 ∧ x.2.1 ≠ 0)
    (hen : enabled.contains 79 = true)
    (hl : (lint && lintOpen (mkEmu threads cpus enabled lint)) = false) (hist : List HEv)
    (hadm : Admissible (mkEmu threads cpus enabled lint) (absOf (mkEmu threads cpus enabled lint).threads) hist) :
    StepAccepts th mh (mkEmu threads cpus enabled lint) hist ↔
      SpecAccepts (mkEmu threads cpus enabled lint).phys (targetOf (mkEmu threads cpus enabled lint))
        (absOf (mkEmu threads cpus enabled lint).threads) hist :=
  stepEv_history_accept_iff th mh (wf_init threads cpus enabled lint) (noZeroIds_init threads cpus enabled lint hid)
    hen hl hist hadm

/-- In every state reached by an accepted prefix, well-formedness holds and the logical state is
    the specification's. -/
theorem reaches_spec (e0 : Emu) (hen : e0.enabled.contains 79 = true) :
    ∀ (hist : List HEv) (e e' : Emu), WF e → SameStatic e0 e → Admissible e0 (absOf e.threads) hist →
      Reaches th mh e hist e' →
      WF e' ∧ SameStatic e0 e' ∧ specRun (targetOf e0) (absOf e.threads) hist = some (absOf e'.threads)
  | [], e, e', hw, hst, _, hr => by
    have : e' = e := hr
    subst this; exact ⟨hw, hst, rfl⟩
  | ev :: rest, e, e', hw, hst, hadm, hr => by
    obtain ⟨e2, he2, hrest⟩ := hr
    obtain ⟨hw1, hst1, hsp, hadr⟩ := (admissible_step th mh e0 hen hw hst hadm).1 e2 he2
    obtain ⟨a, b, c⟩ := reaches_spec e0 hen rest e2 e' hw1 hst1 hadr hrest
    refine ⟨a, b, ?_⟩
    unfold specRun
    simp only [hsp]
    exact c

/-- **State view.**  After every accepted prefix of a history, for every thread: the logical
    state is the specification's; the `state` channel is clean and its current value is the code
    of that state (nothing before the first execute, which Paraver shows as 0 = unknown); the
    `tid` channel holds the thread's TID exactly while the state is running, cooling or warming
    and nothing otherwise. -/
theorem state_view {e0 : Emu} (h0 : WF e0) (hen : e0.enabled.contains 79 = true) (hist : List HEv)
    (hadm : Admissible e0 (absOf e0.threads) hist) {e' : Emu} (hr : Reaches th mh e0 hist e')
    {ti : Nat} {t : Thread} (ht : e'.threads[ti]? = some t) :
    (∃ s', specRun (targetOf e0) (absOf e0.threads) hist = some s' ∧ s'[ti]? = some (t.state, t.cpu)) ∧
    t.chState.dirty = false ∧
    t.chState.cur = (if t.state = .unknown then .null else .int t.state.code) ∧
    prvValue prvSkipDup t.chState.cur = .ok t.state.code ∧
    t.chTid.dirty = false ∧
    t.chTid.cur = (if t.state = .running ∨ t.state = .cooling ∨ t.state = .warming then .int t.tid else .null) := by
  obtain ⟨hw, _, hsp⟩ := reaches_spec th mh e0 hen hist e0 e' h0 (SameStatic.refl e0) hadm hr
  have hth := hw.th ti t ht
  refine ⟨⟨_, hsp, ?_⟩, hth.chState.clean, hth.chState.cur, ?_, hth.chTid.clean, ?_⟩
  · exact absOf_getElem? ht
  · rw [hth.chState.cur]; exact prvValue_state t.state
  · exact hth.chTid.cur.trans (tidVal_eq ..)

/-- **Records of a step.**  An accepted `stepEv` of an OH* event on thread `ti` emits, on row
    `ti + 1` of thread.prv, a record of type `prvThreadState` whose value is the code of the new
    (specification) state, and — whenever the value of the tid channel changes — a record of type
    `prvThreadTid` with the TID while the new state is running, cooling or warming and 0 otherwise. -/
theorem state_records {e e' : Emu} (h : WF e) (hen : e.enabled.contains 79 = true) {ti : Nat} {t : Thread}
    (ht : e.threads[ti]? = some t) {v : Nat} (hv : v ∈ [120, 99, 112, 119, 114, 101])
    {payload : List Nat} {ci : Nat}
    (hx : v = 120 → t.state ≠ .dead ∧ 4 ≤ payload.length ∧
      loomGetCpu e t.loom (i32At payload 0) = some ci)
    {rs : List PrvRec} (hs : stepEv e ti 79 72 v payload th mh = .ok (e', rs)) :
    ∃ t' st', e'.threads[ti]? = some t' ∧ Legal t.state v = some st' ∧ t'.state = st' ∧
      (⟨0, ti + 1, prvThreadState, st'.code⟩ : PrvRec) ∈ rs ∧
      (tidVal t.state t.tid ≠ tidVal st' t.tid →
        (⟨0, ti + 1, prvThreadTid,
          if st' = .running ∨ st' = .cooling ∨ st' = .warming then t.tid else 0⟩ : PrvRec) ∈ rs) := by
  obtain ⟨e1, hm, hrec, rfl⟩ := (stepEv_ok_iff th mh).mp hs
  rw [modelEvent_ovni_eq th mh hen, ovniEvent_OH ht (h.th ti t ht).inCpu] at hm
  have hth := h.th ti t ht
  obtain ⟨y, hy, _, hp⟩ := (thread_verdict h ht hv hx).ok hm
  obtain ⟨st', hl, rfl⟩ := Option.map_eq_some_iff.mp hy
  obtain ⟨hn1, hn2⟩ := legal_ne hl
  -- before the flush the thread is `t` with the new logical value assigned
  have ht1 : e1.threads[ti]? = some (t.assign (st', specCpu v t.cpu ci)) := hp.thread ht
  have key := @records_thread _ _ _ hrec _ (List.mem_of_getElem? ht1)
  rw [Thread.assign_gindex, hth.gidx] at key
  refine ⟨_, st', by rw [Emu.flushAll_threads_getElem?, ht1]; rfl, hl, rfl, ?_, fun hne => ?_⟩
  · obtain ⟨v', hv', hmem'⟩ := key (x := (prvThreadState, prvSkipDup, t.chState.setv (stateVal st')))
      (by simp [thRaws_assign])
      (by rw [hth.chState.setv_dirty]; exact decide_eq_true (stateVal_ne hn2))
    simp only [hth.chState.setv_cur, prvValue_state] at hv'
    cases hv'; exact hmem'
  · obtain ⟨v', hv', hmem'⟩ := key (x := (prvThreadTid, 0, t.chTid.setv (tidVal st' t.tid)))
      (by simp [thRaws_assign]) (by rw [hth.chTid.setv_dirty]; exact decide_eq_true hne)
    simp only [hth.chTid.setv_cur] at hv'
    rw [← prvValue_tid hv']; exact hmem'
end

/-- two threads of one process on loom 0; CPUs 0 and 1 physical, CPU 2 the virtual CPU -/
def demo : Emu := mkEmu [(10, 100, 0), (11, 100, 0)] [(0, 0, false), (0, 1, false), (0, -1, true)] [79] true

def noHook : Emu → Nat → Nat → Nat → List Nat → Except Err Emu := fun _ _ _ _ _ => .error .unknownEvent

/-- payload of `OHx` naming CPU index `i` (little endian `int32`) plus creator and tag -/
def xPayload (i : Nat) : List Nat := [i, 0, 0, 0, 255, 255, 255, 255, 0, 0, 0, 0, 0, 0, 0, 0]

/-- thread 0 executes on CPU 0, thread 1 on CPU 1, thread 0 pauses, thread 1 cools and ends,
    thread 0 resumes and ends -/
def demoHist : List HEv :=
  [(0, 120, xPayload 0), (1, 120, xPayload 1), (0, 112, []), (1, 99, []), (1, 101, []), (0, 114, []), (0, 101, [])]

example : WF demo := wf_init _ _ _ _ _
example : demo.enabled.contains 79 = true := by decide
example : (demo.lint && lintOpen demo) = false := by decide

/-- the state reached by `stepEv` after the first three events: thread 0 paused on CPU 0,
    thread 1 running on CPU 1 -/
def demo3 : Except Err Emu := do
  let (e1, _) ← stepEv demo 0 79 72 120 (xPayload 0) noHook noHook
  let (e2, _) ← stepEv e1 1 79 72 120 (xPayload 1) noHook noHook
  let (e3, _) ← stepEv e2 0 79 72 112 [] noHook noHook
  pure e3

example : (demo3.toOption.map fun e => absOf e.threads) = some [(.paused, some 0), (.running, some 1)] := by
  decide +kernel

/-- the records of the first step: thread row 1 shows CPU 1 (type 6), TID 10 (type 2), state
    running = 1 (type 4); CPU row 1 shows PID 100, TID 10 and one running thread -/
example : (stepEv demo 0 79 72 120 (xPayload 0) noHook noHook).toOption.map (·.2) =
    some [⟨0, 1, 6, 1⟩, ⟨0, 1, 2, 10⟩, ⟨0, 1, 4, 1⟩, ⟨1, 1, 1, 100⟩, ⟨1, 1, 2, 10⟩, ⟨1, 1, 3, 1⟩] := by
  decide +kernel

def admissibleB (e0 : Emu) : LState → List HEv → Bool
  | _, [] => true
  | s, ev :: rest =>
    [120, 99, 112, 119, 114, 101].contains ev.2.1 &&
    (ev.2.1 != 120 ||
      match e0.threads[ev.1]? with
      | none => true
      | some t =>
        (match s[ev.1]? with | some (st, _) => st != .dead | none => true) &&
        decide (4 ≤ ev.2.2.length) && (loomGetCpu e0 t.loom (i32At ev.2.2 0)).isSome) &&
    match specThread s ev.1 ev.2.1 (targetOf e0 ev.1 ev.2.2) with
    | none => true
    | some s' => admissibleB e0 s' rest

theorem admissible_of_B (e0 : Emu) : ∀ (hist : List HEv) (s : LState),
    admissibleB e0 s hist = true → Admissible e0 s hist
  | [], _, _ => trivial
  | ev :: rest, s, h => by
    unfold admissibleB at h
    simp only [Bool.and_eq_true, Bool.or_eq_true] at h
    obtain ⟨⟨h1, h2⟩, h3⟩ := h
    refine ⟨by simpa using h1, ?_, ?_⟩
    · intro hv t ht
      rcases h2 with h2 | h2
      · simp [hv] at h2
      · simp only [ht, Bool.and_eq_true] at h2
        obtain ⟨⟨h4, h5⟩, h6⟩ := h2
        refine ⟨?_, by simpa using h5, ?_⟩
        · intro st c hs
          simp only [hs] at h4
          simpa using h4
        · cases hl : loomGetCpu e0 t.loom (i32At ev.2.2 0) with
          | none => rw [hl] at h6; cases h6
          | some ci => exact ⟨ci, rfl⟩
    · intro s' hs'
      simp only [hs'] at h3
      exact admissible_of_B e0 rest s' h3

example : Admissible demo (absOf demo.threads) demoHist := admissible_of_B _ _ _ (by decide)

/-- the demo history is accepted by the model … -/
example : ((emuRun noHook noHook demo (demoHist.map HEv.toOEv)).toOption.map
    fun e => (absOf e.threads, (finish e).toOption)) =
    some ([(.dead, none), (.dead, none)], some ()) := by decide +kernel

/-- the side condition holds for the demo system (TIDs 10, 11, PID 100) … -/
example : NoZeroIds demo := by decide
example : NoZeroIds demo := noZeroIds_init _ _ _ _ (by decide)

/-- … and the full step accepts the demo history: `finish` succeeds and the seven steps emit
    6, 6, 5, 4, 3, 5 and 6 records; the last step (end of thread 0) writes CPU 0 (nothing), TID 0
    (nothing), state 3 = dead on thread row 1 and PID / TID nothing, nrun 0 on CPU row 1 -/
example : ((stepRun noHook noHook demo demoHist).toOption.map fun r =>
      ((finish r.1).toOption, r.2.map List.length, r.2.getLast?)) =
    some (some (), [6, 6, 5, 4, 3, 5, 6],
      some [⟨0, 1, 6, 0⟩, ⟨0, 1, 2, 0⟩, ⟨0, 1, 4, 3⟩, ⟨1, 1, 1, 0⟩, ⟨1, 1, 2, 0⟩, ⟨1, 1, 3, 0⟩]) := by
  decide +kernel

/-- a system whose only thread has TID 0 (not `NoZeroIds`; the loader refuses it) -/
def demoTid0 : Emu := mkEmu [(0, 100, 0)] [(0, 0, false)] [79] true

/-- **The side condition is needed**: with TID 0 the handlers accept the execute (`emuStep`
    succeeds) but the record emission refuses the value 0 on the TID type ("forbidden value 0"), so
    the full step fails. -/
theorem tid_zero_records_fail :
    ¬ NoZeroIds demoTid0 ∧
    (emuStep noHook noHook demoTid0 (0, 72, 120, xPayload 0)).toOption.isSome = true ∧
    (match stepEv demoTid0 0 79 72 120 (xPayload 0) noHook noHook with
      | .error .prvZero => true | _ => false) = true := by decide +kernel

/-- … and two running threads on physical CPU 0 are refused (`Err.oversub`) -/
theorem demo_phys_oversub :
    (match emuRun noHook noHook demo [(0, 72, 120, xPayload 0), (1, 72, 120, xPayload 0)] with
      | .error .oversub => true | _ => false) = true := by decide +kernel

example : (match emuRun noHook noHook demo [(0, 72, 120, xPayload 0), (1, 72, 120, xPayload 0)] with
    | .error .oversub => true | _ => false) = true := demo_phys_oversub

end Ovni.Props.C04
