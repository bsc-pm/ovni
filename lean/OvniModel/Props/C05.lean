import OvniModel.Props.C04

/-!
# C05 — CPU occupancy: one running thread per physical CPU; CPU rows mirror threads

Same model as C04 (`cpuUpdate`, `cpuAddThread`, `cpuRemoveThread`, `migrate`,
`preAffinitySet`, `preAffinityRemote` of `Emu/Core.lean`).  Histories contain
the thread events OH{x,c,p,w,r,e} and the affinity events OAs (local) / OAr
(remote) in any interleaving; a state is *reachable* when `emuRun` (the fold of
the emulator component of `stepEv`) accepts the history.  With `NoZeroIds` (C04)
the fold of the full `stepEv` reaches exactly those states (`stepRun_iff_emuRun`).

The model (like the implementation) rejects a remote affinity change whose target
is the thread's current CPU (`remote_same_cpu_rejected`); the property does not
speak about it, so `affinity_remote_accept_iff` carries the hypothesis
"target ≠ current".

`remote_same_cpu_rejected` and `records_total_affinity` are `preAffinityRemote_same_cpu_err` and
`records_total_step` of `Lemmas/EmuCore*` under the property's names: the checks audit the `Props`
modules only.
-/
-- `vcpu_may_oversub` and the `demoAff` example decide equalities of nested tuples of lists: the `DecidableEq`
-- instance of their type is deeper than the default bound
set_option synthInstance.maxSize 1024
namespace Ovni.Props.C05
open Ovni.Emu Ovni.Generated Ovni.Props.C04

/-- Specification side: the running threads bound to CPU `g`, written without the model's `runOf` / `onCpu`. -/
def runningOn (ths : List Thread) (g : Nat) : List Thread :=
  ths.filter (fun t => t.state = .running && t.cpu == some g)

theorem runningOn_eq (ths : List Thread) (g : Nat) : runningOn ths g = runOf (onCpu ths g) := by
  unfold runningOn runOf onCpu; rw [List.filter_filter]

/-- "the thread when it is unique, nothing otherwise"; written again for the statements, the
    same function as `uniq` of Lemmas/EmuCore -/
def uniqueOr (l : List Thread) (f : Thread → Int) : Value :=
  match l with
  | [t] => .int (f t)
  | _ => .null

theorem uniqueOr_eq (l : List Thread) (f : Thread → Int) : uniqueOr l f = uniq l f := rfl

section
variable (th mh : Emu → Nat → Nat → Nat → List Nat → Except Err Emu)

def Hist (hist : List OEv) : Prop := ∀ ev ∈ hist, IsThreadEv ev ∨ IsAffinityEv ev

/-- **Membership invariant** in every reachable state. -/
theorem cpu_membership_inv {e0 e : Emu} (h0 : WF e0) (hen : e0.enabled.contains 79 = true)
    {hist : List OEv} (hh : Hist hist) (hr : emuRun th mh e0 hist = .ok e)
    {g : Nat} {c : Cpu} (hc : e.cpus[g]? = some c) :
    c.gindex = g ∧ c.threads.Nodup ∧
      ∀ ti, ti ∈ c.threads ↔ ∃ t, e.threads[ti]? = some t ∧ t.cpu = some g := by
  obtain ⟨hw, _⟩ := emuRun_wf th mh h0 hen hist hh hr
  have := hw.cpu g c hc
  exact ⟨this.gidx, this.mem.nodup, this.mem.mem⟩

/-- indices are consistent and a thread's CPU exists, in every reachable state -/
theorem index_inv {e0 e : Emu} (h0 : WF e0) (hen : e0.enabled.contains 79 = true)
    {hist : List OEv} (hh : Hist hist) (hr : emuRun th mh e0 hist = .ok e)
    {ti : Nat} {t : Thread} (ht : e.threads[ti]? = some t) :
    t.gindex = ti ∧ (t.cpu = none ↔ (t.state = .unknown ∨ t.state = .dead)) ∧
      ∀ ci, t.cpu = some ci → ∃ c, e.cpus[ci]? = some c ∧ ti ∈ c.threads := by
  obtain ⟨hw, _⟩ := emuRun_wf th mh h0 hen hist hh hr
  have hth := hw.th ti t ht
  exact ⟨hth.gidx, hth.cpuIff, fun ci hci => hw.cpu_lists ht hci⟩

/-- **No physical CPU is oversubscribed** in any reachable state. -/
theorem no_phys_oversub {e0 e : Emu} (h0 : WF e0) (hen : e0.enabled.contains 79 = true)
    {hist : List OEv} (hh : Hist hist) (hr : emuRun th mh e0 hist = .ok e)
    {g : Nat} {c : Cpu} (hc : e.cpus[g]? = some c) (hphys : c.virt = false) :
    (runningOn e.threads g).length ≤ 1 := by
  obtain ⟨hw, _⟩ := emuRun_wf th mh h0 hen hist hh hr
  rw [runningOn_eq]
  exact (hw.cpu g c hc).phys hphys
end

/-- A thread event whose (legal) result would leave a physical CPU with two running threads is
    rejected. -/
theorem thread_oversub_rejected {e : Emu} (h : WF e) {ti : Nat} {t : Thread} (ht : e.threads[ti]? = some t)
    {v : Nat} (hv : v ∈ [120, 99, 112, 119, 114, 101]) {payload : List Nat} {ci : Nat}
    (hx : v = 120 → t.state ≠ .dead ∧ 4 ≤ payload.length ∧
      loomGetCpu e t.loom (i32At payload 0) = some ci)
    {s' : LState} (hs : specThread (absOf e.threads) ti v ci = some s')
    {g : Nat} (hg : e.phys g) (h2 : 2 ≤ runCount s' g) :
    ∃ err, preThread e ti v payload = .error err := by
  apply (error_iff_not_ok _).mpr
  intro hacc
  obtain ⟨s'', hs'', hno⟩ := (thread_accept_iff h ht hv hx).mp hacc
  rw [hs] at hs''
  cases hs''
  have := hno g hg
  omega

/-- In particular: executing a thread on a physical CPU that already has a running thread. -/
theorem execute_on_busy_rejected {e : Emu} (h : WF e) {ti : Nat} {t : Thread} (ht : e.threads[ti]? = some t)
    {payload : List Nat} {ci : Nat} (hst : t.state = .unknown) (hlen : 4 ≤ payload.length)
    (hci : loomGetCpu e t.loom (i32At payload 0) = some ci) (hphys : e.phys ci)
    (hbusy : 1 ≤ runCount (absOf e.threads) ci) :
    ∃ err, preThread e ti 120 payload = .error err := by
  have habs := absOf_getElem? ht
  refine thread_oversub_rejected h ht (by decide) (fun _ => ⟨by rw [hst]; decide, hlen, hci⟩)
    (s' := (absOf e.threads).set ti (.running, some ci)) ?_ hphys ?_
  · unfold specThread
    simp only [habs, hst]
    rfl
  · have := runCount_set (new := (ThState.running, some ci)) habs ci
    simp only [hst] at this
    simp at this
    omega

/-- **Local affinity change (OAs).**  On an active thread it is accepted iff the result leaves no
    physical CPU oversubscribed; the thread is then bound to the named CPU and the state is
    well-formed again (so `cpu_view` holds after it). -/
theorem affinity_set_accept_iff {e : Emu} (h : WF e) {ti : Nat} {t : Thread} (ht : e.threads[ti]? = some t)
    {payload : List Nat} {ci : Nat} (hlen : payload.length = 4)
    (hci : loomGetCpu e t.loom (i32At payload 0) = some ci) (hact : t.state.isActive = true) :
    ((∃ e1, preAffinitySet e ti payload = .ok e1) ↔
        NoOversub e.phys ((absOf e.threads).set ti (t.state, some ci))) ∧
    (∀ e1, preAffinitySet e ti payload = .ok e1 →
        WF e1.flushAll ∧ absOf e1.flushAll.threads = (absOf e.threads).set ti (t.state, some ci)) := by
  have hver := preAffinitySet_verdict h ht hlen hci
  exact ⟨hver.guard_accept_iff.trans (and_iff_right hact),
    fun e1 h1 => ⟨(hver.guard_ok h1).1.wf, (hver.guard_ok h1).1.abs⟩⟩

theorem affinity_set_oversub_rejected {e : Emu} (h : WF e) {ti : Nat} {t : Thread}
    (ht : e.threads[ti]? = some t) {payload : List Nat} {ci : Nat} (hlen : payload.length = 4)
    (hci : loomGetCpu e t.loom (i32At payload 0) = some ci) (hact : t.state.isActive = true)
    {g : Nat} (hg : e.phys g) (h2 : 2 ≤ runCount ((absOf e.threads).set ti (t.state, some ci)) g) :
    ∃ err, preAffinitySet e ti payload = .error err := by
  apply (error_iff_not_ok _).mpr
  intro hacc
  have := ((affinity_set_accept_iff h ht hlen hci hact).1.mp hacc) g hg
  omega

/-- **Remote affinity change (OAr)** of thread `r` (found by TID in the sender's process, then
    loom) to a CPU different from its current one: accepted iff `r` has started and is not dead
    and the result leaves no physical CPU oversubscribed; `r` is then bound to the named CPU. -/
theorem affinity_remote_accept_iff {e : Emu} (h : WF e) {ti : Nat} {t : Thread} (ht : e.threads[ti]? = some t)
    {payload : List Nat} {ci : Nat} {r : Thread} (hlen : payload.length = 8)
    (hr : findRemote e t (i32At payload 1) = some r)
    (hci : loomGetCpu e t.loom (i32At payload 0) = some ci) (hdiff : r.cpu ≠ some ci) :
    ((∃ e1, preAffinityRemote e ti payload = .ok e1) ↔
        (r.state ≠ .dead ∧ r.state ≠ .unknown ∧
          NoOversub e.phys ((absOf e.threads).set r.gindex (r.state, some ci)))) ∧
    (∀ e1, preAffinityRemote e ti payload = .ok e1 →
        WF e1.flushAll ∧ absOf e1.flushAll.threads = (absOf e.threads).set r.gindex (r.state, some ci)) := by
  have hver := preAffinityRemote_verdict h ht hlen hr hci
  refine ⟨hver.guard_accept_iff.trans ?_, fun e1 h1 => ⟨(hver.guard_ok h1).1.wf, (hver.guard_ok h1).1.abs⟩⟩
  simp only [ne_eq, hdiff, not_false_eq_true, and_true, and_assoc]

theorem affinity_remote_oversub_rejected {e : Emu} (h : WF e) {ti : Nat} {t : Thread}
    (ht : e.threads[ti]? = some t) {payload : List Nat} {ci : Nat} {r : Thread} (hlen : payload.length = 8)
    (hr : findRemote e t (i32At payload 1) = some r)
    (hci : loomGetCpu e t.loom (i32At payload 0) = some ci) (hdiff : r.cpu ≠ some ci)
    {g : Nat} (hg : e.phys g) (h2 : 2 ≤ runCount ((absOf e.threads).set r.gindex (r.state, some ci)) g) :
    ∃ err, preAffinityRemote e ti payload = .error err := by
  apply (error_iff_not_ok _).mpr
  intro hacc
  have := ((affinity_remote_accept_iff h ht hlen hr hci hdiff).1.mp hacc).2.2 g hg
  omega

/-- The model mirrors the implementation: a remote affinity change whose target is the CPU the
    thread already has is an error (when both `cpu_update`s go through, `thread_migrate_cpu` writes
    the value the affinity channel already has: `migrate_same_cpu_err`).  The property does not
    speak about this case. -/
theorem remote_same_cpu_rejected {e : Emu} (h : WF e) {ti : Nat} {t : Thread}
    (ht : e.threads[ti]? = some t) {payload : List Nat} {ci : Nat} {r : Thread}
    (hr : findRemote e t (i32At payload 1) = some r)
    (hci : loomGetCpu e t.loom (i32At payload 0) = some ci) (hsame : r.cpu = some ci) :
    ∃ err, preAffinityRemote e ti payload = .error err :=
  preAffinityRemote_same_cpu_err h ht hr hci hsame

section
variable (th mh : Emu → Nat → Nat → Nat → List Nat → Except Err Emu)

/-- **CPU view.**  In every state reached by accepted thread and affinity events, for every CPU:
    the nrun, tid and pid channels are clean; Paraver shows for nrun the number of running threads
    bound to the CPU (the channel holds that number, or is still empty while it is 0 and the CPU
    was never updated); the tid / pid channels hold the TID / PID of the running thread when it is
    unique and nothing otherwise. -/
theorem cpu_view {e0 e : Emu} (h0 : WF e0) (hen : e0.enabled.contains 79 = true)
    {hist : List OEv} (hh : Hist hist) (hr : emuRun th mh e0 hist = .ok e)
    {g : Nat} {c : Cpu} (hc : e.cpus[g]? = some c) :
    c.chNrun.dirty = false ∧ c.chTid.dirty = false ∧ c.chPid.dirty = false ∧
    prvValue prvZero c.chNrun.cur = .ok (runningOn e.threads g).length ∧
    c.chTid.cur = uniqueOr (runningOn e.threads g) (·.tid) ∧
    c.chPid.cur = uniqueOr (runningOn e.threads g) (·.pid) := by
  obtain ⟨hw, _⟩ := emuRun_wf th mh h0 hen hist hh hr
  obtain ⟨hn, ht, hp, _⟩ := (hw.cpu g c hc).vals.cpuClean.dirty
  rw [runningOn_eq]
  exact ⟨hn, ht, hp, (hw.cpu g c hc).view⟩

/-- The same for one accepted step from any well-formed state. -/
theorem cpu_view_step {e e' : Emu} (h : WF e) (hen : e.enabled.contains 79 = true) {ev : OEv}
    (hk : IsThreadEv ev ∨ IsAffinityEv ev) {rs : List PrvRec}
    (hs : stepEv e ev.1 79 ev.2.1 ev.2.2.1 ev.2.2.2 th mh = .ok (e', rs))
    {g : Nat} {c : Cpu} (hc : e'.cpus[g]? = some c) :
    prvValue prvZero c.chNrun.cur = .ok (runningOn e'.threads g).length ∧
    c.chTid.cur = uniqueOr (runningOn e'.threads g) (·.tid) ∧
    c.chPid.cur = uniqueOr (runningOn e'.threads g) (·.pid) ∧
    (c.virt = false → (runningOn e'.threads g).length ≤ 1) := by
  obtain ⟨_, _, hso⟩ := emuStep_sound th mh h hen hk (stepEv_emuStep th mh hs)
  have hcp := hso.wf.cpu g c hc
  rw [runningOn_eq]
  exact ⟨hcp.view.1, hcp.view.2.1, hcp.view.2.2, hcp.phys⟩

/-- **CPU records of a step.**  In an accepted `stepEv` of a thread or affinity event, whenever the
    nrun / tid / pid channel of CPU `g` was modified, the step emits on row `g + 1` of cpu.prv a
    record of type `prvCpuNrun` / `prvCpuTid` / `prvCpuPid` whose value is the number of running
    threads bound to the CPU after the step / the TID / PID of that thread when it is unique
    (0 = nothing otherwise). -/
theorem cpu_records {e e1 : Emu} (h : WF e) (hen : e.enabled.contains 79 = true) {ev : OEv}
    (hk : IsThreadEv ev ∨ IsAffinityEv ev) {rs : List PrvRec}
    (hm : modelEvent e ev.1 79 ev.2.1 ev.2.2.1 ev.2.2.2 th mh = .ok e1) (hrec : records e e1 = .ok rs)
    {g : Nat} {c1 : Cpu} (hc : e1.cpus[g]? = some c1) :
    (c1.chNrun.dirty = true →
      (⟨1, g + 1, prvCpuNrun, (runningOn e1.flushAll.threads g).length⟩ : PrvRec) ∈ rs) ∧
    (c1.chTid.dirty = true →
      ∃ v, prvValue 0 (uniqueOr (runningOn e1.flushAll.threads g) (·.tid)) = .ok v ∧
        (⟨1, g + 1, prvCpuTid, v⟩ : PrvRec) ∈ rs) ∧
    (c1.chPid.dirty = true →
      ∃ v, prvValue 0 (uniqueOr (runningOn e1.flushAll.threads g) (·.pid)) = .ok v ∧
        (⟨1, g + 1, prvCpuPid, v⟩ : PrvRec) ∈ rs) := by
  obtain ⟨_, _, hso⟩ := emuStep_sound th mh h hen hk ((emuStep_ok_iff th mh e ev _).mpr ⟨e1, hm, rfl⟩)
  obtain ⟨hgi, vn, vt, vp⟩ := wf_flush_cpu hso.wf hc
  have key := @records_cpu _ _ _ hrec _ (List.mem_of_getElem? hc)
  rw [hgi] at key
  rw [runningOn_eq, uniqueOr_eq, uniqueOr_eq, ← vt, ← vp]
  refine ⟨fun hd => ?_, key (x := (prvCpuTid, 0, c1.chTid)) (by simp [cpuRaws]),
    key (x := (prvCpuPid, 0, c1.chPid)) (by simp [cpuRaws])⟩
  obtain ⟨v, hv, hmem⟩ := key (x := (prvCpuNrun, prvZero, c1.chNrun)) (by simp [cpuRaws]) hd
  rw [show prvValue prvZero c1.chNrun.cur = _ from vn] at hv
  cases hv; exact hmem

/-- Record emission is total for OH{x,c,p,w,r,e}, OAs and OAr as well (for the reason see C04
    `records_total`). -/
theorem records_total_affinity {e e1 : Emu} (h : WF e) (hz : NoZeroIds e) (hen : e.enabled.contains 79 = true)
    {ev : OEv} (hk : IsThreadEv ev ∨ IsAffinityEv ev)
    (hm : modelEvent e ev.1 79 ev.2.1 ev.2.2.1 ev.2.2.2 th mh = .ok e1) :
    (∃ rs, records e e1 = .ok rs) ∧ NoZeroIds e1.flushAll :=
  records_total_step th mh h hz hen hk hm

/-- the fold of the full `stepEv`: final state and the records of every step -/
def stepRunO (e : Emu) : List OEv → Except Err (Emu × List (List PrvRec))
  | [] => .ok (e, [])
  | ev :: rest =>
    match stepEv e ev.1 79 ev.2.1 ev.2.2.1 ev.2.2.2 th mh with
    | .error err => .error err
    | .ok (e', rs) =>
      match stepRunO e' rest with
      | .error err => .error err
      | .ok (e'', rss) => .ok (e'', rs :: rss)

/-- From a well-formed state satisfying `NoZeroIds`, the fold of the full `stepEv` (handlers,
    Paraver record emission, flush) accepts a history with final state `e` iff `emuRun` does: the
    reachable states of `cpu_membership_inv`, `no_phys_oversub` and `cpu_view` are those of the
    complete emulation step. -/
theorem stepRun_iff_emuRun : ∀ (hist : List OEv) (e0 : Emu), WF e0 → NoZeroIds e0 →
    e0.enabled.contains 79 = true → Hist hist → ∀ e,
      (∃ rss, stepRunO th mh e0 hist = .ok (e, rss)) ↔ emuRun th mh e0 hist = .ok e
  | [], e0, _, _, _, _, e => by
    unfold stepRunO emuRun
    constructor
    · rintro ⟨rss, h⟩; cases h; rfl
    · intro h; cases h; exact ⟨[], rfl⟩
  | ev :: rest, e0, h0, hz, hen, hh, e => by
    have hk := hh ev List.mem_cons_self
    unfold stepRunO emuRun
    cases hes : emuStep th mh e0 ev with
    | error err =>
      -- the full step fails as well: its emulator component is `emuStep`
      cases hs : stepEv e0 ev.1 79 ev.2.1 ev.2.2.1 ev.2.2.2 th mh with
      | error _ => exact ⟨fun ⟨_, h⟩ => (nomatch h), fun h => (nomatch h)⟩
      | ok p => rw [stepEv_emuStep th mh (e' := p.1) (rs := p.2) hs] at hes; cases hes
    | ok e' =>
      obtain ⟨rs, hs⟩ := (stepEv_iff_emuStep th mh h0 hz hen hk e').mpr hes
      obtain ⟨tj, x, hso⟩ := emuStep_sound th mh h0 hen hk hes
      have ih := stepRun_iff_emuRun rest e' hso.wf (hz.of_static hso.static)
        (by rw [hso.static.enabled]; exact hen) (fun ev' h' => hh ev' (List.mem_cons_of_mem _ h')) e
      simp only [hs]
      rw [← ih]
      cases stepRunO th mh e' rest with
      | error _ => exact ⟨fun ⟨_, h⟩ => (nomatch h), fun ⟨_, h⟩ => (nomatch h)⟩
      | ok q =>
        constructor
        · rintro ⟨rss, h⟩; cases h; exact ⟨_, rfl⟩
        · rintro ⟨rss, h⟩; cases h; exact ⟨_, rfl⟩
end

/-- execute payload naming the virtual CPU (index -1 = 0xffffffff) -/
def vPayload : List Nat := [255, 255, 255, 255, 255, 255, 255, 255, 0, 0, 0, 0, 0, 0, 0, 0]

/-- **The virtual CPU may be oversubscribed**: the history is accepted and leaves two running
    threads on the virtual CPU (global index 2), whose nrun channel shows 2 and whose tid
    channel shows nothing. -/
theorem vcpu_may_oversub :
    ((emuRun noHook noHook demo [(0, 72, 120, vPayload), (1, 72, 120, vPayload)]).toOption.map fun e =>
      (absOf e.threads, (e.cpus[2]?).map fun c => (c.virt, c.threads, c.chNrun.cur, c.chTid.cur))) =
    some ([(.running, some 2), (.running, some 2)], some (true, [0, 1], .int 2, .null)) := by
  decide +kernel

/-- the same two executes on physical CPU 0 are refused with the oversubscription error -/
theorem phys_oversub_witness :
    (match emuRun noHook noHook demo [(0, 72, 120, xPayload 0), (1, 72, 120, xPayload 0)] with
      | .error .oversub => true | _ => false) = true := demo_phys_oversub

/-- payloads of OAs (cpu index) and OAr (cpu index, tid) -/
def sPayload (i : Nat) : List Nat := [i, 0, 0, 0]
def rPayload (i tid : Nat) : List Nat := [i, 0, 0, 0, tid, 0, 0, 0]

/-- a reachable state exercising both affinity events: thread 0 runs on CPU 0 and moves itself to
    CPU 1 (OAs); thread 1 runs on the virtual CPU and is moved by thread 0 to CPU 0 (OAr) -/
def demoAff : List OEv :=
  [(0, 72, 120, xPayload 0), (1, 72, 120, vPayload), (0, 65, 115, sPayload 1), (0, 65, 114, rPayload 0 11)]

example : Hist demoAff := by
  intro ev hev
  simp only [demoAff, List.mem_cons, List.not_mem_nil, or_false] at hev
  rcases hev with rfl | rfl | rfl | rfl
  · exact Or.inl ⟨rfl, by decide⟩
  · exact Or.inl ⟨rfl, by decide⟩
  · exact Or.inr ⟨rfl, Or.inl rfl⟩
  · exact Or.inr ⟨rfl, Or.inr rfl⟩

example :
    ((emuRun noHook noHook demo demoAff).toOption.map fun e =>
      (absOf e.threads, e.cpus.map fun c => (c.threads, c.chNrun.cur, c.chTid.cur, c.chPid.cur))) =
    some ([(.running, some 1), (.running, some 0)],
      [([1], .int 1, .int 11, .int 100), ([0], .int 1, .int 10, .int 100), ([], .int 0, .null, .null)]) := by
  decide +kernel

example : NoZeroIds demo := by decide
/-- the full step accepts the affinity history and emits 6, 6, 7 and 7 records (a migration writes
    the new CPU on the thread's row, clears the old CPU's row and fills the new CPU's) -/
example : ((stepRunO noHook noHook demo demoAff).toOption.map fun r => r.2.map List.length) =
    some [6, 6, 7, 7] := by decide +kernel

/-- a remote migration to the thread's own CPU is rejected (documented behaviour of the code) -/
example : (match emuRun noHook noHook demo
      [(0, 72, 120, xPayload 0), (1, 72, 120, xPayload 1), (0, 65, 114, rPayload 1 11)] with
    | .error _ => true | .ok _ => false) = true := by decide +kernel

end Ovni.Props.C05
