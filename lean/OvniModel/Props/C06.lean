import OvniModel.Lemmas.CoreBayFresh
import OvniModel.Lemmas.EmitEmu
import OvniModel.Lemmas.SysEmit
import OvniModel.Lemmas.TaskCouple
import OvniModel.Lemmas.EmitZero
import OvniModel.Lemmas.EmuBayHist

/-!
# C06 — view consistency: the tracking muxes compute `thView` / `cpuView`

The property theorems, the predicates their statements are phrased in and the non-vacuity examples.
Mechanism: `Emu/Bay.lean` (transcription of `src/emu/bay.c`, `mux.c`, `track.c`, `thread_select_*`);
its specification vocabulary (`WF`, `Frame`, `MuxSync`, `specVal`, `Writes`): `Emu/BaySpec.lean`;
histories (`Rounds`, `replay`, `RoundsP`, `replayT`): `Lemmas/EmuBayHist.lean`; what the mechanism
must compute: `thView` / `cpuView` of `Emu/View.lean`.

`b.MuxSync strong mi m`, for mux `mi` (static part `m`): the enabled `cb_input` callback is exactly
the input the select function picks on the select channel's current value,
`output = spec(select value, input values)`, and (`strong`) `mux->selected` is that input — `false`
only before the select channel was ever propagated, because `mux_init` leaves `selected = 0`.

A theorem here that only applies a lemma with the same statement (`mux_round_event`,
`propagate_keeps_raw`, `emu_init`, …) is there because the property's check runs `#print axioms`
over the theorems of this module only.
-/
namespace Ovni.Props.C06
open Ovni.Emu Ovni.Generated

/-- One mux `mi` of any network with the frame condition.  Start `bay_propagate` in any state
    reached by channel writes (`b.dirty`: any ordering of the dirty channels, `WF.dirtyIff`) in
    which the select channel is dirty, or the mux was in sync except that its selected input may
    be dirty.  If it succeeds the mux is in sync with the FINAL values, and `selected = f(select)`
    whenever the select channel was dirty.  Two phases over the processing order, before / after
    the turn of `cb_select` (or of the selected input's callback): `Bay.dirtyPhase_until`. -/
theorem mux_round {strong : Bool} {b bF : Bay} {em : List (Nat × Value)} {mi : Nat} {m : Mux}
    (wf : b.WF) (hm : b.muxes[mi]? = some m) (hfr : b.Frame mi m) (hweak : b.Weak mi m)
    (hpre : (b.chan m.sel).dirty = true ∨
            b.SyncUpTo strong mi m (fun _ c => (b.chan c).dirty = true))
    (h : b.propagate = .ok (bF, em)) :
    bF.WF ∧ bF.Clean ∧ bF.muxes = b.muxes ∧
    ∃ s, m.selectInput (bF.chan m.sel).cur = .ok s ∧
      (bF.chan m.out).cur = bF.specVal m s ∧
      (∀ i, bF.enabled mi m i ↔ s = some i) ∧
      (strong = true ∨ (b.chan m.sel).dirty = true → bF.selOf mi = s) := by
  -- `propagate_sync` at the given `strong`, and once more at `strong := true` on the
  -- dirty-select branch, which is what yields `selOf`
  have key : ∀ st : Bool, ((b.chan m.sel).dirty = true ∨
      b.SyncUpTo st mi m (fun _ c => (b.chan c).dirty = true)) →
      bF.WF ∧ bF.Clean ∧ bF.muxes = b.muxes ∧ bF.MuxSync st mi m :=
    fun st hp => Bay.propagate_sync wf hm hfr hweak hp h
  obtain ⟨wfF, hcl, hmx, hsync⟩ := key strong hpre
  obtain ⟨s, h1, h2, h3, h4⟩ := hsync.2.out
  refine ⟨wfF, hcl, hmx, s, h1, h4, h2, ?_⟩
  rintro (hs | hd)
  · exact h3 hs
  · obtain ⟨_, _, _, hT⟩ := key true (Or.inl hd)
    obtain ⟨s', g1, _, g3, _⟩ := hT.2.out
    rw [h1] at g1; cases g1
    exact g3 rfl

theorem propagate_keeps_raw {b bF : Bay} {em : List (Nat × Value)} (wf : b.WF)
    (h : b.propagate = .ok (bF, em)) (c : Nat)
    (hc : ∀ (mj : Nat) (m' : Mux), b.muxes[mj]? = some m' → m'.out ≠ c) :
    (bF.chan c).cur = (b.chan c).cur :=
  by rw [Bay.propagate_noOut wf h hc, Chan.flush_cur]

/-- From a mux in sync, ANY sequence of successful channel writes that avoid its output (select,
    inputs, unrelated channels, in any order) followed by `bay_propagate` leaves it in sync with the
    final values.
    The channel rules reject a second write to a raw channel, which only removes cases. -/
theorem mux_round_event {strong : Bool} {b b1 bF : Bay} {em : List (Nat × Value)} {mi : Nat} {m : Mux}
    (wf : b.WF) (hm : b.muxes[mi]? = some m) (hfr : b.Frame mi m)
    (hsync : b.MuxSync strong mi m)
    (hw : Bay.Writes (· ≠ m.out) b b1) (h : b1.propagate = .ok (bF, em)) :
    bF.WF ∧ bF.Clean ∧ bF.muxes = b.muxes ∧ bF.MuxSync strong mi m ∧
    ((b1.chan m.sel).dirty = true → bF.MuxSync true mi m) :=
  hsync.round wf hm hfr hw h

/-- At every instant of a history that never writes the mux output directly. -/
theorem mux_always {strong : Bool} {b b' : Bay} {mi : Nat} {m : Mux}
    (wf : b.WF) (hm : b.muxes[mi]? = some m) (hfr : b.Frame mi m)
    (hsync : b.MuxSync strong mi m) (h : Rounds (· ≠ m.out) b b') :
    b'.WF ∧ b'.muxes = b.muxes ∧ b'.MuxSync strong mi m := by
  induction h with
  | nil => exact ⟨wf, rfl, hsync⟩
  | round _ hw hp ih =>
    obtain ⟨wf0, hmx0, hs0⟩ := ih
    obtain ⟨wfF, _, hmxF, hsF, _⟩ :=
      mux_round_event wf0 (by rw [hmx0]; exact hm) (hfr.congr hmx0) hs0 hw hp
    exact ⟨wfF, hmxF.trans hmx0, hsF⟩

/-- Every mux at once, muxes that share select and input channels included.  The frame condition
    for every mux — no mux output is the select or an input of any mux, outputs pairwise distinct,
    i.e. outputs feed only emit (PRV) callbacks — is the thread / CPU topology of
    `model_thread_connect` + `model_cpu_connect` without the breakdown model. -/
theorem network_round {b b1 bF : Bay} {em : List (Nat × Value)} (strong : Nat → Bool)
    (wf : b.WF) (hfr : ∀ (mi : Nat) (m : Mux), b.muxes[mi]? = some m → b.Frame mi m)
    (hsync : ∀ (mi : Nat) (m : Mux), b.muxes[mi]? = some m → b.MuxSync (strong mi) mi m)
    (hw : Bay.Writes (fun c => ∀ (mj : Nat) (m' : Mux), b.muxes[mj]? = some m' → m'.out ≠ c) b b1)
    (h : b1.propagate = .ok (bF, em)) :
    bF.WF ∧ bF.Clean ∧ bF.muxes = b.muxes ∧
    ∀ (mi : Nat) (m : Mux), bF.muxes[mi]? = some m → bF.MuxSync (strong mi) mi m := by
  have hw' : ∀ (mi : Nat) (m : Mux), b.muxes[mi]? = some m → Bay.Writes (· ≠ m.out) b b1 :=
    fun mi m hm => hw.mono (fun _ hok e => hok mi m hm e.symm)
  have k := hw.kept wf
  obtain ⟨wfF, hcl, hmxF'⟩ := Bay.propagate_wf k.wf h
  have hmxF : bF.muxes = b.muxes := hmxF'.trans k.muxes
  refine ⟨wfF, hcl, hmxF, fun mi m hm => ?_⟩
  have hm0 : b.muxes[mi]? = some m := hmxF ▸ hm
  exact (mux_round_event wf hm0 (hfr mi m hm0) (hsync mi m hm0) (hw' mi m hm0) h).2.2.2.1

theorem layered_frame {b : Bay} {L : Nat}
    (hl : ∀ (mi : Nat) (m : Mux), b.muxes[mi]? = some m →
      m.out = L + mi ∧ m.sel < L ∧ ∀ (i c : Nat), m.inputs[i]? = some (some c) → c < L)
    (mi : Nat) (m : Mux) (hm : b.muxes[mi]? = some m) : b.Frame mi m :=
  Bay.Layered.frame (L := L) (fun mi m hm =>
    have ⟨ho, hs, hi⟩ := hl mi m hm
    ⟨hs, hi, by omega, fun mj m' hm' hne => by have := (hl mj m' hm').1; omega⟩) mi m hm

/-- `chans.length` iterations suffice for the dirty phase, whatever is appended during the walk:
    the dirty list holds distinct registered channels. -/
theorem dirtyPhase_fuel_sufficient {b : Bay} (wf : b.WF) (extra : Nat) :
    b.dirtyPhase (b.chans.length + extra) 0 = b.dirtyPhase b.chans.length 0 :=
  Bay.dirtyPhase_fuel _ _ b 0 wf (by omega) (by omega)

/-- A channel's callback list does not change while it is walked, as no mux uses its own select
    as an input. -/
theorem propChan_fuel_sufficient {b : Bay} (wf : b.WF) (c extra : Nat) :
    b.propChan (b.chanFuel c + extra) c 0 = b.propChan (b.chanFuel c) c 0 :=
  Bay.propChan_fuel c _ _ b 0 wf (by unfold Bay.chanFuel; omega) (by unfold Bay.chanFuel; omega)

/-- `bay_propagate` succeeds on every well-formed `Safe` bay (all inputs connected, select
    functions defined on the current select values, select channels not mux outputs): no callback
    fails — outputs are single DIRTY_WRITE + ALLOW_DUP channels, so the double write select+input
    and the duplicate value are accepted — and neither fuel bound of the model is reached.  So
    `propagate = ok` in the theorems above only excludes ill-formed select values. -/
theorem propagate_total {b : Bay} (wf : b.WF) (sf : b.Safe) :
    ∃ bF em, b.propagate = .ok (bF, em) := by
  obtain ⟨⟨bF, em⟩, h⟩ := Bay.propagate_total wf sf
  exact ⟨bF, em, h⟩


/-- Shape of the mux `track_connect_thread` builds for mode RUN / ACT: select
    = the thread's state channel, one input = the raw model channel, default
    null, select function by mode. -/
structure ThreadTrack (m : Mux) (mode S R : Nat) : Prop where
  modeOk : mode = trackRun ∨ mode = trackAct
  selEq : m.sel = S
  inputsEq : m.inputs = [some R]
  dfltEq : m.dflt = .null
  kindEq : m.kind = if mode = trackRun then .thRunning else .thActive

theorem thread_view_of_sync {strong : Bool} {b : Bay} {mi : Nat} {m : Mux} {mode S R : Nat}
    (ht : ThreadTrack m mode S R) (hsync : b.MuxSync strong mi m)
    (st : ThState) (hst : StateChan (b.chan S).cur st) :
    (b.chan m.out).cur = if trackHolds mode st then (b.chan R).cur else .null := by
  obtain ⟨s, h1, _, _, h4⟩ := hsync.2.out
  rw [ht.selEq, selectInput_track m mode ht.modeOk ht.kindEq (by rw [ht.inputsEq]; rfl) _ st hst] at h1
  cases h1
  rw [h4]
  split
  · simp [Bay.specVal, ht.inputsEq]
  · simp [Bay.specVal, ht.dfltEq]

/-- A thread's model channel tracked RUN or ACT: after any event — writes to the state channel
    and/or the model channel (push, pop, set), in any order — and `bay_propagate`, the track output
    is the definition of `thView`: the channel's top if the mode holds for the NEW state, else
    null. -/
theorem track_thread_view {strong : Bool} {b b1 bF : Bay} {em : List (Nat × Value)} {mi : Nat} {m : Mux}
    {mode S R : Nat} (ht : ThreadTrack m mode S R)
    (wf : b.WF) (hm : b.muxes[mi]? = some m) (hfr : b.Frame mi m) (hsync : b.MuxSync strong mi m)
    (hw : Bay.Writes (· ≠ m.out) b b1) (h : b1.propagate = .ok (bF, em))
    (st : ThState) (hst : StateChan (bF.chan S).cur st) :
    (bF.chan m.out).cur = if trackHolds mode st then (bF.chan R).cur else .null :=
  thread_view_of_sync ht (mux_round_event wf hm hfr hsync hw h).2.2.2.1 st hst

/-- With `thView` itself, when the bay's state and raw channel mirror thread `t` and channel `i`
    of model `ms`. -/
theorem track_thread_thView {strong : Bool} {b : Bay} {mi : Nat} {m : Mux} {S R : Nat}
    (t : Thread) (ms : ModelSpec) (i : Nat) (cs : List Chan)
    (ht : ThreadTrack m (ms.thTrack.getD i 0) S R) (hsync : b.MuxSync strong mi m)
    (hcs : t.getChans ms.char = some cs)
    (hst : StateChan (b.chan S).cur t.state) (hR : (b.chan R).cur = (cs.getD i {}).cur) :
    (b.chan m.out).cur = thView t ms i := by
  rw [thread_view_of_sync ht hsync t.state hst, thView, hcs, hR]

/-- Mode ANY: `track_th_input_chan` aliases the raw channel, which is `thView`
    for that mode (`trackHolds trackAny _ = true`). -/
theorem track_any_thView {b b' : Bay} {sel inp out : Nat}
    (h : b.trackThread trackAny sel inp = .ok (b', out))
    (t : Thread) (ms : ModelSpec) (i : Nat) (cs : List Chan) (hmode : ms.thTrack.getD i 0 = trackAny)
    (hcs : t.getChans ms.char = some cs) (b2 : Bay) (hR : (b2.chan inp).cur = (cs.getD i {}).cur) :
    out = inp ∧ (b2.chan out).cur = thView t ms i := by
  have : out = inp := by
    unfold Bay.trackThread at h
    simp at h
    exact h.2.symm
  subst this
  refine ⟨rfl, ?_⟩
  rw [thView, hcs, hmode, hR]; simp [trackHolds]

/-- Shape of the mux `connect_cpu` builds for one CPU and model channel:
    select = the CPU's `th_running` channel, default select function, input `g` =
    raw model channel of the thread with global index `g`. -/
structure CpuTrack (m : Mux) (S : Nat) (rs : List Nat) : Prop where
  selEq : m.sel = S
  inputsEq : m.inputs = rs.map some
  kindEq : m.kind = .byIndex

theorem cpu_view_of_sync {strong : Bool} {b : Bay} {mi : Nat} {m : Mux} {S : Nat} {rs : List Nat}
    (hc : CpuTrack m S rs) (hsync : b.MuxSync strong mi m) :
    (b.chan m.out).cur =
      match (b.chan S).cur with
      | .null => m.dflt
      | .int g => (b.chan (rs.getD g.toNat 0)).cur := by
  obtain ⟨s, h1, _, _, h4⟩ := hsync.2.out
  rw [h4, ← hc.selEq]
  cases hv : (b.chan m.sel).cur with
  | null => rw [hv, selectInput_null] at h1; cases h1; rfl
  | int g =>
    rw [hv] at h1
    obtain ⟨_, hlt, rfl⟩ := selectInput_index m hc.kindEq g s h1
    rw [hc.inputsEq, List.length_map] at hlt
    simp only [Bay.specVal, hc.inputsEq]
    rw [List.getElem?_map, List.getElem?_eq_getElem hlt]
    simp [List.getD_eq_getElem?_getD, List.getElem?_eq_getElem hlt]

/-- The CPU mux of one model channel: after any event — `th_running` changes (state or affinity
    change) and any thread's raw channel changes, in the same event, in any order — the output is
    the raw value of the thread `th_running` names, or the default. -/
theorem track_cpu_view {strong : Bool} {b b1 bF : Bay} {em : List (Nat × Value)} {mi : Nat} {m : Mux}
    {S : Nat} {rs : List Nat} (hc : CpuTrack m S rs)
    (wf : b.WF) (hm : b.muxes[mi]? = some m) (hfr : b.Frame mi m) (hsync : b.MuxSync strong mi m)
    (hw : Bay.Writes (· ≠ m.out) b b1) (h : b1.propagate = .ok (bF, em)) :
    (bF.chan m.out).cur =
      match (bF.chan S).cur with
      | .null => m.dflt
      | .int g => (bF.chan (rs.getD g.toNat 0)).cur :=
  cpu_view_of_sync hc (mux_round_event wf hm hfr hsync hw h).2.2.2.1

/-- With `cpuView` itself, when `th_running` mirrors the CPU's channel, input `g` mirrors channel
    `i` of thread `g`, and the mux default is the model's idle default. -/
theorem track_cpu_cpuView {strong : Bool} {b : Bay} {mi : Nat} {m : Mux} {S : Nat} {rs : List Nat}
    (e : Emu) (c : Cpu) (ms : ModelSpec) (i : Nat)
    (hc : CpuTrack m S rs) (hsync : b.MuxSync strong mi m)
    (hS : (b.chan S).cur = c.chThrun.cur) (hlen : rs.length = e.threads.length)
    (hR : ∀ (g : Nat) (t : Thread), e.threads[g]? = some t →
      ∃ cs, t.getChans ms.char = some cs ∧ (b.chan (rs.getD g 0)).cur = (cs.getD i {}).cur)
    (hd : m.dflt = match ms.cpuDefault.find? (·.1 == i) with
      | some (_, v) => .int v
      | none => .null) :
    (b.chan m.out).cur = cpuView e c ms i := by
  have hsel := hsync.2
  rw [cpu_view_of_sync hc hsync, cpuView, cpuSelected, ← hS]
  cases hv : (b.chan S).cur with
  | null => simp only; exact hd
  | int g =>
    obtain ⟨s, h1, _⟩ := hsel
    rw [hc.selEq, hv] at h1
    obtain ⟨hg0, hlt, _⟩ := selectInput_index m hc.kindEq g s h1
    rw [hc.inputsEq, List.length_map, hlen] at hlt
    have hng : ¬ g < 0 := by omega
    simp only [hng, if_false]
    obtain ⟨cs, hcs, hcur⟩ := hR g.toNat e.threads[g.toNat] (List.getElem?_eq_getElem hlt)
    rw [List.getElem?_eq_getElem hlt]
    simp only [hcs, hcur]

/-- The calls `model_thread_connect` / `model_cpu_connect` make keep `Bay.WF`, provided the input is
    not the select channel. -/
theorem built_wf {b b1 b2 b3 : Bay} {sel out n mi i c : Nat} {kind : SelKind} {v : Value}
    (wf : b.WF) (h1 : b.muxInit sel out kind n = .ok (b1, mi))
    (h2 : b1.muxSetInput mi i c = .ok b2) (hc : c ≠ sel) (h3 : b2.muxSetDefault mi v = .ok b3) :
    b1.WF ∧ b2.WF ∧ b3.WF := by
  obtain ⟨wf1, rfl, hmx⟩ := wf.muxInit h1
  have wf2 := wf1.muxSetInput h2 (by
    intro m hm; rw [hmx] at hm; simp at hm; subst hm; exact hc)
  exact ⟨wf1, wf2, wf2.muxSetDefault h3⟩

theorem trackThread_shape {b b' : Bay} {mode sel inp out : Nat}
    (hmode : mode = trackRun ∨ mode = trackAct)
    (h : b.trackThread mode sel inp = .ok (b', out)) :
    out = b.chans.length ∧ ∃ m, b'.muxes = b.muxes ++ [m] ∧ m.out = out ∧ ThreadTrack m mode sel inp := by
  obtain ⟨_, _, hr⟩ := (Bay.trackThread_iff hmode).mp h
  cases hr
  exact ⟨rfl, _, Bay.addTrack_muxes _ _, rfl, hmode, rfl, rfl, rfl, rfl⟩

def TrackShape (m : Mux) : Prop :=
  (∃ mode S R, ThreadTrack m mode S R) ∨ (∃ S rs, CpuTrack m S rs)

/-- Networks connected the way the emulator does it: all source channels
    (thread state, `th_running`, raw model channels: ids below `L`) exist and are
    untouched; then any number of `track_connect_thread` steps (mode RUN / ACT)
    and `connect_cpu` steps, in any order, each over source channels.  Sources
    may be shared freely (one state channel selects all tracks of the thread;
    one raw channel feeds its thread track and every CPU's track). -/
inductive Connected (L : Nat) : Bay → Prop
  | base {b : Bay} : b.WF → b.muxes = [] → b.NoInputCbs → b.AllNull → L ≤ b.chans.length →
      Connected L b
  | thread {b b' : Bay} {mode sel inp out : Nat} : Connected L b →
      (mode = trackRun ∨ mode = trackAct) → sel < L → inp < L → inp ≠ sel →
      b.trackThread mode sel inp = .ok (b', out) → Connected L b'
  | cpu {b b' : Bay} {sel out : Nat} {raws : List Nat} {dflt : Value} : Connected L b →
      sel < L → (∀ c ∈ raws, c < L ∧ c ≠ sel) →
      b.trackCpu sel raws dflt = .ok (b', out) → Connected L b'

theorem trackShape_addTrack {b : Bay} {m : Mux}
    (h : ∀ (mi : Nat) (m' : Mux), b.muxes[mi]? = some m' → TrackShape m') (hm : TrackShape m)
    (mi : Nat) (m' : Mux) (h' : (b.addTrack m).muxes[mi]? = some m') : TrackShape m' := by
  rw [Bay.addTrack_muxes] at h'
  rcases getElem?_append_some h' with h' | ⟨_, rfl⟩
  · exact h mi m' h'
  · exact hm

theorem topology_frame {L : Nat} {b : Bay} (h : Connected L b) :
    b.Topo L ∧ (∀ (mi : Nat) (m : Mux), b.muxes[mi]? = some m → TrackShape m) ∧
    (∀ (mi : Nat) (m : Mux), b.muxes[mi]? = some m → b.Frame mi m) := by
  have key : b.Topo L ∧ (∀ (mi : Nat) (m : Mux), b.muxes[mi]? = some m → TrackShape m) := by
    -- both connection steps are `Bay.addTrack` of a track over source channels
    induction h with
    | base wf hm hno hnull hl =>
      exact ⟨⟨wf, fun mi m h => by rw [hm] at h; simp at h, hno, hnull, hl⟩,
        fun mi m h => by rw [hm] at h; simp at h⟩
    | thread _ hmode hsel hinp hne htr ih =>
      obtain ⟨_, _, hr⟩ := (Bay.trackThread_iff hmode).mp htr
      cases hr
      refine ⟨ih.1.addTrack hsel rfl fun i c hi => ?_,
        trackShape_addTrack ih.2 (.inl ⟨_, _, _, hmode, rfl, rfl, rfl, rfl⟩)⟩
      cases i <;> simp at hi
      subst hi; exact ⟨hinp, hne⟩
    | cpu _ hsel hraws htr ih =>
      rw [Bay.trackCpu_eq (Nat.lt_of_lt_of_le hsel ih.1.len)
        fun c hc => Nat.lt_of_lt_of_le (hraws c hc).1 ih.1.len] at htr
      cases htr
      exact ⟨ih.1.addTrack hsel rfl fun i c hi => hraws c (mem_of_getElem?_map_some hi),
        trackShape_addTrack ih.2 (.inr ⟨_, _, rfl, rfl, rfl⟩)⟩
  exact ⟨key.1, key.2, key.1.layered.frame⟩

/-- At every instant (after any history of events writing source channels only) every thread
    track of the connected network shows `thView`'s definition. -/
theorem topology_thread_rows {L : Nat} {b0 b : Bay} (hc : Connected L b0)
    (hr : Rounds (· < L) b0 b) (mi : Nat) (m : Mux) (mode S R : Nat)
    (hm : b0.muxes[mi]? = some m) (ht : ThreadTrack m mode S R)
    (st : ThState) (hst : StateChan (b.chan S).cur st) :
    (b.chan m.out).cur = if trackHolds mode st then (b.chan R).cur else .null := by
  obtain ⟨_, _, h⟩ := Rounds.syncOrVirgin (topology_frame hc).1 hr
  exact thread_view_of_sync ht ((h mi m hm).elim id (·.sync ht.dfltEq)) st hst

/-- `Weak` (at most the input recorded in `mux->selected` has its callback enabled) is what
    `propagate_sync` needs when a select channel is written for the first time. -/
theorem topology_weak {L : Nat} {b0 b : Bay} (hc : Connected L b0) (hr : Rounds (· < L) b0 b) :
    b.WF ∧ b.muxes = b0.muxes ∧ ∀ (mi : Nat) (m : Mux), b0.muxes[mi]? = some m → b.Weak mi m := by
  obtain ⟨wf, hmx, h⟩ := Rounds.syncOrVirgin (topology_frame hc).1 hr
  exact ⟨wf, hmx, fun mi m hm => (h mi m hm).elim (·.1) (.ofNoInputs ·.2.2)⟩

/-- After any history, an event in which the CPU's `th_running` changes (thread starts, pauses,
    ends, migrates — possibly with value changes of any thread) leaves the CPU track showing
    `cpuView`'s definition; CPU tracks with a null default (all but the idle channels of nOS-V /
    Nanos6) show it at every instant. -/
theorem topology_cpu_rows {L : Nat} {b0 b b1 bF : Bay} {em : List (Nat × Value)} (hc : Connected L b0)
    (hr : Rounds (· < L) b0 b) (hw : Bay.Writes (· < L) b b1) (hp : b1.propagate = .ok (bF, em))
    (mi : Nat) (m : Mux) (S : Nat) (rs : List Nat)
    (hm : b0.muxes[mi]? = some m) (hct : CpuTrack m S rs)
    (hd : m.dflt = .null ∨ (b1.chan S).dirty = true) :
    (bF.chan m.out).cur =
      match (bF.chan S).cur with
      | .null => m.dflt
      | .int g => (bF.chan (rs.getD g.toNat 0)).cur := by
  have t := (topology_frame hc).1
  refine cpu_view_of_sync (strong := false) (mi := mi) hct ?_
  rcases hd with hd | hd
  · exact ((Rounds.syncOrVirgin t (.round hr hw hp)).2.2 mi m hm).elim id (·.sync hd)
  · -- the select channel was written: a virgin mux is selected for the first time
    obtain ⟨wf, hmx, h⟩ := Rounds.syncOrVirgin t hr
    rcases h mi m hm with h | h
    · exact h.step wf (t.layered.congr hmx) (hmx ▸ hm) hw hp
    · exact (h.step wf (t.layered.congr hmx) (hmx ▸ hm) hw hp).1 (hct.selEq ▸ hd)

/-! Vocabulary (`Lemmas/CoreBay*.lean`).  `e.shape` = (number of threads, number
of CPUs, channel specs of the enabled models and the mark group);
`e.shape.connect` = the bay `emu_connect` builds for that hierarchy with
`register` / `trackThread` / `trackCpu`: source channels (state channel of
every thread, `th_running` / `th_active` of every CPU, raw channel
(thread, model, i)), then per model `model_thread_connect` and
`model_cpu_connect`, one track per (thread | CPU, model, channel).
`e.shape.idx s` is the bay id of source `s`, `e.shape.L` the number of
sources, `e.shape.thOut g k i` / `e.shape.cpuOut c k i` the output channel of
the track of channel `i` of model number `k` for thread `g` / CPU `c` (for
mode ANY the raw channel itself).  `Mirrors e b`: every source channel of `b`
IS the emulator's channel (values, `last_value`, dirty flag, properties).
`Shaped e`: structural invariant of `Emu` states (`gindex` = position, channel
groups as in the specs, distinct model characters, `th_running` names an
existing thread, state channel = thread state).  `Inv b0 e b`: `b` has the
muxes of the connected bay `b0`, is well formed, clean, safe, mirrors `e`, and
every mux is in sync or has never been selected. -/

/-- What `emu_connect` builds for the hierarchy of `e`, before the connect-time writes and the
    first propagation. -/
def bayOf (e : Emu) : Bay :=
  match e.shape.connect with
  | .ok b => b
  | .error _ => {}

theorem bayOf_eq {e : Emu} {b0 : Bay} (h : e.shape.connect = .ok b0) : bayOf e = b0 := by
  rw [bayOf, h]

/-- `TrackShape` only says: for SOME select and input channels.  Which channels they are (the
    thread's state and raw channel; the CPU's `th_running`, the raw channels of all threads, the
    model's idle default) is `Inv.thMux` / `Inv.cpuMux`. -/
theorem bayOf_topology {e : Emu} {b0 : Bay} (h : e.shape.connect = .ok b0) :
    b0.Topo e.shape.L ∧ b0.chans.length = e.shape.L + e.shape.jobs.length ∧
    (∀ (mi : Nat) (m : Mux), b0.muxes[mi]? = some m → TrackShape m ∧ b0.Frame mi m) := by
  have hb := Shape.connect_built h
  refine ⟨hb.topo, hb.len, fun mi m hm => ⟨?_, hb.topo.layered.frame mi m hm⟩⟩
  cases hb.isTrack hm with
  | th g k i ms out hg hk hi hmode => exact Or.inl ⟨_, _, _, hmode, rfl, rfl, rfl, rfl⟩
  | cpu c k i ms out hc hk hi => exact Or.inr ⟨_, _, rfl, rfl, rfl⟩

/-- In any bay tied to the emulator state by `Inv`, the output of EVERY thread track is `thView`
    of that thread, model and channel (all modes: ANY, RUN, ACT). -/
theorem emu_thread_rows {e : Emu} {b0 b : Bay} (hc : e.shape.connect = .ok b0) (hs : Shaped e)
    (hi : Inv b0 e b) {g k i : Nat} {t : Thread} {m : ModelSpec}
    (ht : e.threads[g]? = some t) (hk : e.specs[k]? = some m) (hil : i < m.nch) :
    (b.chan (e.shape.thOut g k i)).cur = thView t m i := by
  obtain ⟨cs, hcs, hraw⟩ := hi.raw_cur hs ht hk hil
  have hk' : e.shape.specs[k]? = some m := hk
  by_cases hna : m.thTrack.getD i 0 = trackAny
  · have : e.shape.thOut g k i = e.shape.idx (.raw g k i) := by
      simp only [Shape.thOut, hk', hna, if_true]
    rw [this, hraw, thView, hcs, hna]
    simp [trackHolds]
  · have hg : g < e.threads.length := (List.getElem?_eq_some_iff.mp ht).1
    obtain ⟨hmode, mi, hm⟩ := hi.thMux hc hg hk hil hna
    have hsync := (hi.sync mi _ hm).elim id (fun h => h.sync rfl)
    have hst : StateChan (b.chan (e.shape.idx (.st g))).cur t.state := by
      have hsrc : e.src (.st g) = some t.chState := by simp only [Emu.src, ht, Option.map_some]
      rw [hi.mirrors.chan hsrc]
      exact (hs.st g t ht).1
    -- first without the goal (as in `emu_cpu_view`): against it the unifier looks for the mux inside `Shape.thOut`
    have h := track_thread_thView t m i cs ⟨hmode, rfl, rfl, rfl, rfl⟩ hsync hcs hst (by rw [hraw])
    exact h

/-- Where `Inv` keeps the track of channel `i` of model `k` for CPU `c`: the mux `connect_cpu`
    built, as a whole. -/
theorem emu_cpu_track {e : Emu} {b0 b : Bay} (hc : e.shape.connect = .ok b0) (hi : Inv b0 e b) {c k i : Nat}
    {m : ModelSpec} (hcl : c < e.cpus.length) (hk : e.specs[k]? = some m) (hil : i < m.nch) :
    ∃ mi : Nat, b.muxes[mi]? = some
      ({ sel := e.shape.idx (.run c), out := e.shape.cpuOut c k i, kind := .byIndex,
         inputs := (e.shape.rawsOf k i).map some, dflt := m.cpuDflt i } : Mux) :=
  hi.cpuMux hc hcl hk hil

/-- In sync, that track shows `cpuView`: `track_cpu_cpuView` with `th_running` and the raw channels
    read through `Mirrors`. -/
theorem emu_cpu_view {e : Emu} {b0 b : Bay} (hs : Shaped e) (hi : Inv b0 e b) {c k i mi : Nat} {x : Cpu}
    {m : ModelSpec} (hx : e.cpus[c]? = some x) (hk : e.specs[k]? = some m) (hil : i < m.nch)
    (hsync : b.MuxSync false mi
      ({ sel := e.shape.idx (.run c), out := e.shape.cpuOut c k i, kind := .byIndex,
         inputs := (e.shape.rawsOf k i).map some, dflt := m.cpuDflt i } : Mux)) :
    (b.chan (e.shape.cpuOut c k i)).cur = cpuView e x m i := by
  -- first without the goal, so that the mux is read off `hsync`: against the goal the unifier looks
  -- for it inside `Shape.cpuOut`
  have h := track_cpu_cpuView e x m i ⟨rfl, rfl, rfl⟩ hsync
  refine h (by rw [hi.mirrors.chan_run hx]) (e.shape.rawsOf_length k i) ?_ rfl
  intro g t ht
  obtain ⟨cs, hcs, hraw⟩ := hi.raw_cur hs ht hk hil
  have hg : g < e.shape.nT := (List.getElem?_eq_some_iff.mp ht).1
  exact ⟨cs, hcs, by rw [List.getD_eq_getElem?_getD, Shape.rawsOf_getElem? hg, Option.getD_some, hraw]⟩

/-- The output of EVERY CPU track is `cpuView` of that CPU, model and channel — except a track
    with a non-null default (the idle channel of nOS-V / Nanos6) on a CPU whose `th_running` has
    never been written: its output is still null where `cpuView` already shows the default.  (The
    C code never emits that default at time 0; `records` emits nothing either, because `cpuView`
    does not change.) -/
theorem emu_cpu_rows {e : Emu} {b0 b : Bay} (hc : e.shape.connect = .ok b0) (hs : Shaped e)
    (hi : Inv b0 e b) {c k i : Nat} {x : Cpu} {m : ModelSpec}
    (hx : e.cpus[c]? = some x) (hk : e.specs[k]? = some m) (hil : i < m.nch) :
    (b.chan (e.shape.cpuOut c k i)).cur = cpuView e x m i ∨
    (x.chThrun.cur = .null ∧ (b.chan (e.shape.cpuOut c k i)).cur = .null ∧ m.cpuDflt i ≠ .null) := by
  obtain ⟨mi, hm⟩ := emu_cpu_track hc hi (List.getElem?_eq_some_iff.mp hx).1 hk hil
  rcases hi.sync mi _ hm with h | h
  · exact .inl (emu_cpu_view hs hi hx hk hil h)
  · by_cases hdn : m.cpuDflt i = .null
    · exact .inl (emu_cpu_view hs hi hx hk hil (h.sync hdn))
    · exact .inr ⟨hi.mirrors.chan_run hx ▸ h.1, h.2.1, hdn⟩

/-- The composition step.  For every event the reference emulator accepts (the two hooks are
    writes too, `HookSim`): the handlers' channel operations are a `Bay.Writes` on source channels
    to a bay mirroring `e'`, `bay_propagate` succeeds, the result mirrors the flushed state (`Inv`:
    the next event starts from it), and every row is `thView` / `cpuView` of `e'` (with the
    never-selected exception of `emu_cpu_rows`). -/
theorem emu_event {e e' : Emu} {b0 b : Bay} {ti mc c v : Nat} {p : List Nat}
    {th mh : Emu → Nat → Nat → Nat → List Nat → Except Err Emu} (hth : HookSim th) (hmh : HookSim mh)
    (hc : e.shape.connect = .ok b0) (hs : Shaped e) (hi : Inv b0 e b)
    (h : modelEvent e ti mc c v p th mh = .ok e') :
    ∃ b1 bF em, Bay.Writes (· < e.shape.L) b b1 ∧ Mirrors e' b1 ∧ b1.propagate = .ok (bF, em) ∧
      Shaped e'.flushAll ∧ e'.flushAll.shape = e.shape ∧ Inv b0 e'.flushAll bF ∧
      (∀ (g k i : Nat) (t' : Thread) (ms : ModelSpec), e'.threads[g]? = some t' →
        e.specs[k]? = some ms → i < ms.nch →
        (bF.chan (e.shape.thOut g k i)).cur = thView t' ms i) ∧
      (∀ (cg k i : Nat) (x' : Cpu) (ms : ModelSpec), e'.cpus[cg]? = some x' →
        e.specs[k]? = some ms → i < ms.nch →
        (bF.chan (e.shape.cpuOut cg k i)).cur = cpuView e' x' ms i ∨
        (x'.chThrun.cur = .null ∧ (bF.chan (e.shape.cpuOut cg k i)).cur = .null ∧ ms.cpuDflt i ≠ .null)) := by
  obtain ⟨b1, _, bF, em, E⟩ := hi.event hc hs (Sim.modelEvent hth hmh h)
  have hshape := E.shapeF
  have hcF : e'.flushAll.shape.connect = .ok b0 := by rw [hshape]; exact hc
  have hspecs : e'.flushAll.specs = e.specs := congrArg Shape.specs hshape
  refine ⟨b1, bF, em, E.writesL, E.mirrors, E.prop, E.shapedF, hshape, E.inv, ?_, ?_⟩
  · intro g k i t' ms ht' hk hil
    obtain ⟨tF, htF, hv⟩ := flushAll_thread ht'
    have := emu_thread_rows hcF E.shapedF E.inv htF (hspecs ▸ hk) hil
    rwa [hshape, hv] at this
  · intro cg k i x' ms hx' hk hil
    obtain ⟨xF, hxF, hcur, hv⟩ := flushAll_cpu hx'
    have := emu_cpu_rows hcF E.shapedF E.inv hxF (hspecs ▸ hk) hil
    rwa [hshape, hv, hcur] at this

/-- `emu_connect` for `mkEmu …`: connect, the connect-time `chan_set`s (nOS-V / Nanos6: every
    thread Progressing), one `bay_propagate`; the result satisfies `Inv` with `mkEmu …`.
    Hypotheses: at least one thread (the CPU muxes have one input per thread), distinct model
    characters (true of `allSpecs`; the mark group has its own id), connect-time values only on
    single channels (`initSingle_allSpecs`). -/
theorem emu_init (threads : List (Int × Int × Nat)) (cpus : List (Nat × Int × Bool)) (enabled : List Nat)
    (lint : Bool) (extra : List ModelSpec) {b0 : Bay}
    (hc : (mkEmu threads cpus enabled lint extra).shape.connect = .ok b0)
    (hnt : 0 < threads.length)
    (hchars : ((allSpecs.filter (fun s => enabled.contains s.char) ++ extra).map (·.char)).Nodup)
    (hinit : InitSingle (allSpecs.filter (fun s => enabled.contains s.char) ++ extra)) :
    Shaped (mkEmu threads cpus enabled lint extra) ∧
    ∃ b1 bI em, Bay.Writes (· < (mkEmu threads cpus enabled lint extra).shape.L) b0 b1 ∧
      b1.propagate = .ok (bI, em) ∧ Inv b0 (mkEmu threads cpus enabled lint extra) bI :=
  Inv.init threads cpus enabled lint extra hc hnt hchars hinit

/-- At every instant: after ANY list of events the reference emulator accepts, the bay reached by
    replaying the handlers' writes and propagating after each event satisfies `Inv` with the
    emulator state.  The bay history is a `Rounds` over source channels, the premise of
    `topology_thread_rows` / `topology_cpu_rows`. -/
theorem emu_history {th mh : Emu → Nat → Nat → Nat → List Nat → Except Err Emu} (hth : HookSim th)
    (hmh : HookSim mh) (evs : List Ev) : ∀ {e eF : Emu} {b0 b : Bay} {rs : List PrvRec},
    e.shape.connect = .ok b0 → Shaped e → Inv b0 e b → replay th mh e evs = .ok (eF, rs) →
    ∃ bF, Rounds (· < e.shape.L) b bF ∧ Shaped eF ∧ eF.shape = e.shape ∧ Inv b0 eF bF := by
  intro e eF b0 b rs hc hs hi h
  obtain ⟨hsF, hshF, bF, hr, hiF⟩ := replay_invariant hth hmh (e0 := e)
    (fun _ e' => ∃ bF, Rounds (· < e.shape.L) b bF ∧ Inv b0 e' bF) (by
      rintro _ e' e1 _ _ _ _ _ _ hs' hsh' ⟨bF, hr, hi'⟩ hme _
      obtain ⟨b1, _, b2, em, E⟩ := hi'.event (hsh' ▸ hc) hs' (Sim.modelEvent hth hmh hme)
      exact ⟨b2, .round hr (hsh' ▸ E.writesL) E.prop, E.inv⟩) evs (n := 0) hs rfl ⟨b, .nil b, hi⟩ h
  exact ⟨bF, hr, hsF, hshF, hiF⟩

/-- The same from the initial state: connect, connect-time writes and first propagation
    (`emu_init`), then any accepted history. -/
theorem emu_run {th mh : Emu → Nat → Nat → Nat → List Nat → Except Err Emu} (hth : HookSim th)
    (hmh : HookSim mh) (threads : List (Int × Int × Nat)) (cpus : List (Nat × Int × Bool))
    (enabled : List Nat) (lint : Bool) (extra : List ModelSpec) {b0 : Bay} (evs : List Ev) {eF : Emu}
    {rs : List PrvRec}
    (hc : (mkEmu threads cpus enabled lint extra).shape.connect = .ok b0)
    (hnt : 0 < threads.length)
    (hchars : ((allSpecs.filter (fun s => enabled.contains s.char) ++ extra).map (·.char)).Nodup)
    (hinit : InitSingle (allSpecs.filter (fun s => enabled.contains s.char) ++ extra))
    (h : replay th mh (mkEmu threads cpus enabled lint extra) evs = .ok (eF, rs)) :
    ∃ bF, Rounds (· < (mkEmu threads cpus enabled lint extra).shape.L) b0 bF ∧ Shaped eF ∧
      eF.shape = (mkEmu threads cpus enabled lint extra).shape ∧ Inv b0 eF bF := by
  obtain ⟨hs, b1, bI, em, hw, hp, hi⟩ := emu_init threads cpus enabled lint extra hc hnt hchars hinit
  obtain ⟨bF, hr, hsF, hshF, hiF⟩ := emu_history hth hmh evs hc hs hi h
  exact ⟨bF, (Rounds.round (.nil b0) hw hp).trans hr, hsF, hshF, hiF⟩

/-- The hooks in use: the task layer is outside `Emu/Core` (`Drivers/Emu.lean: noHook`), the mark
    events are one push / pop / set. -/
theorem hooks_in_use (tab : List MarkType) :
    HookSim (fun _ _ _ _ _ => .error .unknownEvent) ∧ HookSim (fun e ti _ v p => markEvent tab e ti v p) :=
  ⟨hookSim_none, hookSim_mark tab⟩

/-- ANY, RUN, ACT: the three cases of `track_th_input_chan`. -/
theorem generated_thread_modes :
    ∀ s ∈ allSpecs, ∀ x ∈ s.thTrack, x = trackAny ∨ x = trackRun ∨ x = trackAct := by decide

/-- `connect_cpu` rejects any mode but RUN. -/
theorem generated_cpu_modes : ∀ s ∈ allSpecs, ∀ x ∈ s.cpuTrack, x = trackRun := by decide

theorem bayOf_connects {e : Emu} (hmo : e.shape.ModesOk) : e.shape.connect = .ok (bayOf e) := by
  obtain ⟨b0, h⟩ := e.shape.connect_total hmo
  rw [bayOf_eq h]; exact h

theorem mem_markExtra {tab : List MarkType} {m : ModelSpec} (h : m ∈ markExtra tab) : m = markSpec tab := by
  unfold markExtra at h
  split at h
  · cases h
  · exact List.mem_singleton.mp h

theorem mem_driver_specs {enabled : List Nat} {tab : List MarkType} {m : ModelSpec}
    (hm : m ∈ allSpecs.filter (fun s => enabled.contains s.char) ++ markExtra tab) :
    m ∈ allSpecs ∨ m = markSpec tab :=
  (List.mem_append.mp hm).imp (fun h => (List.mem_filter.mp h).1) mem_markExtra

/-- The three side conditions of `emu_init`, for any enabled set of models and any mark table. -/
theorem driver_side_conditions (enabled : List Nat) (tab : List MarkType) :
    let specs := allSpecs.filter (fun s => enabled.contains s.char) ++ markExtra tab
    (∀ m ∈ specs, ∀ i : Nat,
      (m.thTrack.getD i 0 = trackAny ∨ m.thTrack.getD i 0 = trackRun ∨ m.thTrack.getD i 0 = trackAct) ∧
      m.cpuTrack.getD i trackRun = trackRun) ∧
    (specs.map (·.char)).Nodup ∧ InitSingle specs := by
  intro specs
  refine ⟨?_, ?_, ?_⟩
  · refine Shape.modesOk_of_lists (σ := ⟨0, 0, specs⟩) (fun m hm x hx => ?_) (fun m hm x hx => ?_)
    · rcases mem_driver_specs hm with h | rfl
      · exact generated_thread_modes m h x hx
      · simp only [markSpec, List.mem_map] at hx
        obtain ⟨_, _, rfl⟩ := hx; exact Or.inr (Or.inr rfl)
    · rcases mem_driver_specs hm with h | rfl
      · exact generated_cpu_modes m h x hx
      · simp only [markSpec, List.mem_map] at hx
        obtain ⟨_, _, rfl⟩ := hx; rfl
  · show ((allSpecs.filter (fun s => enabled.contains s.char) ++ markExtra tab).map (·.char)).Nodup
    rw [List.map_append, List.nodup_append]
    refine ⟨(List.filter_sublist.map _).nodup (by decide), ?_, ?_⟩
    · unfold markExtra; split <;> simp
    · intro a ha b hb
      obtain ⟨m, hm, rfl⟩ := List.mem_map.mp ha
      obtain ⟨m', hm', rfl⟩ := List.mem_map.mp hb
      have h1 : ∀ s ∈ allSpecs, s.char ≠ markGroup := by decide
      rw [mem_markExtra hm']
      exact h1 m (List.mem_filter.mp hm).1
  · intro m hm i v hv
    rcases List.mem_append.mp hm with h | h
    · exact initSingle_allSpecs enabled m h i v hv
    · rw [mem_markExtra h] at hv
      simp [ModelSpec.initOf, markSpec] at hv

/-- The emulator as it is run (`Drivers/Emu.lean`: any thread and CPU lists with at least one
    thread, any set of enabled models, any mark table; hooks: no task layer, `markEvent`), from
    `emu_connect` on.  No other hypothesis: the connected bay exists, and after ANY accepted
    history the bay reached by replaying the handlers' writes and propagating satisfies `Inv` —
    so every row is `thView` / `cpuView` (`emu_thread_rows`, `emu_cpu_rows`). -/
theorem emu_run_driver (threads : List (Int × Int × Nat)) (cpus : List (Nat × Int × Bool))
    (enabled : List Nat) (lint : Bool) (tab : List MarkType) (evs : List Ev) {eF : Emu} {rs : List PrvRec}
    (hnt : 0 < threads.length)
    (h : replay (fun _ _ _ _ _ => .error .unknownEvent) (fun e ti _ v p => markEvent tab e ti v p)
      (mkEmu threads cpus enabled lint (markExtra tab)) evs = .ok (eF, rs)) :
    ∃ b0 bF, (mkEmu threads cpus enabled lint (markExtra tab)).shape.connect = .ok b0 ∧
      Rounds (· < (mkEmu threads cpus enabled lint (markExtra tab)).shape.L) b0 bF ∧ Shaped eF ∧
      eF.shape = (mkEmu threads cpus enabled lint (markExtra tab)).shape ∧ Inv b0 eF bF := by
  obtain ⟨hmo, hchars, hinit⟩ := driver_side_conditions enabled tab
  have hc := bayOf_connects (e := mkEmu threads cpus enabled lint (markExtra tab)) hmo
  obtain ⟨bF, hr⟩ := emu_run hookSim_none (hookSim_mark tab) threads cpus enabled lint (markExtra tab) evs hc
    hnt hchars hinit h
  exact ⟨_, bF, hc, hr⟩

/-! The emit phase.  Model: `Emu/Emit.lean` (`prv_register` = `prvRegister`, `emit` = `emitOne`,
`Bay.propagateP` = `bay_propagate` with the emit callbacks); the table of registrations is
`Shape.regs` (`Lemmas/EmitEmu.lean`).  `lvs` = the
`last_value`s of the registrations, `tvs` = what every Paraver row shows (value
of its last line, 0 before the first).  `EmitInv regs lvs tvs b`: both are
consistent with the values of the registered channels in `b`.  `fresh c`: the
`th_running` channel of CPU `c` has not been written since `emu_connect`;
`cpuViewC fresh …` is `cpuView`, except that a fresh CPU shows null on a channel
with a mux default (`FreshInv`: those tracks are still virgin, every other mux is
in sync).  `viewRecordsC old new fo fn` = the model rows of `records` with
`cpuViewC`; `viewRecords` = `viewRecordsC` without fresh CPUs
(`viewRecordsC_false`); `records` = `sysRecords` + `viewRecords`
(`records_split`). -/

/-- A fresh CPU stays fresh while the handlers do not write its `th_running`. -/
def freshE (fresh : Nat → Bool) (e' : Emu) : Nat → Bool :=
  fun c => fresh c && !(match e'.cpus[c]? with
    | some x => x.chThrun.dirty
    | none => false)

/-- `emu_thread_rows` / `emu_cpu_rows` without the exception: with the ghost `fresh` (`FreshInv`)
    every CPU track shows `cpuViewC (fresh c)`.  A CPU whose `th_running` was never written has no
    running thread, so `cpuView` shows the mux default there (`dflt`). -/
theorem rows_ofInv {e : Emu} {b0 b : Bay} {fresh : Nat → Bool} (hc : e.shape.connect = .ok b0)
    (hs : Shaped e) (hi : Inv b0 e b) (hf : FreshInv e.shape b fresh) : Rows e.shape e b fresh where
  th _ _ _ _ _ ht hk hil := emu_thread_rows hc hs hi ht hk hil
  cpu c k i x m hx hk hil := by
    have hcl : c < e.shape.nC := (List.getElem?_eq_some_iff.mp hx).1
    obtain ⟨mi, hm⟩ := emu_cpu_track hc hi hcl hk hil
    obtain ⟨hvir, hsy⟩ := hf mi _ hm
    unfold cpuViewC
    split
    · next h => exact (hvir ⟨h.2, c, hcl, rfl, h.1⟩).2.1
    · next h =>
      refine emu_cpu_view hs hi hx hk hil (hsy ?_)
      rintro ⟨hd, c', hcl', hsel', hfc⟩
      cases e.shape.idx_inj ((e.shape.mem_run c').mpr hcl') ((e.shape.mem_run c).mpr hcl) hsel'.symm
      exact h ⟨hfc, hd⟩
  dflt c k i x m hx hk hil hfc hd := by
    have hcl : c < e.shape.nC := (List.getElem?_eq_some_iff.mp hx).1
    obtain ⟨mi, hm⟩ := emu_cpu_track hc hi hcl hk hil
    have hnull := ((hf mi _ hm).1 ⟨hd, c, hcl, rfl, hfc⟩).1
    rw [hi.mirrors.chan_run hx] at hnull
    unfold cpuView cpuSelected
    rw [hnull]; rfl

theorem rows_of_flushAll {σ : Shape} {e : Emu} {b : Bay} {fresh : Nat → Bool} (r : Rows σ e.flushAll b fresh) :
    Rows σ e b fresh where
  th g k i t ms ht hk hil := by
    obtain ⟨tF, htF, hv⟩ := flushAll_thread ht
    rw [r.th g k i tF ms htF hk hil, hv]
  cpu c k i x ms hx hk hil := by
    obtain ⟨xF, hxF, _, hv⟩ := flushAll_cpu hx
    rw [r.cpu c k i xF ms hxF hk hil, cpuViewC, hv]; rfl
  dflt c k i x ms hx hk hil hfc hd := by
    obtain ⟨xF, hxF, _, hv⟩ := flushAll_cpu hx
    rw [← r.dflt c k i xF ms hxF hk hil hfc hd, hv]

/-- On a bay that mirrors `e'`, `freshE` is `Shape.freshStep`: the dirty flag of
    `th_running` is read off the emulator's channel. -/
theorem freshInv_freshE {e e' : Emu} {b1 bF : Bay} {fresh : Nat → Bool} (hshape : e'.shape = e.shape)
    (hm1 : Mirrors e' b1) (hf : FreshInv e.shape bF (e.shape.freshStep fresh b1)) :
    FreshInv e.shape bF (freshE fresh e') := by
  refine hf.congr fun c hcl => ?_
  have hlen : e'.cpus.length = e.cpus.length := congrArg Shape.nC hshape
  have hcl' : c < e'.cpus.length := hlen ▸ hcl
  have hx' : e'.cpus[c]? = some e'.cpus[c] := List.getElem?_eq_getElem hcl'
  have := hm1.chan_run hx'
  rw [hshape] at this
  simp only [Shape.freshStep, freshE, this, hx']

/-- The part of `emit_step` that does not depend on the flags of the registrations: `Bay.viewRecs`
    on `Shape.regs` IS `viewRecordsC`. -/
theorem emit_step_frame {e e' : Emu} {b0 b : Bay} {fresh : Nat → Bool}
    (hc : e.shape.connect = .ok b0) (hs : Shaped e) (hi : Inv b0 e b) (hf : FreshInv e.shape b fresh)
    (hsim : Sim e e') :
    ∃ b1 bF em, Bay.Writes (· < e.shape.L) b b1 ∧ Mirrors e' b1 ∧ b1.propagate = .ok (bF, em) ∧
      Shaped e'.flushAll ∧ e'.flushAll.shape = e.shape ∧ Inv b0 e'.flushAll bF ∧
      FreshInv e.shape bF (freshE fresh e') ∧
      b.viewRecs e.shape.regs bF = viewRecordsC e e' fresh (freshE fresh e') ∧
      (CpuDfltOk e.specs → ∀ v, viewRecords e e' = .ok v →
        ∃ vr, viewRecordsC e e' fresh (freshE fresh e') = .ok vr) ∧
      (∀ vr, viewRecordsC e e' fresh (freshE fresh e') = .ok vr → ∃ v, viewRecords e e' = .ok v) := by
  obtain ⟨b1, _, bF, em, E⟩ := hi.event hc hs hsim
  have hshF := E.shapeF
  have hfF : FreshInv e.shape bF (freshE fresh e') :=
    freshInv_freshE E.shape E.mirrors (hf.step E)
  have rO : Rows e.shape e b fresh := rows_ofInv hc hs hi hf
  have rN : Rows e.shape e' bF (freshE fresh e') :=
    rows_of_flushAll (hshF ▸ rows_ofInv (hshF ▸ hc) E.shapedF E.inv (hshF.symm ▸ hfF))
  refine ⟨b1, bF, em, E.writesL, E.mirrors, E.prop, E.shapedF, hshF, E.inv, hfF,
    viewRecs_eq_viewRecordsC E.shaped E.shape rO rN,
    fun hd v hv => viewRecordsC_ok E.shaped E.shape rO hd hv,
    fun vr hvr => viewRecords_ok_of_C E.shaped E.shape (fun c hfc => ?_) rO rN hvr⟩
  unfold freshE at hfc
  exact (Bool.and_eq_true _ _ ▸ hfc).1

/-- Any simulated step `e → e'` (`Sim`: an event's handlers, or the connect-time writes).  Besides
    the bay step of `emu_event` and `FreshInv` for `freshE fresh e'`: `bay_propagate` WITH the PRV
    callbacks (`Bay.propagateP`) fails iff `viewRecordsC e e'` fails, and only with "forbidden
    value 0"; otherwise it ends in the same `bF`, and its lines `L` (dirty-list order) are a
    permutation of a list `Lr` (row order of `records`) whose *effective* lines — those that
    change what their row shows — are exactly `viewRecordsC e e'`.  The other lines of `L` repeat
    the value their row already shows (first emission of a null, `PRV_EMITDUP`, non-null
    `PRV_SKIPDUPNULL` duplicates).  `EmitInv` holds again with the rows updated by `L`, and
    `viewRecordsC e e'` succeeds iff `viewRecords e e'` (the model part of `records`) does (⇐ when
    the mux defaults are legal Paraver values). -/
theorem emit_step {e e' : Emu} {b0 b : Bay} {fresh : Nat → Bool} {lvs : List (Option Value)} {tvs : List Int}
    (hc : e.shape.connect = .ok b0) (hs : Shaped e) (hi : Inv b0 e b) (hf : FreshInv e.shape b fresh)
    (hE : EmitInv e.shape.regs lvs tvs b) (hfl : SpecFlagsOk e.specs) (hsim : Sim e e') :
    ∃ b1 bF em, Bay.Writes (· < e.shape.L) b b1 ∧ Mirrors e' b1 ∧ b1.propagate = .ok (bF, em) ∧
      Shaped e'.flushAll ∧ e'.flushAll.shape = e.shape ∧ Inv b0 e'.flushAll bF ∧
      FreshInv e.shape bF (freshE fresh e') ∧
      ((∃ x, viewRecordsC e e' fresh (freshE fresh e') = .error x) ↔
        (∃ y, b1.propagateP e.shape.regs lvs = .error y)) ∧
      (∀ y, b1.propagateP e.shape.regs lvs = .error y → y = .prvZero) ∧
      (∀ vr, viewRecordsC e e' fresh (freshE fresh e') = .ok vr →
        ∃ lvs' L Lr, b1.propagateP e.shape.regs lvs = .ok (bF, lvs', L) ∧ L.Perm Lr ∧
          vr = (Lr.filter (effective tvs)).map (·.2) ∧ EmitInv e.shape.regs lvs' (tvStep tvs L) bF) ∧
      (CpuDfltOk e.specs → ∀ v, viewRecords e e' = .ok v →
        ∃ vr, viewRecordsC e e' fresh (freshE fresh e') = .ok vr) ∧
      (∀ vr, viewRecordsC e e' fresh (freshE fresh e') = .ok vr → ∃ v, viewRecords e e' = .ok v) := by
  obtain ⟨b1, bF, em, hw, hm1, hp, hsF, hshF, hinv, hfF, heq, h4, h5⟩ := emit_step_frame hc hs hi hf hsim
  obtain ⟨h1, h2, h3⟩ := Bay.emit_step hi.wf hw hp hE (Shape.regs_flags hfl)
  rw [heq] at h1 h3
  exact ⟨b1, bF, em, hw, hm1, hp, hsF, hshF, hinv, hfF, h1, h2, h3, h4, h5⟩

/-! `PRV_ZERO` registrations (`Lemmas/EmitZero.lean`).  `Bay.emit_step_zero`: `Bay.emit_step` for ANY
registrations with a duplicate policy, `PRV_ZERO` allowed (the breakdown output channels are
registered with `PRV_SKIPDUP | PRV_ZERO`).  With `PRV_ZERO` null and 0 both show as 0, so a changed
channel value need not change the row: `emitView` (on values) and `emit` then both write a line
that repeats the row, and the statement compares the EFFECTIVE lines of the two sides. -/

theorem emit_step_zero {ok : Nat → Prop} {b b1 bF : Bay} {em : List (Nat × Value)} {regs : List PrvReg}
    {lvs : List (Option Value)} {tvs : List Int}
    (wf : b.WF) (hw : Bay.Writes ok b b1) (hp : b1.propagate = .ok (bF, em))
    (hinv : EmitInv regs lvs tvs b) (hfl : ∀ r ∈ regs, DupOk r.flags) :
    ((∃ x, b.viewRecs regs bF = .error x) ↔ (∃ y, b1.propagateP regs lvs = .error y)) ∧
    (∀ y, b1.propagateP regs lvs = .error y → y = .prvZero) ∧
    (∀ vr, b.viewRecs regs bF = .ok vr → ∃ lvs' L Lr, b1.propagateP regs lvs = .ok (bF, lvs', L) ∧
      L.Perm Lr ∧ vr = (b.viewLinesT regs bF).map (·.2) ∧
      (b.viewLinesT regs bF).filter (effective tvs) = Lr.filter (effective tvs) ∧
      EmitInv regs lvs' (tvStep tvs L) bF) :=
  Bay.emit_step_zero wf hw hp hinv hfl

/-- Without `PRV_ZERO` every view line is effective: the statement of `Bay.emit_step`. -/
theorem emit_step_zero_noZero {b bF : Bay} {regs : List PrvReg} {lvs : List (Option Value)} {tvs : List Int}
    (hinv : EmitInv regs lvs tvs b) (hz : ∀ r ∈ regs, NoZero r.flags) :
    (b.viewLinesT regs bF).filter (effective tvs) = b.viewLinesT regs bF :=
  Bay.viewLinesT_effective_of_noZero hinv hz

def SpecDupOk (specs : List ModelSpec) : Prop :=
  ∀ m ∈ specs, ∀ i, i < m.nch → DupOk (m.prvFlags.getD i 0)

theorem SpecFlagsOk.dup {specs : List ModelSpec} (h : SpecFlagsOk specs) : SpecDupOk specs :=
  fun m hm i hi => (h m hm i hi).1

theorem regs_dup {σ : Shape} (h : SpecDupOk σ.specs) : ∀ r ∈ σ.regs, DupOk r.flags := by
  intro r hr
  obtain ⟨m, hm, i, hi, hf⟩ := σ.regs_spec hr
  exact hf ▸ h m hm i hi

/-- `emit_step` for specs whose channels only need a duplicate policy (`SpecDupOk`, `PRV_ZERO`
    allowed): `viewRecordsC` and the lines the PRV callbacks write have the same EFFECTIVE lines. -/
theorem emit_step_zero_emu {e e' : Emu} {b0 b : Bay} {fresh : Nat → Bool} {lvs : List (Option Value)}
    {tvs : List Int}
    (hc : e.shape.connect = .ok b0) (hs : Shaped e) (hi : Inv b0 e b) (hf : FreshInv e.shape b fresh)
    (hE : EmitInv e.shape.regs lvs tvs b) (hfl : SpecDupOk e.specs) (hsim : Sim e e') :
    ∃ b1 bF em, Bay.Writes (· < e.shape.L) b b1 ∧ Mirrors e' b1 ∧ b1.propagate = .ok (bF, em) ∧
      Shaped e'.flushAll ∧ e'.flushAll.shape = e.shape ∧ Inv b0 e'.flushAll bF ∧
      FreshInv e.shape bF (freshE fresh e') ∧
      ((∃ x, viewRecordsC e e' fresh (freshE fresh e') = .error x) ↔
        (∃ y, b1.propagateP e.shape.regs lvs = .error y)) ∧
      (∀ y, b1.propagateP e.shape.regs lvs = .error y → y = .prvZero) ∧
      (∀ vr, viewRecordsC e e' fresh (freshE fresh e') = .ok vr →
        ∃ lvs' L Lr, b1.propagateP e.shape.regs lvs = .ok (bF, lvs', L) ∧ L.Perm Lr ∧
          vr = (b.viewLinesT e.shape.regs bF).map (·.2) ∧
          (b.viewLinesT e.shape.regs bF).filter (effective tvs) = Lr.filter (effective tvs) ∧
          EmitInv e.shape.regs lvs' (tvStep tvs L) bF) := by
  obtain ⟨b1, bF, em, hw, hm1, hp, hsF, hshF, hinv, hfF, heq, _, _⟩ := emit_step_frame hc hs hi hf hsim
  obtain ⟨h1, h2, h3⟩ := Bay.emit_step_zero hi.wf hw hp hE (regs_dup hfl)
  rw [heq] at h1 h3
  exact ⟨b1, bF, em, hw, hm1, hp, hsF, hshF, hinv, hfF, h1, h2, h3⟩

/-- `emit_step` for the handlers of one accepted event: what `bay_propagate`'s emit callbacks
    write, on top of the row values of `emu_event`. -/
theorem emu_event_emit {e e' : Emu} {b0 b : Bay} {ti mc c v : Nat} {p : List Nat}
    {th mh : Emu → Nat → Nat → Nat → List Nat → Except Err Emu} (hth : HookSim th) (hmh : HookSim mh)
    {fresh : Nat → Bool} {lvs : List (Option Value)} {tvs : List Int}
    (hc : e.shape.connect = .ok b0) (hs : Shaped e) (hi : Inv b0 e b) (hf : FreshInv e.shape b fresh)
    (hE : EmitInv e.shape.regs lvs tvs b) (hfl : SpecFlagsOk e.specs)
    (h : modelEvent e ti mc c v p th mh = .ok e') :
    ∃ b1 bF em, Bay.Writes (· < e.shape.L) b b1 ∧ Mirrors e' b1 ∧ b1.propagate = .ok (bF, em) ∧
      Shaped e'.flushAll ∧ e'.flushAll.shape = e.shape ∧ Inv b0 e'.flushAll bF ∧
      FreshInv e.shape bF (freshE fresh e') ∧
      ((∃ x, viewRecordsC e e' fresh (freshE fresh e') = .error x) ↔
        (∃ y, b1.propagateP e.shape.regs lvs = .error y)) ∧
      (∀ y, b1.propagateP e.shape.regs lvs = .error y → y = .prvZero) ∧
      (∀ vr, viewRecordsC e e' fresh (freshE fresh e') = .ok vr →
        ∃ lvs' L Lr, b1.propagateP e.shape.regs lvs = .ok (bF, lvs', L) ∧ L.Perm Lr ∧
          vr = (Lr.filter (effective tvs)).map (·.2) ∧ EmitInv e.shape.regs lvs' (tvStep tvs L) bF) ∧
      (CpuDfltOk e.specs → ∀ v, viewRecords e e' = .ok v →
        ∃ vr, viewRecordsC e e' fresh (freshE fresh e') = .ok vr) ∧
      (∀ vr, viewRecordsC e e' fresh (freshE fresh e') = .ok vr → ∃ v, viewRecords e e' = .ok v) :=
  emit_step hc hs hi hf hE hfl (Sim.modelEvent hth hmh h)

/-- `records e e'` fails — always with "forbidden value 0" — exactly when a system row fails
    (`sysRecords`, emitted from the emulator's own channels) or `bay_propagate`'s emit phase
    fails. -/
theorem emu_event_fail_iff {e e' : Emu} {b0 b : Bay} {ti mc c v : Nat} {p : List Nat}
    {th mh : Emu → Nat → Nat → Nat → List Nat → Except Err Emu} (hth : HookSim th) (hmh : HookSim mh)
    {fresh : Nat → Bool} {lvs : List (Option Value)} {tvs : List Int}
    (hc : e.shape.connect = .ok b0) (hs : Shaped e) (hi : Inv b0 e b) (hf : FreshInv e.shape b fresh)
    (hE : EmitInv e.shape.regs lvs tvs b) (hfl : SpecFlagsOk e.specs) (hd : CpuDfltOk e.specs)
    (h : modelEvent e ti mc c v p th mh = .ok e') :
    ∃ b1, Bay.Writes (· < e.shape.L) b b1 ∧ Mirrors e' b1 ∧
      ((∃ x, records e e' = .error x) ↔
        ((∃ x, sysRecords e' = .error x) ∨ (∃ y, b1.propagateP e.shape.regs lvs = .error y))) ∧
      (∀ x, records e e' = .error x → x = .prvZero) ∧
      (∀ y, b1.propagateP e.shape.regs lvs = .error y → y = .prvZero) := by
  obtain ⟨b1, _, _, hw, hm1, _, _, _, _, _, h1, h2, _, h4, h5⟩ := emu_event_emit hth hmh hc hs hi hf hE hfl h
  refine ⟨b1, hw, hm1, ?_, fun x hx => records_error hx, h2⟩
  rw [(records_split e e').2.2, ← h1]
  have : (∃ x, viewRecords e e' = .error x) ↔ (∃ x, viewRecordsC e e' fresh (freshE fresh e') = .error x) := by
    rw [error_iff_not_ok, error_iff_not_ok]
    constructor
    · rintro hn ⟨vr, hvr⟩; exact hn (h5 vr hvr)
    · rintro hn ⟨v, hv⟩; exact hn (h4 hd v hv)
  rw [this]

/-- One accepted step (`stepEv`: handlers, `records`, flush).  The bay step with the PRV callbacks
    succeeds; its lines `L` are a permutation of `Lr` (row order) whose effective lines are
    `viewRecordsC e e1`; and when no CPU of the hierarchy is fresh any more (e.g. once every CPU
    has run a thread) the records `rs` of the step are a permutation of the system-row records
    followed by those effective lines.  With fresh CPUs the two differ only on their CPU rows with
    a mux default (`cpuViewC`). -/
theorem emu_step_records {e e2 : Emu} {b0 b : Bay} {ti mc c v : Nat} {p : List Nat} {rs : List PrvRec}
    {th mh : Emu → Nat → Nat → Nat → List Nat → Except Err Emu} (hth : HookSim th) (hmh : HookSim mh)
    {fresh : Nat → Bool} {lvs : List (Option Value)} {tvs : List Int}
    (hc : e.shape.connect = .ok b0) (hs : Shaped e) (hi : Inv b0 e b) (hf : FreshInv e.shape b fresh)
    (hE : EmitInv e.shape.regs lvs tvs b) (hfl : SpecFlagsOk e.specs) (hd : CpuDfltOk e.specs)
    (h : stepEv e ti mc c v p th mh = .ok (e2, rs)) :
    ∃ e1 b1 bF lvs' L Lr s vr, modelEvent e ti mc c v p th mh = .ok e1 ∧ e2 = e1.flushAll ∧
      Bay.Writes (· < e.shape.L) b b1 ∧ b1.propagateP e.shape.regs lvs = .ok (bF, lvs', L) ∧
      Shaped e2 ∧ e2.shape = e.shape ∧
      Inv b0 e2 bF ∧ FreshInv e.shape bF (freshE fresh e1) ∧ EmitInv e.shape.regs lvs' (tvStep tvs L) bF ∧
      sysRecords e1 = .ok s ∧ viewRecordsC e e1 fresh (freshE fresh e1) = .ok vr ∧
      L.Perm Lr ∧ vr = (Lr.filter (effective tvs)).map (·.2) ∧
      ((∀ cg, cg < e.cpus.length → fresh cg = false) → rs.Perm (s ++ vr)) := by
  obtain ⟨e1, hme, hrec, rfl⟩ := stepEv_ok h
  obtain ⟨s, v, hsys, hv, hperm⟩ := (records_split e e1).1 _ hrec
  obtain ⟨b1, bF, _, hw, _, _, hsF, hshF, hinv, hfF, _, _, h3, h4, _⟩ :=
    emu_event_emit hth hmh hc hs hi hf hE hfl hme
  obtain ⟨vr, hvr⟩ := h4 hd v hv
  obtain ⟨lvs', L, Lr, hpp, hLr, hvrL, hE'⟩ := h3 vr hvr
  refine ⟨e1, b1, bF, lvs', L, Lr, s, vr, hme, rfl, hw, hpp, hsF, hshF, hinv, hfF, hE', hsys, hvr, hLr, hvrL, ?_⟩
  intro hnf
  obtain ⟨hs1, hsh1, _⟩ := (Sim.modelEvent hth hmh hme) hs
  have hlen : e1.cpus.length = e.cpus.length := congrArg Shape.nC hsh1
  have hz : ∀ c ∈ e1.cpus, fresh c.gindex = false := fun c hc =>
    hnf _ (hlen ▸ (List.getElem?_eq_some_iff.mp (hs1.cpu_at hc)).1)
  have : viewRecordsC e e1 fresh (freshE fresh e1) = viewRecords e e1 :=
    viewRecordsC_of_settled hz fun c hc => by unfold freshE; rw [hz c hc]; rfl
  rw [this, hv] at hvr
  injection hvr with hvr
  rw [← hvr]; exact hperm

/-- `emu_init` with the emit phase: the PRV registrations (`Shape.regs`, no `last_value` set,
    every row shows 0), and the first `bay_propagate` with the PRV callbacks, which does not fail
    when the connect-time values are legal Paraver values (`InitPrvOk`).  Establishes `Inv`,
    `FreshInv` (every CPU fresh) and `EmitInv`. -/
theorem emu_init_emit (threads : List (Int × Int × Nat)) (cpus : List (Nat × Int × Bool)) (enabled : List Nat)
    (lint : Bool) (extra : List ModelSpec) {b0 : Bay}
    (hc : (mkEmu threads cpus enabled lint extra).shape.connect = .ok b0)
    (hnt : 0 < threads.length)
    (hchars : ((allSpecs.filter (fun s => enabled.contains s.char) ++ extra).map (·.char)).Nodup)
    (hinit : InitSingle (allSpecs.filter (fun s => enabled.contains s.char) ++ extra))
    (hfl : SpecFlagsOk (allSpecs.filter (fun s => enabled.contains s.char) ++ extra))
    (hiv : InitPrvOk (allSpecs.filter (fun s => enabled.contains s.char) ++ extra)) :
    Shaped (mkEmu threads cpus enabled lint extra) ∧
    ∃ b1 bI lvs tvs L, Bay.Writes (· < (mkEmu threads cpus enabled lint extra).shape.L) b0 b1 ∧
      b1.propagateP (mkEmu threads cpus enabled lint extra).shape.regs
        (List.replicate (mkEmu threads cpus enabled lint extra).shape.regs.length none) = .ok (bI, lvs, L) ∧
      Inv b0 (mkEmu threads cpus enabled lint extra) bI ∧
      FreshInv (mkEmu threads cpus enabled lint extra).shape bI (fun _ => true) ∧
      EmitInv (mkEmu threads cpus enabled lint extra).shape.regs lvs tvs bI := by
  obtain ⟨hshape, hs0, hi0, hsim, hflush⟩ := Inv.pre_init threads cpus enabled lint extra hc hnt hchars hinit
  rw [← hshape] at hc ⊢
  have hb := Shape.connect_built hc
  obtain ⟨b1, bF, em, hw, _, _, hsF, _, hinv, hfF, _, _, h3, _, _⟩ :=
    emit_step hc hs0 hi0 (FreshInv.connected hc rfl) (EmitInv.ofNull _ hb.topo.allNull) hfl hsim
  have hfr : freshE (fun _ => true) (mkEmuWith ModelSpec.dirtyChans threads cpus enabled lint extra) =
      fun _ => true := by
    funext c
    unfold freshE
    cases hx : (mkEmuWith ModelSpec.dirtyChans threads cpus enabled lint extra).cpus[c]? with
    | none => rfl
    | some x => simp only [mkEmuWith_cpu hx]; rfl
  rw [hfr] at h3 hfF
  obtain ⟨vr, hvr⟩ := init_rows_ok threads cpus enabled lint extra
    (mkEmuWith ModelSpec.protoChans threads cpus enabled lint extra) (fun _ => true) hiv hchars
  obtain ⟨lvs', L, _, hpp, _, _, hE⟩ := h3 vr hvr
  rw [hflush] at hsF hinv
  exact ⟨hsF, b1, bF, lvs', _, L, hw, hpp, hinv, hfF, hE⟩

/-- `n` accepted events after the state `e` with bay `b`, `last_value`s `lvs` and rows
    `tvs`: the bay run with the PRV callbacks exists and ends in a bay tied to `e'`. -/
def EmitRun (e : Emu) (b0 b : Bay) (lvs : List (Option Value)) (tvs : List Int) (n : Nat) (e' : Emu) : Prop :=
  ∃ bF lvsF freshF Ls, RoundsP e.shape.regs (· < e.shape.L) (b, lvs) Ls (bF, lvsF) ∧ Ls.length = n ∧
    Shaped e' ∧ e'.shape = e.shape ∧ Inv b0 e' bF ∧ FreshInv e.shape bF freshF ∧
    EmitInv e.shape.regs lvsF (Ls.foldl tvStep tvs) bF

theorem EmitRun.step {th mh : Emu → Nat → Nat → Nat → List Nat → Except Err Emu} (hth : HookSim th)
    (hmh : HookSim mh) {e e' e1 : Emu} {b0 b : Bay} {lvs : List (Option Value)} {tvs : List Int} {n : Nat}
    {ti mc c v : Nat} {p : List Nat} {rs : List PrvRec}
    (hc : e.shape.connect = .ok b0) (hfl : SpecDupOk e.specs) (hd : CpuDfltOk e.specs)
    (hr : EmitRun e b0 b lvs tvs n e') (hme : modelEvent e' ti mc c v p th mh = .ok e1)
    (hrec : records e' e1 = .ok rs) : EmitRun e b0 b lvs tvs (n + 1) e1.flushAll := by
  obtain ⟨bF, lvsF, freshF, Ls, hr, hlen, hs', hsh', hi', hf', hE'⟩ := hr
  have hspecs' : e'.specs = e.specs := congrArg Shape.specs hsh'
  obtain ⟨_, v, _, hv, _⟩ := (records_split e' e1).1 _ hrec
  obtain ⟨b1, b2, _, hw, _, hp, hs2, hsh2, hi2, hf2, heq, h4, _⟩ :=
    emit_step_frame (hsh'.symm ▸ hc) hs' hi' (hsh'.symm ▸ hf') (Sim.modelEvent hth hmh hme)
  obtain ⟨_, _, h3⟩ := Bay.emit_step_zero hi'.wf hw hp (hsh'.symm ▸ hE') (regs_dup (σ := e'.shape) (show SpecDupOk e'.specs from hspecs'.symm ▸ hfl))
  obtain ⟨vr, hvr⟩ := h4 (hspecs'.symm ▸ hd) v hv
  obtain ⟨lvs2, L, _, hpp, _, _, _, hE2⟩ := h3 vr (heq ▸ hvr)
  rw [hsh'] at hw hpp hf2 hE2
  exact ⟨b2, lvs2, _, Ls ++ [L], hr.snoc hw hpp, by simp [hlen], hs2, hsh2.trans hsh', hi2, hf2,
    by simpa [List.foldl_append] using hE2⟩

/-- The emit phase never fails on an accepted history (`records` already refused every forbidden
    0), and `Inv`, `FreshInv`, `EmitInv` hold at the end — so at every instant
    `emu_event_emit` applies (under `SpecFlagsOk`: event by event the effective lines are
    `viewRecordsC`), or `emit_step_zero_emu` when some channel has `PRV_ZERO`. -/
theorem emu_history_emit {th mh : Emu → Nat → Nat → Nat → List Nat → Except Err Emu} (hth : HookSim th)
    (hmh : HookSim mh) (evs : List Ev) {e eF : Emu} {b0 b : Bay} {rs : List PrvRec} {fresh : Nat → Bool}
    {lvs : List (Option Value)} {tvs : List Int}
    (hc : e.shape.connect = .ok b0) (hs : Shaped e) (hi : Inv b0 e b) (hf : FreshInv e.shape b fresh)
    (hE : EmitInv e.shape.regs lvs tvs b) (hfl : SpecDupOk e.specs) (hd : CpuDfltOk e.specs)
    (h : replay th mh e evs = .ok (eF, rs)) :
    EmitRun e b0 b lvs tvs evs.length eF :=
  (replay_invariant hth hmh (EmitRun e b0 b lvs tvs) (fun _ _ hr => hr.step hth hmh hc hfl hd) evs (n := 0) hs rfl
    ⟨b, lvs, fresh, [], .nil _, rfl, hs, rfl, hi, hf, hE⟩ h).2.2

theorem emu_run_emit {th mh : Emu → Nat → Nat → Nat → List Nat → Except Err Emu} (hth : HookSim th)
    (hmh : HookSim mh) (threads : List (Int × Int × Nat)) (cpus : List (Nat × Int × Bool))
    (enabled : List Nat) (lint : Bool) (extra : List ModelSpec) {b0 : Bay} (evs : List Ev) {eF : Emu}
    {rs : List PrvRec}
    (hc : (mkEmu threads cpus enabled lint extra).shape.connect = .ok b0)
    (hnt : 0 < threads.length)
    (hchars : ((allSpecs.filter (fun s => enabled.contains s.char) ++ extra).map (·.char)).Nodup)
    (hinit : InitSingle (allSpecs.filter (fun s => enabled.contains s.char) ++ extra))
    (hfl : SpecFlagsOk (allSpecs.filter (fun s => enabled.contains s.char) ++ extra))
    (hiv : InitPrvOk (allSpecs.filter (fun s => enabled.contains s.char) ++ extra))
    (hd : CpuDfltOk (allSpecs.filter (fun s => enabled.contains s.char) ++ extra))
    (h : replay th mh (mkEmu threads cpus enabled lint extra) evs = .ok (eF, rs)) :
    ∃ b1 bI lvsI tvsI L0, Bay.Writes (· < (mkEmu threads cpus enabled lint extra).shape.L) b0 b1 ∧
      b1.propagateP (mkEmu threads cpus enabled lint extra).shape.regs
        (List.replicate (mkEmu threads cpus enabled lint extra).shape.regs.length none) = .ok (bI, lvsI, L0) ∧
      EmitRun (mkEmu threads cpus enabled lint extra) b0 bI lvsI tvsI evs.length eF := by
  obtain ⟨hs, b1, bI, lvsI, tvsI, L0, hw, hpp, hi, hf, hE⟩ :=
    emu_init_emit threads cpus enabled lint extra hc hnt hchars hinit hfl hiv
  exact ⟨b1, bI, lvsI, tvsI, L0, hw, hpp, emu_history_emit hth hmh evs hc hs hi hf hE (SpecFlagsOk.dup hfl) hd h⟩

/-- `PRV_EMITDUP`, `PRV_SKIPDUP` or `PRV_SKIPDUPNULL` on every channel (a duplicate is never an
    error), `PRV_ZERO` on none. -/
theorem generated_prv_flags :
    ∀ s ∈ allSpecs, ∀ i ∈ List.range s.nch, DupOk (s.prvFlags.getD i 0) ∧ NoZero (s.prvFlags.getD i 0) := by
  decide

/-- The connect-time values and the CPU mux defaults are legal Paraver values. -/
theorem generated_prv_values :
    ∀ s ∈ allSpecs, ∀ i ∈ List.range s.nch,
      prvOk (s.prvFlags.getD i 0) ((s.freshChans.getD i {}).cur) = true ∧
      prvOk (s.prvFlags.getD i 0) (s.cpuDflt i) = true := by
  decide

theorem driver_emit_conditions (enabled : List Nat) (tab : List MarkType) :
    let specs := allSpecs.filter (fun s => enabled.contains s.char) ++ markExtra tab
    SpecFlagsOk specs ∧ InitPrvOk specs ∧ CpuDfltOk specs := by
  intro specs
  have hmark : ∀ i, i < (markSpec tab).nch → (markSpec tab).prvFlags.getD i 0 = prvSkipDupNull := by
    intro i hi
    have hi' : i < tab.length := hi
    simp [markSpec, List.getD_eq_getElem?_getD, List.getElem?_map, List.getElem?_eq_getElem hi']
  have hmf : ∀ i, ((markSpec tab).freshChans.getD i {}).cur = .null := by
    intro i
    simp only [ModelSpec.freshChans, markSpec, List.find?_nil, List.getD_eq_getElem?_getD, List.getElem?_map]
    cases (List.range tab.length)[i]? <;> rfl
  refine ⟨fun m hm i hi => ?_, fun m hm i hi => ?_, fun m hm i hi => ?_⟩
  · rcases mem_driver_specs hm with h | rfl
    · exact generated_prv_flags m h i (List.mem_range.mpr hi)
    · rw [hmark i hi]; decide
  · rcases mem_driver_specs hm with h | rfl
    · exact prvOk_iff.mp (generated_prv_values m h i (List.mem_range.mpr hi)).1
    · rw [hmf]; exact ⟨0, rfl⟩
  · rcases mem_driver_specs hm with h | rfl
    · exact prvOk_iff.mp (generated_prv_values m h i (List.mem_range.mpr hi)).2
    · exact ⟨0, rfl⟩

/-- `emu_init_emit` for the emulator as it is run: `emu_connect` succeeds and every side condition
    holds, whatever the hierarchy (one thread at least), the enabled models and the mark table. -/
theorem emu_init_emit_driver (threads : List (Int × Int × Nat)) (cpus : List (Nat × Int × Bool))
    (enabled : List Nat) (lint : Bool) (tab : List MarkType) (hnt : 0 < threads.length) :
    let e := mkEmu threads cpus enabled lint (markExtra tab)
    e.shape.connect = .ok (bayOf e) ∧ SpecFlagsOk e.specs ∧ CpuDfltOk e.specs ∧ Shaped e ∧
    ∃ bI lvs tvs, Inv (bayOf e) e bI ∧ FreshInv e.shape bI (fun _ => true) ∧ EmitInv e.shape.regs lvs tvs bI := by
  intro e
  obtain ⟨hmo, hchars, hinit⟩ := driver_side_conditions enabled tab
  obtain ⟨hfl, hiv, hd⟩ := driver_emit_conditions enabled tab
  have hc := bayOf_connects (e := e) hmo
  obtain ⟨hs, _, bI, lvs, tvs, _, _, _, hi, hf, hE⟩ :=
    emu_init_emit threads cpus enabled lint (markExtra tab) hc hnt hchars hinit hfl hiv
  exact ⟨hc, hfl, hd, hs, bI, lvs, tvs, hi, hf, hE⟩

/-- `emu_run_driver` with the emit phase.  No other hypothesis: `emu_connect`'s first
    `bay_propagate` and the one after every accepted event succeed INCLUDING their PRV callbacks,
    and `Inv`, `FreshInv`, `EmitInv` hold at the end. -/
theorem emu_run_emit_driver (threads : List (Int × Int × Nat)) (cpus : List (Nat × Int × Bool))
    (enabled : List Nat) (lint : Bool) (tab : List MarkType) (evs : List Ev) {eF : Emu} {rs : List PrvRec}
    (hnt : 0 < threads.length)
    (h : replay (fun _ _ _ _ _ => .error .unknownEvent) (fun e ti _ v p => markEvent tab e ti v p)
      (mkEmu threads cpus enabled lint (markExtra tab)) evs = .ok (eF, rs)) :
    ∃ b0 b1 bI lvsI L0 bF lvsF tvsF freshF Ls,
      (mkEmu threads cpus enabled lint (markExtra tab)).shape.connect = .ok b0 ∧
      Bay.Writes (· < (mkEmu threads cpus enabled lint (markExtra tab)).shape.L) b0 b1 ∧
      b1.propagateP (mkEmu threads cpus enabled lint (markExtra tab)).shape.regs
        (List.replicate (mkEmu threads cpus enabled lint (markExtra tab)).shape.regs.length none) =
          .ok (bI, lvsI, L0) ∧
      RoundsP (mkEmu threads cpus enabled lint (markExtra tab)).shape.regs
        (· < (mkEmu threads cpus enabled lint (markExtra tab)).shape.L) (bI, lvsI) Ls (bF, lvsF) ∧
      Ls.length = evs.length ∧ Shaped eF ∧ Inv b0 eF bF ∧
      FreshInv (mkEmu threads cpus enabled lint (markExtra tab)).shape bF freshF ∧
      EmitInv (mkEmu threads cpus enabled lint (markExtra tab)).shape.regs lvsF tvsF bF := by
  obtain ⟨hmo, hchars, hinit⟩ := driver_side_conditions enabled tab
  obtain ⟨hfl, hiv, hd⟩ := driver_emit_conditions enabled tab
  have hc := bayOf_connects (e := mkEmu threads cpus enabled lint (markExtra tab)) hmo
  obtain ⟨b1, bI, lvsI, _, L0, hw, hpp, bF, lvsF, freshF, Ls, hr, hlen, hsF, _, hF⟩ :=
    emu_run_emit hookSim_none (hookSim_mark tab) threads cpus enabled lint (markExtra tab) evs hc hnt hchars
      hinit hfl hiv hd h
  exact ⟨_, b1, bI, lvsI, L0, bF, lvsF, _, freshF, Ls, hc, hw, hpp, hr, hlen, hsF, hF⟩

/-! The task layer of nOS-V / Nanos6.  `Emu/TaskHook.lean`: `taskHook m P ε ev` = the task / body rules of
`Emu/Task.lean` (`Ovni.Task.Emu.step`, state `ε` of the thread's process, decoded
event `ev`) followed by the channel operations `update_task` performs on the
thread's raw channels, in the order of the C code: subsystem push / pop, then
`chan_set` of body id, task id, type, app id, rank (Nanos6: task id, type,
rank).  `modelEvent` passes a hook the category but not the event value, and
`Emu` has no field for the task state, so the hook is built per event. -/

/-- The task hook performs nothing but channel operations on raw channels of the event's thread
    (`taskHook_simP`: only its task channels). -/
theorem hooks_in_use_task (m : Ovni.Task.Model) (P : Ovni.Task.ProcInfo) (ε : Ovni.Task.Emu)
    (ev : Ovni.Task.Ev) : HookSim (taskHook m P ε ev) :=
  hookSim_task m P ε ev

/-- `emu_event` with the task hook and the mark hook of nOS-V / Nanos6 / ovni: no hook
    hypothesis. -/
theorem emu_event_task {e e' : Emu} {b0 b : Bay} {ti mc c v : Nat} {p : List Nat}
    (tm : Ovni.Task.Model) (P : Ovni.Task.ProcInfo) (ε : Ovni.Task.Emu) (tev : Ovni.Task.Ev) (tab : List MarkType)
    (hc : e.shape.connect = .ok b0) (hs : Shaped e) (hi : Inv b0 e b)
    (h : modelEvent e ti mc c v p (taskHook tm P ε tev) (fun e ti _ v p => markEvent tab e ti v p) = .ok e') :
    ∃ b1 bF em, Bay.Writes (· < e.shape.L) b b1 ∧ Mirrors e' b1 ∧ b1.propagate = .ok (bF, em) ∧
      Shaped e'.flushAll ∧ e'.flushAll.shape = e.shape ∧ Inv b0 e'.flushAll bF ∧
      (∀ (g k i : Nat) (t' : Thread) (ms : ModelSpec), e'.threads[g]? = some t' →
        e.specs[k]? = some ms → i < ms.nch →
        (bF.chan (e.shape.thOut g k i)).cur = thView t' ms i) ∧
      (∀ (cg k i : Nat) (x' : Cpu) (ms : ModelSpec), e'.cpus[cg]? = some x' →
        e.specs[k]? = some ms → i < ms.nch →
        (bF.chan (e.shape.cpuOut cg k i)).cur = cpuView e' x' ms i ∨
        (x'.chThrun.cur = .null ∧ (bF.chan (e.shape.cpuOut cg k i)).cur = .null ∧ ms.cpuDflt i ≠ .null)) :=
  emu_event (hookSim_task tm P ε tev) (hookSim_mark tab) hc hs hi h

/-- `emu_history_emit` for histories with nOS-V / Nanos6 task events, task hook and mark hook: no
    hook hypothesis. -/
theorem emu_history_task (tm : Ovni.Task.Model) (P : Ovni.Task.ProcInfo) (tab : List MarkType) (evs : List EvT)
    {e eF : Emu} {ε εF : Ovni.Task.Emu} {b0 b : Bay} {rs : List PrvRec} {fresh : Nat → Bool}
    {lvs : List (Option Value)} {tvs : List Int}
    (hc : e.shape.connect = .ok b0) (hs : Shaped e) (hi : Inv b0 e b) (hf : FreshInv e.shape b fresh)
    (hE : EmitInv e.shape.regs lvs tvs b) (hfl : SpecDupOk e.specs) (hd : CpuDfltOk e.specs)
    (h : replayT tm P tab e ε evs = .ok (eF, εF, rs)) :
    EmitRun e b0 b lvs tvs evs.length eF :=
  (replayT_invariant (fun n e' _ => EmitRun e b0 b lvs tvs n e') evs
    (fun {_ _ _ ε' evt _} _ _ _ hr => hr.step (hookSim_hookOf tm P ε' evt.2) (hookSim_mark tab) hc hfl hd)
    (n := 0) hs rfl ⟨b, lvs, fresh, [], .nil _, rfl, hs, rfl, hi, hf, hE⟩ h).2.2

/-! The task layer's copy of the task channels IS the thread's channels.  `taskHook` runs the
task / body rules of `Emu/Task.lean` on the task layer's own copy of the task channels
(`Ovni.Task.Emu.ch`, `.ss`) and then performs the channel operations on the thread's real
channels.  `Coupled tm k e ε` (`Lemmas/TaskCouple.lean`): for every thread the real subsystem
channel of the model (position `k` in the spec list) holds exactly the stack `ε.ss`, and the real
body id / task id / type / app id / rank channels hold `ε.ch` — flushed, with the stack /
duplicate properties of `setup.c`.  It holds after `emu_connect` (`coupled_init`) and is
preserved by EVERY accepted event whose decoded form fits it (`coupled_step`, `Consistent`).  The
table rows of the same model that push / pop the SHARED subsystem channel (nOS-V: `VA* VS* VU* VM*
VH*`; Nanos6: every table category but `6H*`, `6P*`) advance the copy by the same push / pop, accepted
by `ssPush` / `ssPop` exactly when `chan_push` / `chan_pop` accept it; every other event (rows on
other channels such as idle and thread type, other models, thread state / affinity / flush /
mark) writes none of these channels. -/

/-- The decoded event of a history entry fits its raw event (`DecodedOk`): a
    task event (category `T` / `Y` of nOS-V / Nanos6) belongs to the model `tm`;
    any other event carries the subsystem push / pop its table row is
    (`ssEvOf`: read off the generated table), or nothing. -/
def Consistent (tm : Ovni.Task.Model) (evt : EvT) : Prop :=
  DecodedOk tm evt.1.1 evt.1.2.1 evt.1.2.2.1 evt.1.2.2.2.1 evt.2

instance (tm : Ovni.Task.Model) (evt : EvT) : Decidable (Consistent tm evt) := by
  unfold Consistent DecodedOk; infer_instance

theorem coupled_step {tm : Ovni.Task.Model} {P : Ovni.Task.ProcInfo} {tab : List MarkType} {ε : Ovni.Task.Emu}
    {e e2 : Emu} {b : Bay} {k : Nat} {evt : EvT} {rs : List PrvRec}
    (hs : Shaped e) (hm : Mirrors e b) (hk : e.specs[k]? = some (specOf tm)) (hcp : Coupled tm k e ε)
    (hd : Consistent tm evt)
    (h : stepEv e evt.1.1 evt.1.2.1 evt.1.2.2.1 evt.1.2.2.2.1 evt.1.2.2.2.2 (hookOf tm P ε evt.2)
      (fun e ti _ v p => markEvent tab e ti v p) = .ok (e2, rs)) :
    Coupled tm k e2 (advanceT tm P ε evt.2) := by
  obtain ⟨e1, hme, _, rfl⟩ := stepEv_ok h
  exact coupled_modelEvent hs hk hcp hd hme

/-- From a coupled state, along every history accepted by `replayT` whose decoded events fit the
    raw ones, the task layer's copy agrees with the thread channels at the end (hence, prefix by
    prefix, at every instant). -/
theorem coupled_history (tm : Ovni.Task.Model) (P : Ovni.Task.ProcInfo) (tab : List MarkType) (evs : List EvT) :
    ∀ {e eF : Emu} {ε εF : Ovni.Task.Emu} {b0 b : Bay} {rs : List PrvRec} {k : Nat},
    e.shape.connect = .ok b0 → Shaped e → Inv b0 e b → e.specs[k]? = some (specOf tm) → Coupled tm k e ε →
    (∀ evt ∈ evs, Consistent tm evt) → replayT tm P tab e ε evs = .ok (eF, εF, rs) → Coupled tm k eF εF := by
  intro e eF ε εF b0 b rs k _ hs _ hk hcp hcons h
  refine (replayT_invariant (e0 := e) (n := 0) (fun _ e' ε' => Coupled tm k e' ε') evs ?_ hs rfl hcp h).2.2
  rintro _ e' e1 ε' evt _ hmem hs' hsh' hcp' hme _
  have hsp' : e'.specs = e.specs := congrArg Shape.specs hsh'
  exact coupled_modelEvent hs' (hsp'.symm ▸ hk) hcp' (hcons evt hmem) hme

/-- In a coupled state every check `Ovni.Task.Emu.step` makes on its copy has the verdict of the C
    channel operation on the thread's REAL channel: `ssPush` ↔ `chan_push`, `ssPop` ↔ `chan_pop` on
    the subsystem channel, whose `chan_read` value (`enforce_task_rules`) is the top of the copy;
    `chanSet` ↔ `chan_set` on the body id / task id / type / app id / rank channels. -/
theorem coupled_verdicts {tm : Ovni.Task.Model} {k : Nat} {e : Emu} {ε : Ovni.Task.Emu} (hcp : Coupled tm k e ε)
    {ti : Nat} (hti : ti < e.threads.length) :
    (∃ c, e.src (.raw ti k (taskIdx tm).ss) = some c ∧ c.cur = ofOpt (ε.ss ti).head? ∧
      (∀ v, (∃ c', c.push e.maxStack (.int v) = .ok c') ↔ (∃ st', Ovni.Task.ssPush tm.cfg.dupSs (ε.ss ti) v = .ok st')) ∧
      (∀ v, (∃ c', c.pop (.int v) = .ok c') ↔ (∃ st', Ovni.Task.ssPop (ε.ss ti) v = .ok st'))) ∧
    (∀ f ∈ taskFields tm, ∃ c, e.src (.raw ti k f.1) = some c ∧ c.cur = ofOpt (f.2.2 (ε.ch ti)) ∧
      ∀ v, (∃ c', c.set (ofOpt v) = .ok c') ↔ (∃ w, Ovni.Task.chanSet f.2.1 (f.2.2 (ε.ch ti)) v = .ok w)) := by
  constructor
  · obtain ⟨c, h1, h2⟩ := hcp.ss ti hti
    exact ⟨c, h1, h2.cur_eq, fun v => by rw [hcp.maxStack]; exact h2.push_accepts_iff v, fun v => h2.pop_accepts_iff v⟩
  · intro f hf
    obtain ⟨c, h1, h2⟩ := hcp.single ti hti f hf
    exact ⟨c, h1, h2.cur, fun v => h2.set_accepts_iff v⟩

/-- In a coupled state, for an event of the hook's thread, `taskHook` succeeds iff
    `Ovni.Task.Emu.step` does (and the event is a task-state or creation event of that thread): no
    `chan_push` / `chan_pop` / `chan_set` on the real channels refuses what the copy accepted.  So
    along a history the verdict of the reference emulator on a task event of an enabled model —
    past the thread-state guard of `process_ev` (`stateGuard`), which `modelEvent` applies before
    the hook — IS the verdict of the task layer (`Emu/Task.lean`, the model C07's check drives
    through `drv_task`). -/
theorem task_hook_accepts_iff {tm : Ovni.Task.Model} {P : Ovni.Task.ProcInfo} {ε : Ovni.Task.Emu}
    {ev : Ovni.Task.Ev} {e : Emu} {ti a k : Nat} {p : List Nat} (hs : Shaped e)
    (hk : e.specs[k]? = some (specOf tm)) (hcp : Coupled tm k e ε) (hti : ti < e.threads.length) :
    (∃ e1, hookOf tm P ε (some ev) e ti (specOf tm).char a p = .ok e1) ↔
      ((∃ ε', Ovni.Task.Emu.step tm P ε ev = .ok ε') ∧
        ((∃ t v bp, ev = .task ti v t bp) ∨ (∃ ty h f, ev = .typeCreate ty h f) ∨
          (∃ par t ty, ev = .taskCreate par t ty))) :=
  taskHook_accepts_iff (a := a) (p := p) hs hk hcp hti

/-- `emu_history_task` plus `coupled_history`: the state the task rules ran on is the state of the
    thread's real channels. -/
theorem emu_history_task_coupled (tm : Ovni.Task.Model) (P : Ovni.Task.ProcInfo) (tab : List MarkType)
    (evs : List EvT) {e eF : Emu} {ε εF : Ovni.Task.Emu} {b0 b : Bay} {rs : List PrvRec} {fresh : Nat → Bool}
    {lvs : List (Option Value)} {tvs : List Int} {k : Nat}
    (hc : e.shape.connect = .ok b0) (hs : Shaped e) (hi : Inv b0 e b) (hf : FreshInv e.shape b fresh)
    (hE : EmitInv e.shape.regs lvs tvs b) (hfl : SpecFlagsOk e.specs) (hd : CpuDfltOk e.specs)
    (hk : e.specs[k]? = some (specOf tm)) (hcp : Coupled tm k e ε) (hcons : ∀ evt ∈ evs, Consistent tm evt)
    (h : replayT tm P tab e ε evs = .ok (eF, εF, rs)) :
    ∃ bF lvsF freshF Ls, RoundsP e.shape.regs (· < e.shape.L) (b, lvs) Ls (bF, lvsF) ∧ Ls.length = evs.length ∧
      Shaped eF ∧ eF.shape = e.shape ∧ Inv b0 eF bF ∧ FreshInv e.shape bF freshF ∧
      EmitInv e.shape.regs lvsF (Ls.foldl tvStep tvs) bF ∧ Coupled tm k eF εF := by
  obtain ⟨bF, lvsF, freshF, Ls, h1, h2, h3, h4, h5, h6, h7⟩ :=
    emu_history_task tm P tab evs hc hs hi hf hE (SpecFlagsOk.dup hfl) hd h
  exact ⟨bF, lvsF, freshF, Ls, h1, h2, h3, h4, h5, h6, h7, coupled_history tm P tab evs hc hs hi hk hcp hcons h⟩

/-- The emulator with the task layer, from `emu_connect` on (any hierarchy with at least one
    thread, any enabled models among which the task model at position `k`, any mark table): every
    history accepted by `replayT` from the initial states of both layers, whose decoded events fit
    the raw ones, has its bay run with the PRV callbacks, and the copy agrees with the thread
    channels at the end.  No hook hypothesis, no coupling hypothesis. -/
theorem emu_run_task_driver (tm : Ovni.Task.Model) (P : Ovni.Task.ProcInfo) (threads : List (Int × Int × Nat))
    (cpus : List (Nat × Int × Bool)) (enabled : List Nat) (lint : Bool) (tab : List MarkType) (evs : List EvT)
    {eF : Emu} {εF : Ovni.Task.Emu} {rs : List PrvRec} {k : Nat} (hnt : 0 < threads.length)
    (hk : (mkEmu threads cpus enabled lint (markExtra tab)).specs[k]? = some (specOf tm))
    (hcons : ∀ evt ∈ evs, Consistent tm evt)
    (h : replayT tm P tab (mkEmu threads cpus enabled lint (markExtra tab)) Ovni.Task.Emu.init evs = .ok (eF, εF, rs)) :
    ∃ b0 bI lvsI bF lvsF tvsF freshF Ls,
      (mkEmu threads cpus enabled lint (markExtra tab)).shape.connect = .ok b0 ∧
      Inv b0 (mkEmu threads cpus enabled lint (markExtra tab)) bI ∧
      RoundsP (mkEmu threads cpus enabled lint (markExtra tab)).shape.regs
        (· < (mkEmu threads cpus enabled lint (markExtra tab)).shape.L) (bI, lvsI) Ls (bF, lvsF) ∧
      Ls.length = evs.length ∧ Shaped eF ∧ Inv b0 eF bF ∧
      FreshInv (mkEmu threads cpus enabled lint (markExtra tab)).shape bF freshF ∧
      EmitInv (mkEmu threads cpus enabled lint (markExtra tab)).shape.regs lvsF tvsF bF ∧
      Coupled tm k eF εF := by
  obtain ⟨hc, hfl, hd, hs, bI, lvsI, tvsI, hi, hf, hE⟩ := emu_init_emit_driver threads cpus enabled lint tab hnt
  obtain ⟨bF, lvsF, freshF, Ls, h1, h2, h3, _, h5, h6, h7, h8⟩ :=
    emu_history_task_coupled tm P tab evs hc hs hi hf hE hfl hd hk
      (coupled_init tm threads cpus enabled lint (markExtra tab) hk) hcons h
  exact ⟨_, bI, lvsI, bF, lvsF, _, freshF, Ls, hc, hi, h1, h2, h3, h5, h6, h7, h8⟩

/-! The system rows.  The thread's `cpu` / `tid` / state channels and the CPU's `pid` / `tid` /
`nrunning` channels are registered with prv by `thread_connect` /
`cpu_connect`; the reference emulator keeps them in its `Thread` / `Cpu` records
(`Emu/Core.lean`), and their emit callback is `emitOne` on the record's channel
(`sysEmit`, `Emu/Emit.lean`).  `SysInv e tl cl`: the `last_value`s `tl` / `cl`
(a triple per thread / CPU) are consistent with the flushed system channels of
`e`.  `HookSys`: a hook changes the system channels at most the way successful
`chan_set`s do (`ChS`, `Lemmas/SysRows.lean`); the hooks in use leave them alone
(`hookSys_none`, `hookSys_mark`, `hookSys_task`). -/

/-- For the handlers of an accepted event the emit callbacks of the system channels fail iff
    `sysRecords e'` fails and otherwise write EXACTLY `sysRecords e'`, no redundant line: a system
    channel is dirty only with a value different from the last one emitted, so `emit` never meets
    a duplicate there (its "duplicated value" error cannot occur, although `cpu`, `tid`, `pid`,
    `nrunning` have no duplicate policy).  `SysInv` holds again after the flush. -/
theorem emu_event_sys {e e' : Emu} {ti mc c v : Nat} {p : List Nat}
    {th mh : Emu → Nat → Nat → Nat → List Nat → Except Err Emu} (hth : HookSys th) (hmh : HookSys mh)
    {tl cl : List Lv3} (hs : Shaped e) (hi : SysInv e tl cl)
    (h : modelEvent e ti mc c v p th mh = .ok e') :
    sysEmit e' tl cl =
      (match sysRecords e' with
      | .error x => .error x
      | .ok s => .ok (newRows newT e'.threads tl, newRows newC e'.cpus cl, s)) ∧
    SysInv e'.flushAll (newRows newT e'.threads tl) (newRows newC e'.cpus cl) :=
  sysEmit_eq hi (SysS.modelEvent hth hmh h hs)

/-- Right after `emu_connect` no system channel has been emitted. -/
theorem sysInv_init (threads : List (Int × Int × Nat)) (cpus : List (Nat × Int × Bool)) (enabled : List Nat)
    (lint : Bool) (extra : List ModelSpec) : SysInv (mkEmu threads cpus enabled lint extra) [] [] := by
  have hg : ∀ (ign : Bool), Good ({ ignoreDup := ign } : Chan) none :=
    fun ign => ⟨⟨rfl, rfl, rfl, fun h => by cases h⟩, rfl, rfl, Or.inl rfl⟩
  rw [mkEmu_eq]
  constructor
  · intro g t ht
    obtain ⟨_, _, _, rfl⟩ := mkEmuWith_threads_get _ _ _ _ _ _ ht
    exact ⟨hg false, hg true, hg false⟩
  · intro g x hx
    obtain ⟨_, _, _, rfl⟩ := mkEmuWith_cpus_get _ _ _ _ _ _ hx
    exact ⟨hg true, hg true, hg true⟩

/-- `SysInv` holds at the end of every accepted history, for some `last_value`s, so
    `emu_event_sys` applies at every instant. -/
theorem emu_history_sys {th mh : Emu → Nat → Nat → Nat → List Nat → Except Err Emu} (hth : HookSys th)
    (hmh : HookSys mh) (hths : HookSim th) (hmhs : HookSim mh) (evs : List Ev) :
    ∀ {e eF : Emu} {rs : List PrvRec} {tl cl : List Lv3},
    Shaped e → SysInv e tl cl → replay th mh e evs = .ok (eF, rs) → ∃ tlF clF, SysInv eF tlF clF := by
  intro e eF rs tl cl hs hi h
  refine (replay_invariant hths hmhs (e0 := e) (n := 0) (fun _ e' => ∃ tl' cl', SysInv e' tl' cl') ?_ evs
    hs rfl ⟨tl, cl, hi⟩ h).2.2
  rintro _ e' e1 _ _ _ _ _ _ hs' _ ⟨tl', cl', hi'⟩ hme _
  exact ⟨_, _, (emu_event_sys hth hmh hs' hi' hme).2⟩

/-- All lines of one accepted step, system rows and model rows together.  The emit callbacks of
    `bay_propagate` — those of the system channels (`sysEmit`, lines `s`) and those of the track
    outputs (`Bay.propagateP`, lines `L`) — all succeed; `s` is exactly `sysRecords`; `L` is a
    permutation of `Lr` whose effective lines are `viewRecordsC`; and when no CPU is fresh `rs` is
    a permutation of `s` followed by the effective lines of `Lr`: `records` = the lines written,
    minus the lines that repeat what their row already shows. -/
theorem emu_step_lines {e e2 : Emu} {b0 b : Bay} {ti mc c v : Nat} {p : List Nat} {rs : List PrvRec}
    {th mh : Emu → Nat → Nat → Nat → List Nat → Except Err Emu} (hth : HookSim th) (hmh : HookSim mh)
    (hths : HookSys th) (hmhs : HookSys mh)
    {fresh : Nat → Bool} {lvs : List (Option Value)} {tvs : List Int} {tl cl : List Lv3}
    (hc : e.shape.connect = .ok b0) (hs : Shaped e) (hi : Inv b0 e b) (hf : FreshInv e.shape b fresh)
    (hE : EmitInv e.shape.regs lvs tvs b) (hS : SysInv e tl cl) (hfl : SpecFlagsOk e.specs)
    (hd : CpuDfltOk e.specs) (h : stepEv e ti mc c v p th mh = .ok (e2, rs)) :
    ∃ e1 b1 bF lvs' L Lr s tl' cl', modelEvent e ti mc c v p th mh = .ok e1 ∧ e2 = e1.flushAll ∧
      Bay.Writes (· < e.shape.L) b b1 ∧
      sysEmit e1 tl cl = .ok (tl', cl', s) ∧ sysRecords e1 = .ok s ∧
      b1.propagateP e.shape.regs lvs = .ok (bF, lvs', L) ∧ L.Perm Lr ∧
      viewRecordsC e e1 fresh (freshE fresh e1) = .ok ((Lr.filter (effective tvs)).map (·.2)) ∧
      Inv b0 e2 bF ∧ FreshInv e.shape bF (freshE fresh e1) ∧ EmitInv e.shape.regs lvs' (tvStep tvs L) bF ∧
      SysInv e2 tl' cl' ∧
      ((∀ cg, cg < e.cpus.length → fresh cg = false) →
        rs.Perm (s ++ (Lr.filter (effective tvs)).map (·.2))) := by
  obtain ⟨e1, b1, bF, lvs', L, Lr, s, vr, hme, rfl, hw, hpp, _, _, hinv, hfF, hE', hsys, hvr, hLr, hvrL, hperm⟩ :=
    emu_step_records hth hmh hc hs hi hf hE hfl hd h
  obtain ⟨hse, hS'⟩ := emu_event_sys hths hmhs hs hS hme
  rw [hsys] at hse
  exact ⟨e1, b1, bF, lvs', L, Lr, s, _, _, hme, rfl, hw, hse, hsys, hpp, hLr, hvrL ▸ hvr, hinv, hfF, hE', hS',
    fun hnf => hvrL ▸ hperm hnf⟩

/-
-- OPEN (what is left of the last composition step, `records` against the lines the emit
-- callbacks write).
--
--  (1) In `emu_step_records` / `emu_step_lines` the equation `rs ~ sysRecords ++ effective lines`
--      is stated for states without fresh CPUs; with fresh CPUs the right-hand side is
--      `viewRecordsC` (exact), which differs from `viewRecords` on the CPU rows with a mux
--      default only.
--  (2) `PRV_ZERO` channels.  Covered: one event on the bay (`emit_step_zero`) and one emulator
--      step (`emit_step_zero_emu`: specs with `SpecDupOk` only, on `Shape.regs`).  Restricted to
--      `NoZero` (`SpecFlagsOk`): the per-event forms `emu_event_emit`, `emu_step_records` and the
--      connect-time step `emu_init_emit` (hence every theorem from `emu_connect` on); every
--      generated spec satisfies it (`generated_prv_flags`), so nothing the reference emulator
--      registers is excluded.  The invariants carried along a history need `SpecDupOk` only
--      (`EmitRun.step`, `emu_history_emit`, `emu_history_task`).  The
--      breakdown outputs (registered with `PRV_SKIPDUP | PRV_ZERO`) are not channels of `bayOf`
--      (6), so `emit_step_zero` is not instantiated for them.
--  (3) The system channels (thread `cpu` / `tid` / `state` row, CPU `nrunning` / `pid` / `tid`)
--      are not part of the `Bay` model / `Shape.regs`: the reference emulator keeps them in its
--      `Thread` / `Cpu` records and their emit callback is modelled on those records (`sysEmit`).
--      Not in these theorems: that these channels sit on the same dirty list as the bay's (only
--      the order of the lines within one timestamp depends on it; the executable line engine of
--      C13, `Emu/PvLines.lean`, registers them in its bay), and that the state channel /
--      `th_running` / `th_active` exist twice (record and bay source, tied by `Mirrors`).
--  (4) The task layer of nOS-V / Nanos6 (`VT*`, `VY*`, `6T*`, `6Y*`):
--      (a) `replayT` carries ONE task state: one task model `tm` and one process (`ProcInfo`)
--          for all threads; `Consistent` therefore asks that every task event of the history
--          belongs to `tm`.  Several processes / both task models at once need a family of
--          task states indexed by (model, process) and `Coupled` restricted to the threads
--          of the process — not done.
--      (b) `modelEvent` does not pass the event value to the hook and `Emu` has no task
--          state: the hook is a per-event closure, and the decoding of the payloads of task
--          events into `Ovni.Task.Ev` (ids, the uthash Jenkins hash of the type label) is
--          the caller's; for NON-task events the decoded event is not free: it must be
--          `ssEvOf` (computed from the generated table), which `Consistent` checks.
--      (c) The hook evaluates the rules on the task layer's copy of the channels and then
--          writes the real ones (`taskHook`).  In a coupled state it accepts exactly what
--          `Ovni.Task.Emu.step` accepts (`task_hook_accepts_iff`), so the copy is redundant for
--          the verdict; a hook WITHOUT the `ch` / `ss` fields (rules evaluated on the real
--          channels only) is not defined.
--      (d) The driver (`Drivers/Emu.lean`) steps events with `noHook`: the app ids and task types
--          of its line protocol (`thread … appid`, `tasktype`) only feed the `.row` / `.pcf`
--          texts of C13, it carries no rank, and the e2e generator of C04–C06 / C08 emits no task
--          events; C07's check drives the task layer through `drv_task` against `ovniemu` (X2
--          of C07).
--  (5) `emu_init` / `emu_init_emit` keep three side conditions on the spec list (accepted
--      tracking modes so that `Shape.connect` succeeds — `bayOf_connects`; distinct model
--      characters; connect-time values on single channels) and "at least one thread";
--      `emu_init_emit` also the two of the emit phase (`SpecFlagsOk`, `InitPrvOk`).
--      `driver_side_conditions` and `driver_emit_conditions` discharge those on the spec list for
--      every enabled set and every mark table (`emu_run_driver`, `emu_run_emit_driver`); a
--      hierarchy without threads accepts no event.
--  (6) Outside the frame condition: muxes whose select is one of their own inputs, and chained
--      muxes (breakdown model) — for this `Bay` model X1 only; the breakdown chain has its own
--      model (`Emu/Breakdown.lean`) and theorems in C20.
-/

/-! ### Non-vacuity: a concrete thread + CPU network

Channels: 0 = thread state, 1 = the CPU's `th_running`, 2 = a raw stack
channel of the thread, 3 = thread track output (RUN), 4 = CPU track output.
Event: the thread starts running on the CPU and pushes a value in the SAME
event (state, raw channel and `th_running` written in that order, so the dirty
list is `[0, 2, 1]`). -/

private def unwrap {α} (d : α) : Except Err α → α
  | .ok a => a
  | .error _ => d

def exB0 : Bay :=
  let b := (({} : Bay).register {}).1
  let b := (b.register {}).1
  let b := (b.register { isStack := true }).1
  let b := (b.register {}).1
  (b.register {}).1
def exB1 : Bay := (unwrap (exB0, 0) (exB0.muxInit 0 3 .thRunning 1)).1
def exB2 : Bay := unwrap exB1 (exB1.muxSetInput 0 0 2)
def exB3 : Bay := (unwrap (exB2, 0) (exB2.muxInit 1 4 .byIndex 1)).1
def exB4 : Bay := unwrap exB3 (exB3.muxSetInput 1 0 2)
def exB : Bay := unwrap exB4 (exB4.muxSetDefault 1 (.int 9))
def exW1 : Bay := unwrap exB (exB.chanSet 0 (.int 1))
def exW2 : Bay := unwrap exW1 (exW1.chanPush 2 (.int 7))
def exW3 : Bay := unwrap exW2 (exW2.chanSet 1 (.int 0))
def exF : Bay × List (Nat × Value) := unwrap (exW3, []) exW3.propagate

def exThreadMux : Mux := { sel := 0, out := 3, kind := .thRunning, inputs := [some 2] }
def exCpuMux : Mux := { sel := 1, out := 4, kind := .byIndex, inputs := [some 2], dflt := .int 9 }

/-- `Connected` is inhabited by what the connection functions build: three
    source channels (state, `th_running`, a raw stack channel), one thread track
    (RUN) and one CPU track with a non-null default — 2 muxes sharing the raw
    channel. -/
def exSrc : Bay :=
  let b := (({} : Bay).register {}).1
  let b := (b.register {}).1
  (b.register { isStack := true }).1
def exT1 : Bay × Nat := unwrap (exSrc, 0) (exSrc.trackThread trackRun 0 2)
def exT2 : Bay × Nat := unwrap (exT1.1, 0) (exT1.1.trackCpu 1 [2] (.int 9))

theorem exT2_connected : Connected 3 exT2.1 := by
  have t : exSrc.Topo 3 := Bay.Topo.registerAll [{}, {}, { isStack := true }] (by decide)
  have h1 : exSrc.trackThread trackRun 0 2 = .ok (exT1.1, exT1.2) := by rfl
  have h2 : exT1.1.trackCpu 1 [2] (.int 9) = .ok (exT2.1, exT2.2) := by rfl
  exact .cpu (.thread (.base t.wf rfl t.noIn t.allNull t.len) (Or.inl rfl) (by decide) (by decide) (by decide) h1)
    (by decide) (by intro c hc; simp at hc; subst hc; decide) h2

example : exT2.1.muxes.length = 2 ∧ exT2.2 = 4 := by decide

/-- The bays of the event in normal form.  Only the channels, the callbacks on the raw channel 2
    and the dirty list change. -/
def exNF (chans : List Chan) (cbs2 : List Cb) (dirty : List Nat) : Bay :=
  { chans, cbs := [[.muxSelect 0], [.muxSelect 1], cbs2, [], []], emits := [false, false, false, false, false],
    muxes := [exThreadMux, exCpuMux], selected := [some 0, some 0], dirty }

def exOut (vals : List Value) (last : Value) : Chan := { vals, last, allowDup := true, dirtyWrite := true }

theorem exB_nf : exB = exNF [{}, {}, { isStack := true }, exOut [] .null, exOut [] .null] [] [] := by rfl

/-- `exB` is the bay of `exT2`, built with `muxInit` / `muxSetInput` / `muxSetDefault` directly. -/
theorem exB_eq : exB = exT2.1 := by rw [exB_nf]; rfl

theorem exB_wf : exB.WF := exB_eq ▸ (topology_frame exT2_connected).1.wf

theorem forall_muxes_pair {b : Bay} {m0 m1 : Mux} (hmx : b.muxes = [m0, m1]) (P : Nat → Mux → Prop)
    (h0 : P 0 m0) (h1 : P 1 m1) (mi : Nat) (m : Mux) (h : b.muxes[mi]? = some m) : P mi m := by
  rw [hmx] at h
  match mi, h with
  | 0, h => simp at h; subst h; exact h0
  | 1, h => simp at h; subst h; exact h1
  | _ + 2, h => simp at h

theorem exB_frame (mi : Nat) (m : Mux) (hm : exB.muxes[mi]? = some m) : exB.Frame mi m :=
  (exB_eq ▸ (topology_frame exT2_connected).2.2) mi m hm

theorem exB_noInputCbs : exB.NoInputCbs := exB_eq ▸ (topology_frame exT2_connected).1.noIn

/-- The thread track (default null) starts in sync; the CPU track has a
    non-null default, so it is in sync only after `th_running`'s first change —
    which this event provides. -/
theorem exB_thread_sync : exB.MuxSync false 0 exThreadMux :=
  Bay.MuxSync.ofNoInputs (exB_noInputCbs · 0) (by rfl) (by rfl)

theorem ex_writes : Bay.Writes (fun c => c ≠ 3 ∧ c ≠ 4) exB exW3 :=
  have h1 : Bay.Writes (fun c => c ≠ 3 ∧ c ≠ 4) exB exW1 :=
    .snoc (b1 := exB) (b2 := exW1) (c := 0) (f := fun x => x.set (.int 1)) (.nil _) (by decide)
      (chanOp_set _) (by rfl)
  have h2 : Bay.Writes (fun c => c ≠ 3 ∧ c ≠ 4) exB exW2 :=
    .snoc (b1 := exW1) (b2 := exW2) (c := 2) (f := fun x => Chan.push exW1.maxStack x (.int 7)) h1
      (by decide) (chanOp_push _ _) (by rfl)
  .snoc (b1 := exW2) (b2 := exW3) (c := 1) (f := fun x => x.set (.int 0)) h2 (by decide)
    (chanOp_set _) (by rfl)

theorem exW3_nf : exW3 = exNF [{ vals := [.int 1], dirty := true }, { vals := [.int 0], dirty := true },
    { isStack := true, vals := [.int 7], dirty := true }, exOut [] .null, exOut [] .null] [] [0, 2, 1] := by
  rw [exW3, exW2, exW1, exB_nf]; rfl

def exFN : Bay × List (Nat × Value) :=
  (exNF [{ vals := [.int 1], last := .int 1 }, { vals := [.int 0], last := .int 0 },
    { isStack := true, vals := [.int 7], last := .int 7 }, exOut [.int 7] (.int 7), exOut [.int 7] (.int 7)]
    [.muxInput 0 0, .muxInput 1 0] [], [])

/-- The one evaluation of `bay_propagate`. -/
theorem exW3_propagate : exW3.propagate = .ok exFN := by rw [exW3_nf]; rfl

theorem ex_propagate : exW3.propagate = .ok exF := by rw [exF, exW3_propagate]; rfl

theorem exF_nf : exF = exFN := Except.ok.inj (ex_propagate.symm.trans exW3_propagate)

/-- The state before propagation is `Safe`, so `propagate_total` applies. -/
example : exW3.Safe := by
  rw [exW3_nf]
  constructor
  · intro mi m i h
    revert i
    refine forall_muxes_pair rfl (fun _ m => ∀ i, i < m.inputs.length → ∃ c, m.inputs[i]? = some (some c))
      ?_ ?_ mi m h
    · intro i hi; have : i = 0 := by simp [exThreadMux] at hi; omega
      subst this; exact ⟨2, rfl⟩
    · intro i hi; have : i = 0 := by simp [exCpuMux] at hi; omega
      subst this; exact ⟨2, rfl⟩
  · intro mi m j h
    refine forall_muxes_pair rfl (fun mi m => Bay.selOf _ mi = some j → j < m.inputs.length) ?_ ?_ mi m h
    · intro hs; cases hs; decide
    · intro hs; cases hs; decide
  · intro mi m h
    exact forall_muxes_pair rfl
      (fun _ m => (Bay.chan _ m.out).isStack = false ∧ (Bay.chan _ m.out).dirtyWrite = true)
      ⟨rfl, rfl⟩ ⟨rfl, rfl⟩ mi m h
  · intro mi m h
    exact forall_muxes_pair rfl (fun _ m => ∃ s, m.selectInput (Bay.chan _ m.sel).cur = .ok s)
      ⟨some 0, rfl⟩ ⟨some 0, rfl⟩ mi m h
  · intro mi m mj m' h h'
    revert mj m'
    refine forall_muxes_pair rfl
      (fun _ m => ∀ (mj : Nat) (m' : Mux), (exNF _ _ _).muxes[mj]? = some m' → m'.out ≠ m.sel) ?_ ?_ mi m h
    · intro mj m' h'
      exact forall_muxes_pair rfl (fun _ m' => m'.out ≠ exThreadMux.sel) (by decide) (by decide) mj m' h'
    · intro mj m' h'
      exact forall_muxes_pair rfl (fun _ m' => m'.out ≠ exCpuMux.sel) (by decide) (by decide) mj m' h'

/-- The dirty list really has the select channels and the shared input,
    input between the two selects. -/
example : exW3.dirty = [0, 2, 1] := by rw [exW3_nf]; rfl

/-- `mux_round_event` applies to the thread track: all hypotheses hold. -/
example : exF.1.MuxSync false 0 exThreadMux := by
  rw [exF_nf]
  exact (mux_round_event exB_wf (by rw [exB_nf]; rfl) (exB_frame 0 _ (by rw [exB_nf]; rfl)) exB_thread_sync
    (ex_writes.mono (fun _ h => h.1)) exW3_propagate).2.2.2.1

/-- `mux_round` applies to the CPU track (select dirty, never synced before):
    afterwards `out = spec`, and `selected = f(select)`. -/
example : ∃ s, exCpuMux.selectInput (exF.1.chan 1).cur = .ok s ∧
    (exF.1.chan 4).cur = exF.1.specVal exCpuMux s ∧ exF.1.selOf 1 = s := by
  have k := ex_writes.kept exB_wf
  rw [exF_nf]
  obtain ⟨_, _, _, s, h1, h2, _, h4⟩ := mux_round (strong := false) k.wf
    (by rw [exW3_nf]; rfl : exW3.muxes[1]? = some exCpuMux)
    ((exB_frame 1 _ (by rw [exB_nf]; rfl)).congr k.muxes)
    (fun i ⟨c, _, h⟩ => absurd (Bay.cbsOf_congr k.cbs c ▸ h) (exB_noInputCbs c 1 i))
    (Or.inl (by rw [exW3_nf]; rfl)) exW3_propagate
  exact ⟨s, h1, h2, h4 (Or.inr (by rw [exW3_nf]; rfl))⟩

/-- What the rows show after the event: the pushed value on both. -/
example : (exF.1.chan 3).cur = .int 7 ∧ (exF.1.chan 4).cur = .int 7 ∧ exF.1.selOf 0 = some 0 ∧
    exF.1.selOf 1 = some 0 ∧ exF.2 = [] := by rw [exF_nf]; decide

/-- `track_thread_view` instance: state RUNNING, mode RUN. -/
example : (exF.1.chan 3).cur = if trackHolds trackRun .running then (exF.1.chan 2).cur else .null := by
  have ht : ThreadTrack exThreadMux trackRun 0 2 := ⟨Or.inl rfl, rfl, rfl, rfl, rfl⟩
  rw [exF_nf]
  exact track_thread_view ht exB_wf (by rw [exB_nf]; rfl) (exB_frame 0 _ (by rw [exB_nf]; rfl)) exB_thread_sync
    (ex_writes.mono (fun _ h => h.1)) exW3_propagate .running (Or.inl rfl)


/-! ### Non-vacuity of the emulator-level theorems

Hierarchy: two threads of one process, one physical and the virtual CPU of one
loom, models ovni + nOS-V (8 raw channels per thread: 22 source channels, 32
tracks of which 30 are muxes).  History: thread 0 starts on CPU 0 (`OHx`),
enters a nOS-V subsystem (`VAa`, a push on the stack channel), pauses and
resumes (`OHp`, `OHr`), leaves the subsystem (`VAA`) and ends (`OHe`). -/

def exEmu : Emu := mkEmu [(100, 10, 0), (101, 10, 0)] [(0, 0, false), (0, -1, true)] [79, 86] false []
def exEmuBay : Bay := bayOf exEmu

theorem exEmuBay_connect : exEmu.shape.connect = .ok exEmuBay :=
  bayOf_connects (driver_side_conditions [79, 86] []).1

theorem exEmuBay_sizes : exEmu.shape.L = 22 ∧ exEmuBay.chans.length = 54 ∧ exEmuBay.muxes.length = 30 := by
  have hb := Shape.connect_built exEmuBay_connect
  rw [hb.len, hb.muxes]
  decide +kernel

example : exEmu.shape.L = 22 ∧ exEmuBay.chans.length = 54 ∧ exEmuBay.muxes.length = 30 := exEmuBay_sizes

def exNoHook : Emu → Nat → Nat → Nat → List Nat → Except Err Emu := fun _ _ _ _ _ => .error .unknownEvent

def exHist : List Ev :=
  [(0, 79, 72, 120, [0, 0, 0, 0]), (0, 86, 65, 97, []), (0, 79, 72, 112, []), (0, 79, 72, 114, []),
   (0, 86, 65, 65, []), (0, 79, 72, 101, [])]

theorem exHist_accepted :
    (match replay exNoHook exNoHook exEmu exHist with | .ok _ => true | .error _ => false) = true := by decide +kernel

theorem exEmu_chars :
    ((allSpecs.filter (fun s : ModelSpec => [79, 86].contains s.char) ++ []).map ModelSpec.char).Nodup := by
  decide

theorem exEmu_initSingle : InitSingle (allSpecs.filter (fun s => [79, 86].contains s.char) ++ []) := by
  rw [List.append_nil]; exact initSingle_allSpecs _

/-- `exEmu` right after `emu_connect`, emit phase included. -/
theorem exEmu_init : SpecFlagsOk exEmu.specs ∧ CpuDfltOk exEmu.specs ∧ Shaped exEmu ∧
    ∃ bI lvs tvs, Inv exEmuBay exEmu bI ∧ FreshInv exEmu.shape bI (fun _ => true) ∧
      EmitInv exEmu.shape.regs lvs tvs bI :=
  (emu_init_emit_driver _ _ [79, 86] false [] (by decide)).2

/-- `emu_run` (`emu_init`, then `emu_history`) applies to the concrete history: a bay reachable from
    the connected one with `Inv`, in which all thread rows are `thView` of the final state. -/
example : ∃ eF rs bF, replay exNoHook exNoHook exEmu exHist = .ok (eF, rs) ∧
    Rounds (· < exEmu.shape.L) exEmuBay bF ∧ Inv exEmuBay eF bF ∧
    ∀ (g k i : Nat) (t : Thread) (m : ModelSpec), eF.threads[g]? = some t → eF.specs[k]? = some m →
      i < m.nch → (bF.chan (eF.shape.thOut g k i)).cur = thView t m i := by
  cases h : replay exNoHook exNoHook exEmu exHist with
  | error x => have := exHist_accepted; rw [h] at this; cases this
  | ok r =>
    obtain ⟨eF, rs⟩ := r
    obtain ⟨bF, hr, hsF, hshF, hiF⟩ := emu_run hookSim_none hookSim_none _ _ _ _ _ exHist exEmuBay_connect
      (by decide) exEmu_chars exEmu_initSingle h
    have hcF : eF.shape.connect = .ok exEmuBay := by rw [hshF]; exact exEmuBay_connect
    exact ⟨eF, rs, bF, rfl, hr, hiF, fun g k i t m ht hk hi => emu_thread_rows hcF hsF hiF ht hk hi⟩

/-- `emu_event` applies to the first event (`OHx`) from the initial state
    given by `emu_init`. -/
example : ∃ bI e' b1 bF em, Inv exEmuBay exEmu bI ∧
    modelEvent exEmu 0 79 72 120 [0, 0, 0, 0] exNoHook exNoHook = .ok e' ∧
    Bay.Writes (· < exEmu.shape.L) bI b1 ∧ Mirrors e' b1 ∧ b1.propagate = .ok (bF, em) ∧
    Inv exEmuBay e'.flushAll bF := by
  obtain ⟨_, _, hs, bI, _, _, hi, _⟩ := exEmu_init
  cases h : modelEvent exEmu 0 79 72 120 [0, 0, 0, 0] exNoHook exNoHook with
  | error x =>
    have : (match modelEvent exEmu 0 79 72 120 [0, 0, 0, 0] exNoHook exNoHook with
      | .ok _ => true | .error _ => false) = true := by decide
    rw [h] at this; cases this
  | ok e' =>
    obtain ⟨b1, bF, em, hw, hm, hp, _, _, hiF, _⟩ := emu_event hookSim_none hookSim_none exEmuBay_connect hs hi h
    exact ⟨bI, e', b1, bF, em, hi, rfl, hw, hm, hp, hiF⟩

/-- The exception in `emu_cpu_rows` is real.  `emu_connect` computed on the
    concrete hierarchy (connect, the `chan_set` of every thread's idle channel,
    `bay_propagate`): the idle track (nOS-V channel 6) of a CPU that never had a
    thread still shows null, where `cpuView` shows the default "Resting" (101);
    thread 0's raw idle channel holds "Progressing" (100), flushed. -/
def exInitBay : Bay :=
  let b1 := (exEmu.shape.addrs.filter exEmu.shape.hasInit).foldl
    (fun b s => unwrap b (b.write (exEmu.shape.idx s) (exEmu.shape.initOp s))) exEmuBay
  (unwrap (b1, []) b1.propagate).1

/-- The connected bay as a fold of `Bay.addTrack`: cheaper to evaluate than `Shape.connect`, which
    checks every step. -/
theorem exEmuBay_eq : exEmuBay = exEmu.shape.jobs.foldl exEmu.shape.addJob exEmu.shape.bay0 :=
  (Shape.connect_iff.mp exEmuBay_connect).2

example : (exInitBay.chan (exEmu.shape.cpuOut 1 1 6)).cur = .null ∧
    (match exEmu.cpus[1]? with | some x => cpuView exEmu x specNosv 6 | none => .null) = .int 101 ∧
    (exInitBay.chan (exEmu.shape.idx (.raw 0 1 6))).cur = .int 100 ∧ exInitBay.dirty = [] := by
  rw [exInitBay, exEmuBay_eq]; decide +kernel

/-! ### Non-vacuity of the emit theorems

A thread with one raw stack channel tracked ACT: channels 0 = thread state,
1 = raw channel, 2 = track output, registered as row 1, type 10 with
`PRV_SKIPDUPNULL` (the nOS-V flags).  Event A: the thread starts running and
pushes 7.  Event B: the thread goes to *cooling* — still active, so `cb_select`
re-selects the same input and rewrites the output with the same value 7. -/

def exPSrc : Bay :=
  let b := (({} : Bay).register {}).1
  (b.register { isStack := true }).1
def exP0 : Bay := (unwrap (exPSrc, 0) (exPSrc.trackThread trackAct 0 1)).1
def exPRegs : List PrvReg := [⟨2, 0, 1, 10, prvSkipDupNull⟩]
def exPA1 : Bay := unwrap exP0 ((unwrap exP0 (exP0.chanSet 0 (.int 1))).chanPush 1 (.int 7))
def exPA : Bay × List (Option Value) × List (Nat × PrvRec) :=
  unwrap (exPA1, [], []) (exPA1.propagateP exPRegs [none])
def exPB1 : Bay := unwrap exPA.1 (exPA.1.chanSet 0 (.int 4))
def exPB : Bay × List (Option Value) × List (Nat × PrvRec) :=
  unwrap (exPB1, [], []) (exPB1.propagateP exPRegs exPA.2.1)

/-- Event A: one line, the one `emitView` gives; `last_value` becomes 7. -/
example : exPA1.propagateP exPRegs [none] = .ok exPA ∧ exPA.2.2 = [(0, ⟨0, 1, 10, 7⟩)] ∧
    exPA.2.1 = [some (.int 7)] ∧ exP0.viewRecs exPRegs exPA.1 = .ok [⟨0, 1, 10, 7⟩] :=
  ⟨by rfl, by decide, by decide, by decide⟩

/-- The literal statement "`records` = the lines written" is false for the code as it is.
    Event B: the output is dirty with an unchanged value; with
    `PRV_SKIPDUPNULL` a non-null duplicate is written again, so the emit phase
    writes the line `1:10:7` a second time, while `emitView` (hence `records`)
    gives nothing.  The extra line is not *effective*: it repeats the 7 the row
    already shows — exactly what `Bay.emit_step` / `emit_step` state. -/
example : exPB1.propagateP exPRegs exPA.2.1 = .ok exPB ∧ exPB.2.2 = [(0, ⟨0, 1, 10, 7⟩)] ∧
    exPA.1.viewRecs exPRegs exPB.1 = .ok [] ∧ exPB.2.2.filter (effective [7]) = [] :=
  ⟨by rfl, by decide, by decide, by decide⟩

/-- Same with a thread that starts running with an EMPTY channel: `cb_select`
    writes null to the never-emitted output, `last_value` is not set, so `emit`
    writes the line `1:10:0`; `emitView null null` gives nothing.  Not effective
    either: a row shows 0 before its first line. -/
example :
    let b1 := unwrap exP0 (exP0.chanSet 0 (.int 1))
    (match b1.propagateP exPRegs [none] with
      | .ok (bF, _, L) => decide (L = [(0, ⟨0, 1, 10, 0⟩)] ∧ exP0.viewRecs exPRegs bF = .ok [] ∧
          L.filter (effective [0]) = [])
      | .error _ => false) = true := by decide

/-- The failure case: pushing the value 0 on a channel without `PRV_ZERO`.
    Both sides fail with "forbidden value 0". -/
example :
    let b1 := unwrap exP0 ((unwrap exP0 (exP0.chanSet 0 (.int 1))).chanPush 1 (.int 0))
    (match b1.propagateP exPRegs [none] with
      | .error x => decide (x = .prvZero)
      | .ok _ => false) = true ∧
    (match b1.propagate with
      | .ok (bF, _) => decide (exP0.viewRecs exPRegs bF = .error .prvZero)
      | .error _ => false) = true := by decide

/-- `Bay.emit_step` applies to event B: all its hypotheses hold (`EmitInv`
    after event A comes from `Bay.emit_step` for event A, from the all-null bay). -/
example : ∃ lvs tvs, EmitInv exPRegs lvs tvs exPA.1 := by
  have hfl : ∀ r ∈ exPRegs, DupOk r.flags ∧ NoZero r.flags := by decide
  have h : exP0 = exPSrc.addTrack { sel := 0, out := 2, kind := .thActive, inputs := [some 1] } := by rfl
  have t : exP0.Topo 2 := h ▸ (Bay.Topo.registerAll [{}, { isStack := true }] (by decide)).addTrack
    (b := exPSrc) (by decide) rfl fun i c hi => by
      match i, hi with
      | 0, hi => cases hi; decide
  have hw : Bay.Writes (fun _ => True) exP0 exPA1 :=
    .snoc (b1 := unwrap exP0 (exP0.chanSet 0 (.int 1))) (c := 1)
      (f := fun x => Chan.push (unwrap exP0 (exP0.chanSet 0 (.int 1))).maxStack x (.int 7))
      (.snoc (b1 := exP0) (c := 0) (f := fun x => x.set (.int 1)) (.nil _) trivial (chanOp_set _) (by rfl))
      trivial (chanOp_push _ _) (by rfl)
  have hp : exPA1.propagate = .ok (exPA.1, []) := by rfl
  obtain ⟨_, _, h3⟩ := Bay.emit_step t.wf hw hp (EmitInv.ofNull exPRegs t.allNull) hfl
  obtain ⟨lvs', L, _, hpp, _, _, hE⟩ := h3 _ (by decide : exP0.viewRecs exPRegs exPA.1 = .ok [⟨0, 1, 10, 7⟩])
  exact ⟨lvs', _, hE⟩

/-- `emu_init_emit` and `emu_history_emit` apply to `exHist` on `exEmu` (nOS-V has an idle channel
    with a CPU mux default, so both CPUs start fresh): the emit phase succeeds at connect time and
    after each of the six events, and the invariants hold at the end. -/
example : ∃ eF rs bF lvsF tvsF freshF, replay exNoHook exNoHook exEmu exHist = .ok (eF, rs) ∧
    Inv exEmuBay eF bF ∧ FreshInv exEmu.shape bF freshF ∧ EmitInv exEmu.shape.regs lvsF tvsF bF := by
  cases h : replay exNoHook exNoHook exEmu exHist with
  | error x => have := exHist_accepted; rw [h] at this; cases this
  | ok r =>
    obtain ⟨eF, rs⟩ := r
    obtain ⟨hfl, hd, hs, _, _, _, hi, hf, hE⟩ := exEmu_init
    obtain ⟨bF, lvsF, freshF, _, _, _, _, _, hiF, hfF, hEF⟩ :=
      emu_history_emit hookSim_none hookSim_none exHist exEmuBay_connect hs hi hf hE (SpecFlagsOk.dup hfl) hd h
    exact ⟨eF, rs, bF, lvsF, _, freshF, rfl, hiF, hfF, hEF⟩

example : exEmu.shape.regs.length = 32 ∧ (exEmu.shape.regs.map (·.chan)).Nodup := by decide +kernel

/-- `prv_register` accepts the whole table: the (file, row, type) keys are
    distinct, the flags pass `check_flags`, the channels exist. -/
example : (exEmu.shape.regs.foldl (fun (acc : Except Err (List PrvReg)) r => match acc with
      | Except.ok rs => prvRegister exEmuBay rs r
      | Except.error x => Except.error x) (Except.ok [])) = Except.ok exEmu.shape.regs := by
  simp only [prvRegister, exEmuBay_sizes.2.1]
  decide +kernel

/-! ### Non-vacuity of the task-layer theorems

`exEmu` (ovni + nOS-V), process with app id 1 and no rank.  History: thread 0
starts (`OHx`), a task type and a task are created (`VYc`, `VTc`: no channel
write), the task runs and ends on thread 0 (`VTx`: subsystem push + body id,
task id, type, app id; `VTe`: pop + the four set to null), the thread ends. -/

def exHistT : List EvT :=
  [((0, 79, 72, 120, [0, 0, 0, 0]), none),
   ((0, 86, 89, 99, []), some (.typeCreate 1 7 true)),
   ((0, 86, 84, 99, []), some (.taskCreate false 1 1)),
   ((0, 86, 84, 120, []), some (.task 0 .x 1 0)),
   ((0, 86, 84, 101, []), some (.task 0 .e 1 0)),
   ((0, 79, 72, 101, []), none)]

/-- Accepted, with 36 records: the length is only there to make the test look at the result. -/
theorem exHistT_accepted :
    (match replayT .nosv ⟨1, -1⟩ [] exEmu Ovni.Task.Emu.init exHistT with
      | .ok r => decide (r.2.2.length = 36)
      | .error _ => false) = true := by decide +kernel

/-- `emu_init_emit` and `emu_history_task` apply to the history with task events, without any
    hook hypothesis. -/
example : ∃ eF εF rs bF lvsF tvsF freshF, replayT .nosv ⟨1, -1⟩ [] exEmu Ovni.Task.Emu.init exHistT = .ok (eF, εF, rs) ∧
    Inv exEmuBay eF bF ∧ FreshInv exEmu.shape bF freshF ∧ EmitInv exEmu.shape.regs lvsF tvsF bF := by
  cases h : replayT .nosv ⟨1, -1⟩ [] exEmu Ovni.Task.Emu.init exHistT with
  | error x => have := exHistT_accepted; rw [h] at this; cases this
  | ok r =>
    obtain ⟨eF, εF, rs⟩ := r
    obtain ⟨hfl, hd, hs, _, _, _, hi, hf, hE⟩ := exEmu_init
    obtain ⟨bF, lvsF, freshF, Ls, _, _, _, _, hiF, hfF, hEF⟩ :=
      emu_history_task .nosv ⟨1, -1⟩ [] exHistT exEmuBay_connect hs hi hf hE (SpecFlagsOk.dup hfl) hd h
    exact ⟨eF, εF, rs, bF, lvsF, _, freshF, rfl, hiF, hfF, hEF⟩

/-! ### Non-vacuity of `emu_step_lines`, final clause included

One thread, one CPU, only the ovni model (no mux default, so no CPU is ever
fresh: `FreshInv.of_null_defaults`).  Event: `OHx`. -/

def exEmuO : Emu := mkEmu [(100, 10, 0)] [(0, 0, false)] [79] false []

theorem exEmuO_connect : exEmuO.shape.connect = .ok (bayOf exEmuO) :=
  bayOf_connects (driver_side_conditions [79] []).1

theorem exEmuO_step :
    (match stepEv exEmuO 0 79 72 120 [0, 0, 0, 0] exNoHook exNoHook with
      | .ok r => decide (r.2.length = 6)
      | .error _ => false) = true := by decide

/-- All hypotheses of `emu_step_lines` hold, premise of the last clause
    included: the six records of `OHx` (thread cpu / tid / state, CPU pid / tid /
    nrunning) are a permutation of the system-row lines followed by the
    effective lines of the track outputs. -/
example : ∃ (e2 : Emu) (rs s : List PrvRec) (Lr : List (Nat × PrvRec)) (tvs : List Int),
    stepEv exEmuO 0 79 72 120 [0, 0, 0, 0] exNoHook exNoHook = .ok (e2, rs) ∧
    rs.Perm (s ++ (Lr.filter (effective tvs)).map (·.2)) := by
  cases h : stepEv exEmuO 0 79 72 120 [0, 0, 0, 0] exNoHook exNoHook with
  | error x => have := exEmuO_step; rw [h] at this; cases this
  | ok r =>
    obtain ⟨e2, rs⟩ := r
    obtain ⟨_, hfl, hd, hs, bI, lvsI, tvsI, hi, hf, hE⟩ :=
      emu_init_emit_driver [(100, 10, 0)] [(0, 0, false)] [79] false [] (by decide)
    have hb := Shape.connect_built exEmuO_connect
    have hnull : ∀ (mi : Nat) (m : Mux), bI.muxes[mi]? = some m → m.dflt = .null := by
      intro mi m hm
      rw [hi.muxes] at hm
      cases hb.isTrack hm with
      | th g k i ms out _ _ _ _ => rfl
      | cpu c k i ms out _ hk _ =>
        have hms : ms ∈ exEmuO.shape.specs := List.mem_of_getElem? hk
        have : ∀ ms ∈ exEmuO.shape.specs, ms.cpuDefault = [] := by decide
        simp only [ModelSpec.cpuDflt, this ms hms, List.find?_nil]
    have hf' : FreshInv exEmuO.shape bI (fun _ => false) := hf.of_null_defaults hnull
    obtain ⟨_, _, _, _, _, Lr, s, _, _, _, _, _, _, _, _, _, _, _, _, _, _, hperm⟩ :=
      emu_step_lines hookSim_none hookSim_none hookSys_none hookSys_none exEmuO_connect hs hi hf' hE
        (sysInv_init _ _ _ _ _) hfl hd h
    exact ⟨e2, rs, s, Lr, tvsI, rfl, hperm (fun _ _ => rfl)⟩

/-! ### Non-vacuity of the coupling theorems

`exHistT` above (task events only) and `exHistS`: the task runs INSIDE table
states of the same subsystem channel — `VHw` (push Worker), `VTx` (push "Task: In
body" + the `chan_set`s), `VAr` / `VAR` (push / pop "API: Create" over the
running body), `VTe`, `VHW`, and `VPr` (idle channel, no task channel). -/

example : ∀ evt ∈ exHistT, Consistent .nosv evt := by decide +kernel

def exHistS : List EvT :=
  [((0, 79, 72, 120, [0, 0, 0, 0]), none),
   ((0, 86, 89, 99, []), some (.typeCreate 1 7 true)),
   ((0, 86, 84, 99, []), some (.taskCreate false 1 1)),
   ((0, 86, 72, 119, []), some (.ssPush 0 28)),
   ((0, 86, 84, 120, []), some (.task 0 .x 1 0)),
   ((0, 86, 65, 114, []), some (.ssPush 0 12)),
   ((0, 86, 65, 82, []), some (.ssPop 0 12)),
   ((0, 86, 80, 114, []), none),
   ((0, 86, 84, 101, []), some (.task 0 .e 1 0)),
   ((0, 86, 72, 87, []), some (.ssPop 0 28)),
   ((0, 79, 72, 101, []), none)]

theorem exHistS_consistent : ∀ evt ∈ exHistS, Consistent .nosv evt := by decide +kernel

theorem exHistS_accepted :
    (match replayT .nosv ⟨1, -1⟩ [] exEmu Ovni.Task.Emu.init exHistS with
      | .ok _ => true
      | .error _ => false) = true := by decide +kernel

/-- In the middle of the history (after `VAr`): the copy holds `[12, 11, 28]`
    (head = top) and the thread's real subsystem channel `[28, 11, 12]` (bottom …
    top); the real task-id channel shows the task. -/
example :
    (match replayT .nosv ⟨1, -1⟩ [] exEmu Ovni.Task.Emu.init (exHistS.take 6) with
      | .ok (e, ε, _) =>
        decide (ε.ss 0 = [12, 11, 28] ∧
          (e.src (.raw 0 1 4)).map (·.vals) = some [.int 28, .int 11, .int 12] ∧
          (e.src (.raw 0 1 1)).map (·.cur) = some (.int 1) ∧ (ε.ch 0).taskid = some 1)
      | .error _ => false) = true := by decide +kernel

/-- All hypotheses of `emu_run_task_driver` hold for `exHistS` (nOS-V at position
    1 of the spec list of `exEmu`): the bay run exists and the copy agrees with
    the thread channels at the end. -/
example : ∃ eF εF rs bF, replayT .nosv ⟨1, -1⟩ [] exEmu Ovni.Task.Emu.init exHistS = .ok (eF, εF, rs) ∧
    Inv exEmuBay eF bF ∧ Coupled .nosv 1 eF εF := by
  cases h : replayT .nosv ⟨1, -1⟩ [] exEmu Ovni.Task.Emu.init exHistS with
  | error x => have := exHistS_accepted; rw [h] at this; cases this
  | ok r =>
    obtain ⟨eF, εF, rs⟩ := r
    obtain ⟨b0, _, _, bF, _, _, _, _, hc, _, _, _, _, hiF, _, _, hcp⟩ :=
      emu_run_task_driver .nosv ⟨1, -1⟩ [(100, 10, 0), (101, 10, 0)] [(0, 0, false), (0, -1, true)] [79, 86] false []
        exHistS (k := 1) (by decide) (by rfl) exHistS_consistent h
    have hb : exEmuBay = b0 := Except.ok.inj (exEmuBay_connect.symm.trans hc)
    subst hb
    exact ⟨eF, εF, rs, bF, rfl, hiF, hcp⟩

/-- The consistency hypothesis is needed: the same push on the shared subsystem
    channel with no decoded event (`none` instead of `ssPush`) leaves the copy
    behind the channel. -/
example : ¬ Consistent .nosv ((0, 86, 72, 119, []), none) ∧
    (match replayT .nosv ⟨1, -1⟩ [] exEmu Ovni.Task.Emu.init
        [((0, 79, 72, 120, [0, 0, 0, 0]), none), ((0, 86, 72, 119, []), none)] with
      | .ok (e, ε, _) => decide (ε.ss 0 = [] ∧ (e.src (.raw 0 1 4)).map (·.vals) = some [.int 28])
      | .error _ => false) = true := by decide +kernel

/-- `task_hook_accepts_iff` at the initial state (`Shaped` from `emu_init`,
    `Coupled` from `coupled_init`): the type-creation event is accepted by the
    hook because the task layer accepts it. -/
example : ∃ e1, hookOf .nosv ⟨1, -1⟩ Ovni.Task.Emu.init (some (.typeCreate 1 7 true)) exEmu 0 86 89 [] = .ok e1 := by
  obtain ⟨_, _, hs, _⟩ := exEmu_init
  have hcp := coupled_init .nosv [(100, 10, 0), (101, 10, 0)] [(0, 0, false), (0, -1, true)] [79, 86] false []
    (k := 1) (by rfl)
  exact (task_hook_accepts_iff (tm := .nosv) (k := 1) hs (by rfl) hcp (by decide)).mpr
    ⟨⟨_, rfl⟩, Or.inr (Or.inl ⟨1, 7, true, rfl⟩)⟩

/-- A registration with `PRV_SKIPDUP | PRV_ZERO` (`ezRegs`, flags 10), the value
    0 written on the null channel: the line `1:10:0` is written by both sides and
    is not effective — the conclusion of `Bay.emit_step` fails there, that of
    `emit_step_zero` holds (`Lemmas/EmitZero.lean`, examples). -/
example : (∀ r ∈ ezRegs, DupOk r.flags ∧ ¬ NoZero r.flags) ∧
    ezB0.viewRecs ezRegs ezA.1 = .ok [⟨0, 1, 10, 0⟩] ∧ ezA.2.2 = [(0, ⟨0, 1, 10, 0⟩)] ∧
    effective [0] (0, ⟨0, 1, 10, 0⟩) = false ∧
    (ezB0.viewLinesT ezRegs ezA.1).filter (effective [0]) = ezA.2.2.filter (effective [0]) := by decide

end Ovni.Props.C06
