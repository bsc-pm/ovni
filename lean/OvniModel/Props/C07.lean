import OvniModel.Lemmas.TaskEmu
/-!
  C07 — task life-cycle: bodies follow their state machine, never run twice at once.

  Model: `OvniModel/Emu/Task.lean` (transcription of body.c, task.c and the
  `update_task` callers).  Specification: `OvniModel/Emu/TaskSpec.lean`
  (written from the property text and the body diagram).
-/
namespace Ovni.Props.C07
open Ovni.Task Ovni.Task.Spec

theorem accepts_iff {σ : Sys} {ops : List Op} : accepts σ ops = true ↔ ∃ σ', run σ ops = .ok σ' := by
  unfold accepts
  cases run σ ops <;> simp

/-- For every history of task.h API calls, the transcription of task.c/body.c
    accepts the whole history iff every step is
    legal in the life-cycle specification: created → running → (paused ↔
    running)* → dead, only the top of a thread's stack changes, nesting only over
    a non-running top unless the top's task relaxes it, several bodies only for
    parallel tasks, pausing only with the pause flag, running again after death
    only with the resurrect flag. -/
theorem task_accept_iff (ops : List Op) :
    accepts Sys.init ops = true ↔ Legal Abs.init ops :=
  accepts_iff.trans (run_ok_iff inv_init)

/-- The same from any state reached by an accepted history. -/
theorem task_accept_iff_from (pre ops : List Op) (σ : Sys) (h : run Sys.init pre = .ok σ) :
    accepts σ ops = true ↔ Legal (abs σ) ops :=
  accepts_iff.trans (run_ok_iff (run_inv inv_init h))

/-- After every accepted history: a body is listed on
    at most one thread's stack and at most once; it is listed exactly when it is
    Running or Paused, and exactly on the stack its back pointer names.  Hence no
    body is ever running (or paused) on two threads. -/
theorem body_unique_thread (ops : List Op) (σ : Sys) (h : run Sys.init ops = .ok σ)
    (t b s₁ s₂ : Nat) (h₁ : (t, b) ∈ σ.stacks s₁) (h₂ : (t, b) ∈ σ.stacks s₂) :
    s₁ = s₂ ∧ (σ.stacks s₁).count (t, b) = 1 ∧
      ∃ B, σ.bodies t b = some B ∧ B.stack = some s₁ ∧
        (B.state = .running ∨ B.state = .paused) :=
  (run_inv inv_init h).unique_thread h₁ h₂

/-- Conversely a Running or Paused body is on exactly the stack of one thread. -/
theorem running_body_has_thread (ops : List Op) (σ : Sys) (h : run Sys.init ops = .ok σ)
    (t b : Nat) (B : Body) (hB : σ.bodies t b = some B)
    (hst : B.state = .running ∨ B.state = .paused) :
    ∃ s, B.stack = some s ∧ (t, b) ∈ σ.stacks s ∧ ∀ s', (t, b) ∈ σ.stacks s' → s' = s :=
  (run_inv inv_init h).has_thread hB hst

/-! Non-vacuity: a concrete accepted history with two threads, a parallel task
    whose bodies run at once on both, and a pausable task nested under one. -/
def demo : List Op :=
  [ .typeCreate 1 1234, .create 1 10 ⟨false, true, true, false⟩, .create 1 20 ⟨true, false, false, false⟩,
    .exec 0 10 1, .pause 0 10 1, .exec 0 20 1, .exec 1 20 2, .end_ 0 20 1, .resume 0 10 1,
    .end_ 0 10 1, .end_ 1 20 2, .exec 1 10 1 ]

example : accepts Sys.init demo = true := by decide
example : Legal Abs.init demo := (task_accept_iff demo).1 (by decide)
/-- …and illegal steps are refused: pausing a parallel body, resuming a non-top body. -/
example : accepts Sys.init (demo.take 7 ++ [.pause 1 20 2]) = false := by decide
example : accepts Sys.init (demo.take 7 ++ [.resume 0 10 1]) = false := by decide
example : ¬ Legal Abs.init (demo.take 7 ++ [.resume 0 10 1]) :=
  fun h => absurd ((task_accept_iff _).2 h) (by decide)

/-- After every accepted history, every body that lies
    below another one in a thread's stack is Paused, or its task carries the
    relaxed-nesting flag (Nanos6 compatibility). -/
theorem nested_over_paused (ops : List Op) (σ : Sys) (h : run Sys.init ops = .ok σ)
    (s : Nat) (r : Ref) (rest : List Ref) (hs : σ.stacks s = r :: rest) (x : Ref) (hx : x ∈ rest) :
    (∃ B, σ.bodies x.1 x.2 = some B ∧ B.state = .paused) ∨
    (∃ T, σ.tasks x.1 = some T ∧ T.flags.relax = true) := by
  have hb : Inv σ ∧ Below (abs σ) := ⟨run_inv inv_init h, run_below inv_init below_init h⟩
  -- a stacked body is Paused or Running
  rcases (ainv_of_inv hb.1).memPhase s x.1 x.2 (show x ∈ σ.stacks s from hs ▸ List.mem_cons_of_mem r hx) with hrun | hp
  · right
    obtain ⟨f, hf, hr⟩ := hb.2 s r rest hs x hx hrun
    obtain ⟨T, hT, rfl⟩ := abs_flags.1 hf
    exact ⟨T, hT, hr⟩
  · exact .inl (bodyOfPhase hp)

/-! Event level: nOS-V and Nanos6 `update_task`.
  `P.appid > 0` is what proc.c guarantees for every process: `load_appid` refuses a value ≤ 0 and
  `proc_init_end` a process that no stream gave one. -/

def eaccepts (m : Model) (P : ProcInfo) (evs : List Ev) : Bool :=
  match Emu.run m P Emu.init evs with
  | .ok _ => true
  | .error _ => false

/-- `task_accept_iff` at the event level.  For every history of task-type, task
    creation, task state and subsystem events of one process, the
    transcription of the nOS-V / Nanos6 handlers accepts it iff
    every event is legal in the event-level specification: the life-cycle step
    of the named body is legal (`Spec.Step`), with the flags the model gives to
    created tasks and the body-id convention of the payload, task id 0 never
    runs, and the subsystem stack accepts the "running body" push / pop.  In
    particular none of the `chan_set` duplicate checks on the task channels can
    ever fire in a life-cycle-legal history. -/
theorem event_accept_iff (m : Model) (P : ProcInfo) (hP : 0 < P.appid) (evs : List Ev) :
    eaccepts m P evs = true ↔ ELegal m EAbs.init evs := by
  rw [show EAbs.init = eabs Emu.init from rfl, ← erun_ok_iff hP (einv_init m P)]
  unfold eaccepts
  cases Emu.run m P Emu.init evs <;> simp

/-- `body_unique_thread` at the event level (any number of threads). -/
theorem event_body_unique_thread (m : Model) (P : ProcInfo) (hP : 0 < P.appid) (evs : List Ev)
    (ε : Emu) (h : Emu.run m P Emu.init evs = .ok ε)
    (t b th₁ th₂ : Nat) (h₁ : (t, b) ∈ ε.sys.stacks th₁) (h₂ : (t, b) ∈ ε.sys.stacks th₂) :
    th₁ = th₂ ∧ (ε.sys.stacks th₁).count (t, b) = 1 :=
  have ⟨hu, hc, _⟩ := (erun_inv hP (einv_init m P) h).inv.unique_thread h₁ h₂
  ⟨hu, hc⟩

/-- After every accepted event history, for every thread: if
    the top of its stack is a Running body `B` of task `T`, the thread's task
    channels hold exactly task id, type gid, body id, app id and rank+1 (Nanos6
    has no body-id / app-id channels; rank only if the process has one); and
    if no body is running on top they are all null. -/
theorem task_view (m : Model) (P : ProcInfo) (hP : 0 < P.appid) (evs : List Ev)
    (ε : Emu) (h : Emu.run m P Emu.init evs = .ok ε) (th : Nat) :
    (∀ T B, ε.sys.runningT th = some (T, B) →
        ε.ch th = (match m with
          | .nosv => ⟨some T.id, some T.gid, some B.id, some P.appid, rankVal P⟩
          | .nanos6 => ⟨some T.id, some T.gid, none, none, rankVal P⟩) ∧
        T.id ≠ 0 ∧ T.gid ≠ 0 ∧ B.id ≠ 0 ∧ B.state = .running ∧ B.stack = some th) ∧
    (ε.sys.runningT th = none → ε.ch th = Chans.null) := by
  have ei := erun_inv hP (einv_init m P) h
  constructor
  · intro T B hr
    obtain ⟨⟨t, b⟩, hh, hB, hrun, hT⟩ := runningT_some.1 hr
    refine ⟨?_, ?_, ei.gid t T hT, ?_, hrun, ei.inv.stackOf (List.mem_of_head? hh) hB⟩
    · rw [ei.view th, hr]; cases m <;> rfl
    · rw [ei.inv.taskId t T hT]; exact ei.noZero t b B hB
    · rw [ei.inv.bodyId t b B hB]; exact (ei.inv.body t b B hB).1
  · intro hr
    rw [ei.view th, hr]; rfl

/-- nOS-V never relaxes nesting, so "the running top" is "the running body":
    whenever any body on a thread's stack is Running, it is the top and the
    thread shows it; when none is Running the thread shows nothing. -/
theorem task_view_nosv (P : ProcInfo) (hP : 0 < P.appid) (evs : List Ev)
    (ε : Emu) (h : Emu.run .nosv P Emu.init evs = .ok ε) (th t b : Nat) (B : Body)
    (hm : (t, b) ∈ ε.sys.stacks th) (hB : ε.sys.bodies t b = some B) (hrun : B.state = .running) :
    ∃ T, ε.sys.tasks t = some T ∧
      ε.ch th = ⟨some (t : Int), some (T.gid : Int), some (b : Int), some P.appid, rankVal P⟩ := by
  have ei := erun_inv hP (einv_init .nosv P) h
  obtain ⟨_, _, T, hT, _⟩ := ei.inv.body t b B hB
  -- a running body cannot be below the top in nOS-V
  have htop : (ε.sys.stacks th).head? = some (t, b) := by
    cases hl : ε.sys.stacks th with
    | nil => rw [hl] at hm; cases hm
    | cons r rest =>
      rw [hl] at hm
      rcases List.mem_cons.1 hm with rfl | hin
      · rfl
      · obtain ⟨f, hf, hr⟩ := ei.below th r rest hl (t, b) hin ((abs_phase_iff hB).2 hrun)
        obtain ⟨T2, hT2, rfl⟩ := abs_flags.1 hf
        cases ei.relax_nanos6 hT2 hr
  have hr : ε.sys.runningT th = some (T, B) := runningT_some.2 ⟨(t, b), htop, hB, hrun, hT⟩
  refine ⟨T, hT, ?_⟩
  rw [ei.view th, hr, ← ei.inv.taskId t T hT, ← ei.inv.bodyId t b B hB]
  rfl

theorem lintOk_iff {ε : Emu} {ths : List Nat} : ε.lintOk ths = true ↔ ∀ th ∈ ths, ε.ss th = [] := by
  simp [Emu.lintOk]

/-- **Linter mode** (`ovniemu -l`): the trace is accepted iff the specification
    run exists and ends with an empty subsystem stack on every thread of the trace. -/
theorem lint_accept_iff (m : Model) (P : ProcInfo) (hP : 0 < P.appid) (evs : List Ev) (ths : List Nat) :
    (∃ ε, Emu.run m P Emu.init evs = .ok ε ∧ ε.lintOk ths = true) ↔
      ∃ e, ERun m EAbs.init evs e ∧ ∀ th ∈ ths, e.ss th = [] := by
  constructor
  · rintro ⟨ε, h, hl⟩
    exact ⟨eabs ε, (erun_final hP (einv_init m P) _).1 ⟨ε, h, rfl⟩, lintOk_iff.1 hl⟩
  · rintro ⟨e, hr, hl⟩
    obtain ⟨ε, h, rfl⟩ := (erun_final hP (einv_init m P) e).2 hr
    exact ⟨ε, h, lintOk_iff.2 hl⟩

/-- The table-driven subsystem events of both models never push or pop the
    "running body" value themselves (whole generated tables).  A row is (category, value,
    channel, action, state): channel 4 / 2 is the subsystem channel of nOS-V / Nanos6
    (`TaskChanIdx.nosv.ss`, `.nanos6.ss` of Emu/TaskHook). -/
theorem table_events_clean :
    (∀ row ∈ Ovni.Generated.Nosv.table, row.2.2.1 = 4 → row.2.2.2.2 ≠ Cfg.nosv.stTaskBody) ∧
    (∀ row ∈ Ovni.Generated.Nanos6.table, row.2.2.1 = 2 → row.2.2.2.2 ≠ Cfg.nanos6.stTaskBody) := by
  decide

/-- In linter mode an accepted trace leaves no body Running or Paused: every
    thread's body stack is empty at the end (given that the other subsystem
    events do not fake the "running body" value: the hypothesis `Ev.clean`; that the generated
    tables meet it is `table_events_clean`, which no theorem connects to `Ev.clean`). -/
theorem lint_all_ended (m : Model) (P : ProcInfo) (hP : 0 < P.appid) (evs : List Ev) (ε : Emu)
    (h : Emu.run m P Emu.init evs = .ok ε) (hcl : ∀ ev ∈ evs, ev.clean m)
    (ths : List Nat) (hl : ε.lintOk ths = true) :
    ∀ th ∈ ths, ε.sys.stacks th = [] := by
  intro th hth
  have hc := sscovers_run hP (einv_init m P) (fun _ => Nat.le_refl 0) hcl h th
  rw [lintOk_iff.1 hl th hth] at hc
  exact List.eq_nil_of_length_eq_zero (by simpa using hc)

/-! Non-vacuity at the event level: an nOS-V history with a parallel task on two
    threads and nesting over a paused task; a Nanos6 history with relaxed
    nesting, here with a subsystem change in between. -/
def demoNosv : List Ev :=
  [ .typeCreate 5 123456 true, .taskCreate false 9 5, .taskCreate true 10 5,
    .task 0 .x 9 0, .task 1 .x 10 3, .task 0 .p 9 0, .task 0 .x 10 4, .ssPush 0 (Ovni.Generated.Nosv.stTaskBody + 1), .ssPop 0 (Ovni.Generated.Nosv.stTaskBody + 1),
    .task 0 .e 10 4, .task 0 .r 9 0, .task 0 .e 9 0, .task 1 .e 10 3, .task 1 .x 9 0 ]

def demoNanos6 : List Ev :=
  [ .typeCreate 1 99 true, .taskCreate false 1 1, .taskCreate false 2 1,
    .task 0 .x 1 0, .ssPush 0 (Ovni.Generated.Nanos6.stTaskBody + 3), .task 0 .x 2 0, .task 0 .e 2 0, .ssPop 0 (Ovni.Generated.Nanos6.stTaskBody + 3), .task 0 .e 1 0 ]

def P0 : ProcInfo := ⟨7, 2⟩

example : eaccepts .nosv P0 demoNosv = true := by decide
example : ELegal .nosv EAbs.init demoNosv := (event_accept_iff .nosv P0 (by decide) _).1 (by decide)
example : eaccepts .nanos6 P0 demoNanos6 = true := by decide
example : ∀ ev ∈ demoNosv, ev.clean .nosv := by
  intro ev h; simp only [demoNosv, List.mem_cons, List.not_mem_nil, or_false] at h
  rcases h with h | h | h | h | h | h | h | h | h | h | h | h | h | h <;> subst h <;> simp [Ev.clean, Cfg.nosv, Model.cfg, Ovni.Generated.Nosv.stTaskBody]
/-- the view while body 1 of task 9 runs on thread 0 (rank 2 shows as 3), and after it paused -/
example : (match Emu.run .nosv P0 Emu.init (demoNosv.take 4) with
    | .ok ε => ε.ch 0 | .error _ => Chans.null) = ⟨some 9, some (gidOf 123456), some 1, some 7, some 3⟩ := by decide
example : (match Emu.run .nosv P0 Emu.init (demoNosv.take 6) with
    | .ok ε => (ε.ch 0, ε.ch 1) | .error _ => (Chans.null, Chans.null))
    = (Chans.null, ⟨some 10, some (gidOf 123456), some 3, some 7, some 3⟩) := by decide
/-- Nanos6 accepts the relaxed nesting made of task events alone (its subsystem channel allows
    duplicates, so the second ST_TASK_BODY push goes through; the flag is generated from the
    source) … -/
example : eaccepts .nanos6 P0 [.typeCreate 1 99 true, .taskCreate false 1 1, .taskCreate false 2 1,
    .task 0 .x 1 0, .task 0 .x 2 0] = true := by decide
/-- … nOS-V refuses nesting over a running body, pausing a parallel body, a body id on a
    non-parallel task and running a body that is running on another thread. -/
example : eaccepts .nosv P0 (demoNosv.take 5 ++ [.task 0 .x 10 4]) = false := by decide
example : eaccepts .nosv P0 (demoNosv.take 5 ++ [.task 1 .p 10 3]) = false := by decide
example : eaccepts .nosv P0 (demoNosv.take 3 ++ [.task 0 .x 9 1]) = false := by decide
example : eaccepts .nosv P0 (demoNosv.take 6 ++ [.task 0 .x 10 3]) = false := by decide

end Ovni.Props.C07
