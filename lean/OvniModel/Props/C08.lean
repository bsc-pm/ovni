import OvniModel.Props.C08Stack
import OvniModel.Emu.Core
import OvniModel.Spec.EventValues
import OvniModel.Spec.TrackModes
import OvniModel.Lemmas.BitSet
import OvniModel.Lemmas.ListLemmas

/-!
# C08 — subsystem events nest like a stack and map to documented values

Model: `Emu/Chan.lean` (chan_push / chan_pop / chan_set of src/emu/chan.c) and
the generated event tables.  One emulator event = one channel operation
followed by the flush of `bay_propagate`.
-/
namespace Ovni.Props.C08
open Ovni.Emu Ovni.Generated

/-- In lint mode a trace that ends with an open subsystem / function region of
    an enabled model is rejected. -/
theorem lint_open_rejected (e : Emu) (hl : e.lint = true) (ho : lintOpen e = true) :
    finish e = .error .finish := by
  unfold finish
  split
  · rfl
  · simp [hl, ho]

theorem finish_ok_iff (e : Emu) :
    finish e = .ok () ↔ (e.threads.all (fun t => t.state = .dead) = true) ∧ (e.lint = false ∨ lintOpen e = false) := by
  unfold finish
  by_cases h1 : e.threads.any (fun t => t.state ≠ .dead) = true
  · simp only [h1, if_true, reduceCtorEq, false_iff]
    intro ⟨hall, _⟩
    simp only [List.any_eq_true, List.all_eq_true, decide_eq_true_eq] at h1 hall
    obtain ⟨t, ht, hne⟩ := h1
    have hne' : ¬ (t.state = ThState.dead) := by simpa using hne
    exact hne' (hall t ht)
  · simp only [h1, if_false, Bool.false_eq_true]
    have hall : e.threads.all (fun t => t.state = .dead) = true := by
      simp only [List.any_eq_true, not_exists, not_and, List.all_eq_true, decide_eq_true_eq] at h1 ⊢
      intro t ht
      have := h1 t ht
      simpa using this
    cases hl : e.lint <;> cases ho : lintOpen e <;> simp [hall]

/-- `(category, value, channel, action, state)`; actions: 1 push, 2 pop, 3 set, 4 ignore (`tableEvent`) -/
abbrev Row := Nat × Nat × Nat × Nat × Int

def pushes (t : List Row) : List Row := t.filter (fun r => r.2.2.2.1 == 1)
def pops (t : List Row) : List Row := t.filter (fun r => r.2.2.2.1 == 2)

/-- every enter has a leave with the same channel and value, and vice versa -/
def Paired (t : List Row) : Bool :=
  (pushes t).all (fun p => (pops t).any (fun q => q.2.2.1 == p.2.2.1 && q.2.2.2.2 == p.2.2.2.2)) &&
  (pops t).all (fun q => (pushes t).any (fun p => q.2.2.1 == p.2.2.1 && q.2.2.2.2 == p.2.2.2.2))

/-- distinct enter events of one channel carry distinct values -/
def DistinctValues (t : List Row) : Bool :=
  (pushes t).all (fun p => (pushes t).all (fun q =>
    (p.1 == q.1 && p.2.1 == q.2.1) || !(p.2.2.1 == q.2.2.1 && p.2.2.2.2 == q.2.2.2.2)))

/-- every value an event can write has a label in the PCF value table of its channel -/
def Labelled (t : List Row) (labels : List (List (Int × String))) : Bool :=
  t.all (fun r => r.2.2.2.1 == 4 || ((labels.getD r.2.2.1 []).any (fun l => l.1 == r.2.2.2.2)))

/-- all actions are known (push / pop / set / ignore) and channels are in range -/
def WellFormed (t : List Row) (nch : Nat) : Bool :=
  t.all (fun r => (r.2.2.2.1 == 1 || r.2.2.2.1 == 2 || r.2.2.2.1 == 3 || r.2.2.2.1 == 4) && decide (r.2.2.1 < nch))

/-- channel and state value of a row as one number (injective while the value is in `[0, 65536)`) -/
def chanVal (r : Row) : Nat := r.2.2.1 * 65536 + r.2.2.2.2.toNat

def valsSmall (t : List Row) : Bool := t.all fun r => 0 ≤ r.2.2.2.2 && r.2.2.2.2 < 65536

open Ovni.BitSet in
/-- `Paired` asks every enter for a leave by search; the same holds when the two sets of
    `(channel, value)` have the same bit mask. -/
theorem paired_of_bits (t : List Row) (h : (valsSmall (pushes t) && valsSmall (pops t) &&
    bits ((pushes t).map chanVal) == bits ((pops t).map chanVal)) = true) : Paired t = true := by
  simp only [Bool.and_eq_true, beq_iff_eq, valsSmall, List.all_eq_true, decide_eq_true_eq] at h
  obtain ⟨⟨hp, hq⟩, hb⟩ := h
  have hm := fun n => mem_iff_of_bits_eq hb n
  simp only [List.mem_map] at hm
  have key : ∀ p ∈ pushes t, ∀ q ∈ pops t, chanVal q = chanVal p →
      q.2.2.1 = p.2.2.1 ∧ q.2.2.2.2 = p.2.2.2.2 := by
    intro p hpm q hqm he
    have := hp p hpm
    have := hq q hqm
    simp only [chanVal] at he
    omega
  simp only [Paired, Bool.and_eq_true, List.all_eq_true, List.any_eq_true, beq_iff_eq]
  refine ⟨fun p hpm => ?_, fun q hqm => ?_⟩
  · obtain ⟨q, hqm, he⟩ := (hm _).mp ⟨p, hpm, rfl⟩
    exact ⟨q, hqm, key p hpm q hqm he⟩
  · obtain ⟨p, hpm, he⟩ := (hm _).mpr ⟨q, hqm, rfl⟩
    exact ⟨p, hpm, key p hpm q hqm he.symm⟩

open Ovni.BitSet in
/-- `DistinctValues` compares every two enter events; it is enough that their `(channel, value)`
    numbers are pairwise distinct, which one pass over the list finds out. -/
theorem distinct_of_fresh (t : List Row) (h : fresh ((pushes t).map chanVal) 0 = true) :
    DistinctValues t = true := by
  have hn := (fresh_spec _ _ h).1
  simp only [DistinctValues, List.all_eq_true, Bool.or_eq_true, Bool.and_eq_true, beq_iff_eq,
    Bool.not_eq_true', Bool.and_eq_false_iff, beq_eq_false_iff_ne]
  intro p hp q hq
  by_cases hk : p.2.2.1 = q.2.2.1 ∧ p.2.2.2.2 = q.2.2.2.2
  · rw [eq_of_nodup_map (f := chanVal) hn hp hq (by simp [chanVal, hk])]
    exact Or.inl ⟨rfl, rfl⟩
  · exact Or.inr (Classical.not_and_iff_not_or_not.mp hk)

theorem tables_paired :
    Paired Nosv.table ∧ Paired Nanos6.table ∧ Paired Nodes.table ∧ Paired Tampi.table ∧
    Paired Mpi.table ∧ Paired Openmp.table ∧ Paired specKernel.table := by
  refine ⟨?_, ?_, ?_, ?_, ?_, ?_, ?_⟩ <;> exact paired_of_bits _ (by decide +kernel)

theorem tables_distinct_values :
    DistinctValues Nosv.table ∧ DistinctValues Nanos6.table ∧ DistinctValues Nodes.table ∧
    DistinctValues Tampi.table ∧ DistinctValues Mpi.table ∧ DistinctValues Openmp.table := by
  refine ⟨?_, ?_, ?_, ?_, ?_, ?_⟩ <;> exact distinct_of_fresh _ (by decide +kernel)

theorem tables_labelled :
    Labelled Nosv.table Nosv.labels ∧ Labelled Nanos6.table Nanos6.labels ∧
    Labelled Nodes.table Nodes.labels ∧ Labelled Tampi.table Tampi.labels ∧
    Labelled Mpi.table Mpi.labels ∧ Labelled Openmp.table Openmp.labels ∧
    Labelled specKernel.table Kernel.labels := by decide +kernel

theorem tables_wellformed :
    WellFormed Nosv.table Nosv.nch ∧ WellFormed Nanos6.table Nanos6.nch ∧
    WellFormed Nodes.table Nodes.nch ∧ WellFormed Tampi.table Tampi.nch ∧
    WellFormed Mpi.table Mpi.nch ∧ WellFormed Openmp.table Openmp.nch := by decide +kernel

/-- push/pop/set only on stack resp. single channels, so the table never
    triggers the "wrong channel type" error -/
def TypesOK (t : List Row) (stack : List Bool) : Bool :=
  t.all (fun r => r.2.2.2.1 == 4 ||
    (if r.2.2.2.1 == 3 then !(stack.getD r.2.2.1 false) else stack.getD r.2.2.1 false))

theorem tables_types_ok :
    TypesOK Nosv.table Nosv.chanStack ∧ TypesOK Nanos6.table Nanos6.chanStack ∧
    TypesOK Nodes.table Nodes.chanStack ∧ TypesOK Tampi.table Tampi.chanStack ∧
    TypesOK Mpi.table Mpi.chanStack ∧ TypesOK Openmp.table Openmp.chanStack := by decide +kernel

/-- The six models of which `Spec/EventValues.lean` lists events (it lists none of the kernel model). -/
def lookup (m : Nat) : List Row × List (List (Int × String)) :=
  if m = Nosv.modelChar then (Nosv.table, Nosv.labels)
  else if m = Nanos6.modelChar then (Nanos6.table, Nanos6.labels)
  else if m = Nodes.modelChar then (Nodes.table, Nodes.labels)
  else if m = Tampi.modelChar then (Tampi.table, Tampi.labels)
  else if m = Mpi.modelChar then (Mpi.table, Mpi.labels)
  else if m = Openmp.modelChar then (Openmp.table, Openmp.labels)
  else ([], [])

def matchesDoc (d : Nat × Nat × Nat × Nat × Nat × Int × String) : Bool :=
  let (m, c, v, ch, act, val, label) := d
  let (t, labels) := lookup m
  t.any (fun r => r.1 == c && r.2.1 == v && r.2.2.1 == ch && r.2.2.2.1 == act && r.2.2.2.2 == val) &&
  (act == 4 || (labels.getD ch []).any (fun l => l.1 == val && l.2 == label))

/-- `matchesDoc` searches the table of the model once for every event.  The committed mapping lists
    the events model by model and by ascending code, as does the table of a model (the generator walks
    the C array): one pass over the tables of the models, laid end to end in the order of the mapping,
    meets the documented rows in their order. -/
def fastMatchesDoc (docs : List (Nat × Nat × Nat × Nat × Nat × Int × String)) : Bool :=
  (docs.map fun (m, c, v, ch, act, val, _) => (m, c, v, ch, act, val)).isSublist
    ((docs.map (·.1)).eraseReps.flatMap fun m => (lookup m).1.map (m, ·)) &&
  docs.all fun (m, _, _, ch, act, val, label) =>
    act == 4 || ((lookup m).2.getD ch []).any (fun l => l.1 == val && l.2 == label)

theorem fastMatchesDoc_sound {docs : List (Nat × Nat × Nat × Nat × Nat × Int × String)}
    (h : fastMatchesDoc docs = true) : docs.all matchesDoc = true := by
  simp only [fastMatchesDoc, Bool.and_eq_true, List.all_eq_true, List.isSublist_iff_sublist] at h ⊢
  intro ⟨m, c, v, ch, act, val, label⟩ hd
  obtain ⟨m', -, hr⟩ := List.mem_flatMap.mp (h.1.subset (List.mem_map.mpr ⟨_, hd, rfl⟩))
  obtain ⟨r, hr, he⟩ := List.mem_map.mp hr
  cases he
  simp only [matchesDoc, Bool.and_eq_true]
  exact ⟨List.any_eq_true.mpr ⟨_, hr, by simp⟩, h.2 _ hd⟩

/-- **Documented mapping.** Every event of the committed mapping (`Spec/EventValues.lean`: model,
    code, channel, action, value, label — taken from the documentation and the tree) is mapped by
    the generated tables to the same channel, action and value, and that value carries the same
    label.  One inclusion only: events of the tables that the mapping does not list are not
    constrained. -/
theorem table_matches_documented : Ovni.Spec.eventValues.all matchesDoc = true :=
  fastMatchesDoc_sound (by decide +kernel)

def matchesTrackDoc (d : Nat × List Nat × List Nat) : Bool :=
  Ovni.Emu.allSpecs.any (fun s => s.char == d.1 && s.thTrack == d.2.1 && s.cpuTrack == d.2.2)

/-- **The tracking modes of the code are the documented ones** (`Spec/TrackModes.lean`, committed): for
    every model, per channel, whether the thread row shows the value always / while running / while
    active, and that the CPU row follows the running thread; and no model is missing from the list. -/
theorem track_modes_match_documented :
    Ovni.Spec.trackModes.all matchesTrackDoc = true ∧
    Ovni.Emu.allSpecs.all (fun s => Ovni.Spec.trackModes.any (fun d => d.1 == s.char)) = true := by decide +kernel

theorem stateGuard_out (m : ModelSpec) (t : Thread) (ho : t.outOfCpu = true) (hm : m.checkOutOfCpu = true) :
    stateGuard m t = .error .state := by
  unfold stateGuard
  by_cases h1 : (m.stateReq = 1 && !t.state.isRunning) = true
  · simp [h1]; rfl
  · by_cases h2 : (m.stateReq = 2 && !t.state.isActive) = true
    · simp [h1, h2]; rfl
    · simp [h1, h2, ho, hm]; rfl

/-- **No subsystem event from a switched-out thread.**  For every model whose `process_ev` tests
    `is_out_of_cpu` (generated fact `checkOutOfCpu`), every thread that the kernel model has marked
    out of the CPU — whatever thread state it is in — and every event code, the table handler
    refuses the event. -/
theorem out_of_cpu_rejects (e : Emu) (ti : Nat) (m : ModelSpec) (c v : Nat) (t : Thread)
    (ht : e.threads[ti]? = some t) (ho : t.outOfCpu = true) (hm : m.checkOutOfCpu = true) :
    tableEvent e ti m c v = .error .state := by
  unfold tableEvent
  simp only [ht]
  simp [stateGuard_out m t ho hm, bind, Except.bind]

/-- … the same for every event of the ovni model (thread, affinity, burst, flush, mark events) -/
theorem out_of_cpu_rejects_ovni (e : Emu) (ti : Nat) (c v : Nat) (payload : List Nat) (t : Thread)
    (hook : Emu → Nat → Nat → List Nat → Except Err Emu)
    (ht : e.threads[ti]? = some t) (ho : t.outOfCpu = true) :
    ovniEvent e ti c v payload hook = .error .state := by
  unfold ovniEvent
  simp [ht, ho, bind, Except.bind]
  rfl

/-- which models test the flag, and which events set and clear it (generated handler facts):
    nOS-V tests it; the kernel's rows are `KCO` ↦ set and `KCI` ↦ clear.  The kernel model has no state
    guard, so `tableEvent` applies these rows whatever state the thread is in (by the event code only). -/
theorem out_of_cpu_facts :
    specNosv.checkOutOfCpu = true ∧ specKernel.outOfCpu = [(67, 79, true), (67, 73, false)] := by decide +kernel

example : Rep ({ isStack := true } : Chan) [] := ⟨rfl, rfl, rfl, rfl, rfl⟩
example : specRun 512 false [] [.push 7, .push 9, .pop 9, .push 9, .pop 9, .pop 7] = some [] := by decide
/-- re-entering the innermost open region is refused on a channel without ALLOW_DUP -/
example : specRun 512 false [] [.push 7, .push 7] = none := by decide
example : (runOps 512 ({ isStack := true } : Chan) [.push 7, .push 7]).toOption.isNone = true := by decide

end Ovni.Props.C08
