import OvniModel.Lemmas.Chan

/-!
# C08, part one — subsystem events nest like a stack (channel discipline)

The table-independent half of C08: `chan_push` / `chan_pop` of src/emu/chan.c,
each followed by `chan_flush`, refine a stack specification.  Kept apart from the facts about
the generated event tables (`Props/C08.lean`) so that properties which only use
the channel discipline (C17) do not depend on the tables.
-/
namespace Ovni.Props.C08
open Ovni.Emu

inductive SOp where
  | push (v : Int)
  | pop (v : Int)
deriving DecidableEq, Repr

/-- Implementation side: operation, then flush (one event). -/
def applyOp (maxStack : Nat) (c : Chan) : SOp → Except Err Chan
  | .push v => (c.push maxStack (.int v)).map Chan.flush
  | .pop v => (c.pop (.int v)).map Chan.flush

def runOps (maxStack : Nat) : Chan → List SOp → Except Err Chan
  | c, [] => .ok c
  | c, op :: ops => match applyOp maxStack c op with
    | .error e => .error e
    | .ok c' => runOps maxStack c' ops

/-- Specification, written from the property text: a leave must match the
    innermost open region; an enter must not re-enter the innermost open region
    (unless the channel allows duplicates) nor exceed the depth limit. -/
def specOp (maxStack : Nat) (allowDup : Bool) (stk : List Int) : SOp → Option (List Int)
  | .push v =>
    if !allowDup && stk.getLast? = some v then none
    else if stk.length ≥ maxStack then none
    else some (stk ++ [v])
  | .pop v => if stk.getLast? = some v then some stk.dropLast else none

def specRun (maxStack : Nat) (allowDup : Bool) : List Int → List SOp → Option (List Int)
  | stk, [] => some stk
  | stk, op :: ops => match specOp maxStack allowDup stk op with
    | none => none
    | some stk' => specRun maxStack allowDup stk' ops

/-- A flushed stack channel holding `stk`, without `IGNORE_DUP`: with that property a duplicate
    push is dropped silently where `specOp` refuses it. -/
structure Rep (c : Chan) (stk : List Int) : Prop where
  isStack : c.isStack = true
  vals : c.vals = stk.map Value.int
  clean : c.dirty = false
  last : c.last = c.cur
  noIgnore : c.ignoreDup = false

theorem cur_of_rep {c : Chan} {stk : List Int} (h : Rep c stk) :
    c.cur = match stk.getLast? with | some v => .int v | none => .null := by
  unfold Chan.cur
  rw [h.vals, List.getLast?_map]
  cases stk.getLast? <;> rfl

/-- **The timeline shows the innermost open region** (nothing when none is open). -/
theorem view_is_top {c : Chan} {stk : List Int} (h : Rep c stk) :
    c.cur = match stk.getLast? with | some v => .int v | none => .null := cur_of_rep h

theorem rep_flush {c : Chan} {stk : List Int} (h : Rep c stk) (stk' : List Int) :
    Rep (c.wr (stk'.map Value.int)).flush stk' :=
  ⟨h.isStack, rfl, rfl, rfl, h.noIgnore⟩

theorem last_of_rep {c : Chan} {stk : List Int} (h : Rep c stk) (v : Int) :
    (c.last = Value.int v) ↔ stk.getLast? = some v := by
  rw [h.last, cur_of_rep h]
  cases stk.getLast? with
  | none => simp
  | some t =>
    constructor
    · intro hh; cases hh; rfl
    · intro hh; cases hh; rfl

/- On a flushed stack channel the guards of `chan_push` / `chan_pop` are those of `specOp`, one for
   one: the channel type and the dirty flag never refuse, and `last_value` is the top of the stack. -/

theorem push_iff {c c' : Chan} {stk : List Int} (h : Rep c stk) (maxStack : Nat) (v : Int) :
    c.push maxStack (.int v) = .ok c' ↔
      ¬ (c.allowDup = false ∧ stk.getLast? = some v) ∧ stk.length < maxStack ∧
        c' = c.wr ((stk ++ [v]).map .int) := by
  rw [Chan.push_ok_iff, Chan.IsDup, last_of_rep h, h.vals, List.length_map, h.noIgnore]
  simp [h.isStack, Chan.open_of_clean h.clean]

theorem pop_iff {c c' : Chan} {stk : List Int} (h : Rep c stk) (v : Int) :
    c.pop (.int v) = .ok c' ↔ stk.getLast? = some v ∧ c' = c.wr (stk.dropLast.map .int) := by
  rw [Chan.pop_ok_iff, h.vals, List.getLast?_map]
  simp [h.isStack, Chan.open_of_clean h.clean, List.map_dropLast]

theorem push_ok {c : Chan} {stk : List Int} (h : Rep c stk) (maxStack : Nat) (v : Int)
    (hd : c.allowDup = true ∨ stk.getLast? ≠ some v) (hf : stk.length < maxStack) :
    c.push maxStack (.int v) = .ok { c with vals := c.vals ++ [Value.int v], dirty := true } := by
  rw [(push_iff h maxStack v).mpr ⟨fun ⟨ha, hl⟩ => hd.elim (by simp [ha]) (· hl), hf, rfl⟩, Chan.wr, h.vals,
    List.map_append]
  rfl

theorem push_err {c : Chan} {stk : List Int} (h : Rep c stk) (maxStack : Nat) (v : Int)
    (hd : (c.allowDup = false ∧ stk.getLast? = some v) ∨ stk.length ≥ maxStack) :
    ∃ e, c.push maxStack (.int v) = .error e :=
  (error_iff_not_ok _).mpr fun ⟨_, hc⟩ =>
    have ⟨hn, hlt, _⟩ := (push_iff h maxStack v).mp hc
    hd.elim hn (Nat.not_le_of_lt hlt)

theorem pop_ok {c : Chan} {stk : List Int} (h : Rep c stk) (v : Int) (ht : stk.getLast? = some v) :
    c.pop (.int v) = .ok { c with vals := c.vals.dropLast, dirty := true } := by
  rw [(pop_iff h v).mpr ⟨ht, rfl⟩, Chan.wr, h.vals, List.map_dropLast]

theorem pop_err {c : Chan} {stk : List Int} (h : Rep c stk) (v : Int) (ht : stk.getLast? ≠ some v) :
    ∃ e, c.pop (.int v) = .error e :=
  (error_iff_not_ok _).mpr fun ⟨_, hc⟩ => ht ((pop_iff h v).mp hc).1

theorem applyOp_ok_iff {c c' : Chan} {stk : List Int} (h : Rep c stk) (maxStack : Nat) (op : SOp) :
    applyOp maxStack c op = .ok c' ↔
      ∃ stk', specOp maxStack c.allowDup stk op = some stk' ∧ c' = (c.wr (stk'.map .int)).flush := by
  cases op with
  | push v =>
    simp [applyOp, specOp, map_ok_iff, push_iff h, ite_eq_iff, and_assoc, @eq_comm _ (stk ++ [v])]
  | pop v =>
    simp [applyOp, specOp, map_ok_iff, pop_iff h, ite_eq_iff, and_assoc, @eq_comm _ stk.dropLast]

theorem applyOp_accept_iff (maxStack : Nat) (c : Chan) (stk : List Int) (h : Rep c stk) (op : SOp) :
    (∀ stk', specOp maxStack c.allowDup stk op = some stk' →
        ∃ c', applyOp maxStack c op = .ok c' ∧ Rep c' stk' ∧ c'.allowDup = c.allowDup) ∧
    (specOp maxStack c.allowDup stk op = none → ∃ e, applyOp maxStack c op = .error e) :=
  ⟨fun stk' hs => ⟨_, (applyOp_ok_iff h maxStack op).mpr ⟨stk', hs, rfl⟩, rep_flush h stk', rfl⟩,
   fun hn => (error_iff_not_ok _).mpr fun ⟨_, hc⟩ => by
     obtain ⟨_, hs, _⟩ := (applyOp_ok_iff h maxStack op).mp hc
     rw [hn] at hs
     cases hs⟩

/-- **C08 (nesting).** A history of enter/leave events on a thread's channel
    is accepted by the channel machinery exactly when it is properly nested:
    every leave matches the innermost open region, no enter exceeds the depth
    limit and (for channels without `ALLOW_DUP`) none re-enters the innermost
    open region.  Unbounded history length, any depth limit. -/
theorem nesting_accept_iff (maxStack : Nat) (ops : List SOp) (c : Chan) (stk : List Int)
    (h : Rep c stk) :
    (∀ stk', specRun maxStack c.allowDup stk ops = some stk' →
        ∃ c', runOps maxStack c ops = .ok c' ∧ Rep c' stk') ∧
    (specRun maxStack c.allowDup stk ops = none → ∃ e, runOps maxStack c ops = .error e) := by
  induction ops generalizing c stk with
  | nil =>
    constructor
    · intro stk' hs
      simp only [specRun, Option.some.injEq] at hs
      subst hs
      exact ⟨c, rfl, h⟩
    · intro hn; simp [specRun] at hn
  | cons op ops ih =>
    obtain ⟨hok, herr⟩ := applyOp_accept_iff maxStack c stk h op
    simp only [specRun, runOps]
    cases hs : specOp maxStack c.allowDup stk op with
    | none =>
      obtain ⟨e, he⟩ := herr hs
      rw [he]
      exact ⟨fun _ hh => (by cases hh), fun _ => ⟨e, rfl⟩⟩
    | some stk1 =>
      obtain ⟨c1, hc1, hrep1, hd1⟩ := hok stk1 hs
      rw [hc1]
      simp only
      have := ih c1 stk1 hrep1
      rw [hd1] at this
      exact this

/-- Every properly nested history that never re-enters the innermost open
    region and stays within the depth limit is accepted, on every channel. -/
theorem nonreentering_accepted (maxStack : Nat) (ops : List SOp) (c : Chan) (stk stk' : List Int)
    (h : Rep c stk) (hs : specRun maxStack false stk ops = some stk') :
    ∃ c', runOps maxStack c ops = .ok c' ∧ Rep c' stk' := by
  -- accepted by the stricter (no-duplicate) specification ⇒ accepted whatever the dup property
  have mono : ∀ (ops : List SOp) (stk stk' : List Int) (d : Bool),
      specRun maxStack false stk ops = some stk' → specRun maxStack d stk ops = some stk' := by
    intro ops
    induction ops with
    | nil => intro stk stk' d hh; exact hh
    | cons op ops ih =>
      intro stk stk' d hh
      simp only [specRun] at hh ⊢
      cases h1 : specOp maxStack false stk op with
      | none => rw [h1] at hh; cases hh
      | some s1 =>
        rw [h1] at hh
        have h2 : specOp maxStack d stk op = some s1 := by
          cases op with
          | push v =>
            simp only [specOp, Bool.not_false, Bool.true_and] at h1 ⊢
            split at h1
            · cases h1
            · rename_i hne
              split at h1
              · cases h1
              · rename_i hf
                cases h1
                have : ¬ ((!d && decide (stk.getLast? = some v)) = true) := by
                  simp only [Bool.and_eq_true, decide_eq_true_eq, not_and]
                  intro _ hx; exact hne (by simpa using hx)
                simp [this, hf]
          | pop v => exact h1
        rw [h2]
        exact ih s1 stk' d hh
  exact (nesting_accept_iff maxStack ops c stk h).1 stk' (mono ops stk stk' c.allowDup hs)

end Ovni.Props.C08
