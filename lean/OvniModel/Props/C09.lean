import OvniModel.Lemmas.FsSpec
import OvniModel.Lemmas.FsWitness
import OvniModel.Lemmas.FsBuffer
import OvniModel.Lemmas.FsJsonCodec

/-!
# C09 — crash consistency

Model: `OvniModel/Rt/Fs.lean` (the code after `fix: move stream.obs to the final
directory before stream.json` and `fix: check the relocation of the thread
directory and close(streamfd)`); statement definitions (`crashState`, `CrashConsistent`, `FinishedAfterData`, `WellFormed`,
`Schedule`): `OvniModel/Rt/FsSpec.lean`.  The process is killed when `k` of the
libc calls of the run have completed; what a reader then finds in a file is its
on-disk bytes plus *any* prefix of the bytes still in the stdio buffer
(`Fs.visible … cut`).  `accepts` is (a superset of) what `ovniemu` accepts:
every stream.json found parses with `finished = 1`, its stream.obs has the
header, tiles into events and leaves the thread dead.
-/
namespace Ovni.Props.C09
open Ovni.Rt Ovni.Rt.Fs

/-- **C09.**  Every program, direct or OVNI_TMPDIR mode, every crash point, every
    stdio state, both trees: if the tree is accepted, every visible stream holds
    exactly the bytes its thread has flushed.  For every interleaving of the
    threads' calls (`Schedule`): the calls of different threads touch disjoint
    files, so a thread's stream only depends on how far that thread got. -/
theorem crash_consistent_any_schedule (E : EmuCfg) (C : Codec) (p : Prog) (L : List FOp)
    (hL : Schedule C.ser p L) (hwf : WellFormed p) : CrashConsistentS E C p L := by
  intro k cut r hacc tid hvis
  -- of the verdict, only that an accepted stream has a stream.obs
  have hsa : streamAccepted E C _ cut r tid = true := List.all_eq_true.mp hacc _ hvis
  cases ho : (crashStateS p L k).visible cut (.file r tid .obs) with
  | none => simp [streamAccepted, ho] at hsa
  | some o =>
    rw [visible_obs_of_inv (safe_at_crash_sched C p L hL hwf tid r k) hvis cut o ho]

/-- finished = 1 visible in the final tree ⇒ the final stream.obs is complete. -/
theorem finished_after_data_any_schedule (C : Codec) (p : Prog) (L : List FOp)
    (hL : Schedule C.ser p L) (hwf : WellFormed p) : FinishedAfterDataS C p L := by
  intro k cut t ht j hj hfin
  exact finished_after_data_of_inv (tinv_at_crash_sched C p L hL hwf t ht k).fad cut j hj hfin

/-- The threads one after the other: one of the schedules. -/
theorem crash_consistent (E : EmuCfg) (C : Codec) (p : Prog) (hwf : WellFormed p) : CrashConsistent E C p := by
  intro k
  rw [crashState_eq]
  exact crash_consistent_any_schedule E C p _ (schedule_sequential C.ser p) hwf k

theorem finished_after_data (C : Codec) (p : Prog) (hwf : WellFormed p) : FinishedAfterData C p := by
  intro k
  rw [crashState_eq]
  exact finished_after_data_any_schedule C p _ (schedule_sequential C.ser p) hwf k

/-- `crash_consistent` for `json_serialize_to_file_pretty` /
    `json_parse_file_with_comments` themselves (the parson model of
    `OvniModel/Json.lean`).  The two hypotheses of `Codec` are theorems there: a
    serialized `stream.json` parses back (`Props/Json.roundtrip`) and no proper
    prefix of it parses (`Props/Json.truncation_rejected`) — what a kill leaves
    of a `stream.json` is a prefix of the serialized text. -/
theorem crash_consistent_parson (E : EmuCfg) (p : Prog) (hwf : WellFormed p) : CrashConsistent E jsonCodec p :=
  crash_consistent E jsonCodec p hwf

theorem finished_after_data_parson (p : Prog) (hwf : WellFormed p) : FinishedAfterData jsonCodec p :=
  finished_after_data jsonCodec p hwf

theorem crash_consistent_any_schedule_parson (E : EmuCfg) (p : Prog) (L : List FOp)
    (hL : Schedule jsonCodec.ser p L) (hwf : WellFormed p) : CrashConsistentS E jsonCodec p L :=
  crash_consistent_any_schedule E jsonCodec p L hL hwf

/-- The codec is not vacuous: the serialized metadata of a finished thread is the
    pretty-printed object and reads back as finished; cut before its last byte it
    does not parse. -/
example : jsonCodec.parse (jsonCodec.ser ⟨true, 42⟩) = some ⟨true, 42⟩
    ∧ jsonFinished jsonCodec (jsonCodec.ser ⟨true, 42⟩) = true
    ∧ jsonFinished jsonCodec (jsonCodec.ser ⟨false, 42⟩) = false
    ∧ jsonCodec.parse ((jsonCodec.ser ⟨true, 42⟩).dropLast) = none
    ∧ jsonCodec.ser ⟨true, 7⟩ = [123, 10, 32, 32, 32, 32, 34, 118, 101, 114, 115, 105, 111, 110, 34, 58, 32, 51, 44, 10,
        32, 32, 32, 32, 34, 111, 118, 110, 105, 34, 58, 32, 123, 10, 32, 32, 32, 32, 32, 32, 32, 32, 34, 98, 111, 100,
        121, 34, 58, 32, 34, 55, 34, 44, 10, 32, 32, 32, 32, 32, 32, 32, 32, 34, 102, 105, 110, 105, 115, 104, 101,
        100, 34, 58, 32, 49, 10, 32, 32, 32, 32, 125, 10, 125] := by decide +kernel

/-- The sequential run of the other theorems is one of the schedules. -/
example (C : Codec) (p : Prog) : Schedule C.ser p (ops (calls C.ser p)) := schedule_sequential C.ser p

/-- What "complete" means: the bytes `ThreadProg.obsBytes` are the stream file of
    the C01/C02 theorems.  If the thread program's I/O steps are those of a
    buffer-model program (`writesOf`, attribute flushes may be interleaved), the
    complete stream.obs is `St.diskBytes` of that program's final state. -/
theorem obsBytes_is_buffer_disk {D : Type} [JData D] (cap : Nat) (magic : List Nat) (version : Nat)
    (s0 s1 s2 : St D) (body : List (Op D)) (ps : List PStep) (t : ThreadProg)
    (h0 : s0.disk = []) (hr : s0.ready = false) (hf : s0.finished = false)
    (hi : step cap s0 .init = some s1) (hni : ∀ op ∈ body, op ≠ .init)
    (hw : writesOf cap s1 body = some (s2, ps))
    (hh : t.hdr = streamHeader magic version) (hs : stepsBytes t.steps = stepsBytes ps) :
    Ovni.Rt.run cap s0 (.init :: body) = some s2 ∧ t.obsBytes = s2.diskBytes magic version := by
  obtain ⟨r1, r2⟩ := writesOf_spec cap magic version s1 body hni s2 ps hw
  refine ⟨by simp only [Ovni.Rt.run, hi]; exact r1, ?_⟩
  rw [r2, ThreadProg.obsBytes, hh, hs]
  congr 1
  simp only [step, threadInit, hr, hf, Bool.false_eq_true, if_false, Option.some.injEq] at hi
  subst hi
  simp [St.diskBytes, h0]

open Ovni.Rt.Fs.Witness

/-- For the code before the fix (`Rt/FsOld.lean`: files relocated in readdir
    order) both statements are false.  Witness (key `tmpdir-json-before-obs`,
    replayed on libovni by checks/c09.py): `OHx OHe flush flush free` in
    OVNI_TMPDIR mode, readdir gives stream.json first; the old code is killed
    after the `fwrite` of the stream.obs copy, stdio having flushed the bytes up
    to OHe.  The final tree has finished = 1, a stream ending in OHe — accepted —
    and lacks the flushed `OF[ OF]`. -/
theorem crash_consistent_before_fix :
    ¬ ∀ (E : EmuCfg) (C : Codec) (p : Prog), WellFormed p → ReaddirOrder p → CrashConsistentOld E C p := by
  intro h
  have hw : accepts wE wC (Old.crashState wC wJsonFirst 48) wCut .fin = true
      ∧ 7 ∈ visibleStreams (Old.crashState wC wJsonFirst 48) .fin
      ∧ (Old.crashState wC wJsonFirst 48).visible wCut (.file .fin 7 .obs)
          ≠ some ((Old.crashState wC wJsonFirst 48).flushed 7) := by decide +kernel
  exact hw.2.2 (h wE wC wJsonFirst (by unfold WellFormed; decide) (by unfold ReaddirOrder; decide) 48 wCut .fin
    hw.1 7 hw.2.1)

/-- Same run killed right after stream.json was relocated: finished = 1 is
    visible in the final tree, stream.obs is not there yet. -/
theorem finished_after_data_before_fix :
    ¬ ∀ (C : Codec) (p : Prog), WellFormed p → ReaddirOrder p → FinishedAfterDataOld C p := by
  intro h
  have hw : (Old.crashState wC wJsonFirst 43).visible (fun _ => 0) (.file .fin 7 .json) = some (wC.ser ⟨true, 1⟩)
      ∧ jsonFinished wC (wC.ser ⟨true, 1⟩) = true
      ∧ (Old.crashState wC wJsonFirst 43).visible (fun _ => 0) (.file .fin 7 .obs) ≠ some wT.obsBytes := by
    decide +kernel
  exact hw.2.2 (h wC wJsonFirst (by unfold WellFormed; decide) (by unfold ReaddirOrder; decide) 43 (fun _ => 0) wT
    (by decide) _ hw.1 hw.2.1)

example : WellFormed wObsFirst ∧ wObsFirst.tmpMode = true := ⟨by unfold WellFormed; decide, rfl⟩

example : WellFormed wDirect ∧ wDirect.tmpMode = false := ⟨by unfold WellFormed; decide, rfl⟩

example : WellFormed { wObsFirst with threads := [wT, { wT with tid := 8 }, { wT with tid := 9, free := false }] } := by
  unfold WellFormed; decide

/-- The premise of `CrashConsistent` is reachable: the completed relocation
    (and a crash in the middle of the json copy, with the whole text already
    flushed by stdio) is accepted with a visible stream. -/
example : accepts wE wC (crashState wC wObsFirst 51) (fun _ => 0) .fin = true
    ∧ visibleStreams (crashState wC wObsFirst 51) .fin = [7] := by decide +kernel

example : accepts wE wC (crashState wC wObsFirst 43) (fun _ => 4) .fin = true
    ∧ visibleStreams (crashState wC wObsFirst 43) .fin = [7]
    ∧ (crashState wC wObsFirst 43).visible (fun _ => 4) (.file .fin 7 .obs) = some wT.obsBytes := by decide +kernel

/-- A crash before `ovni_thread_free` in direct mode leaves a visible stream
    that the emulator rejects (no finished flag). -/
example : accepts wE wC (crashState wC wDirect 17) (fun _ => 0) .fin = false
    ∧ visibleStreams (crashState wC wDirect 17) .fin = [7] := by decide +kernel

end Ovni.Props.C09
