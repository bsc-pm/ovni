import OvniModel.Lemmas.FsSpec
import OvniModel.Lemmas.FsWitness

/-!
# C10 — I/O faults are never silent

Model: `OvniModel/Rt/Fs.lean` (the code after `fix: check the relocation of the
thread directory and close(streamfd)` and `fix: move stream.obs to the final
directory before stream.json`; statement definitions `Complete`, `CopyExists`,
`NotSilent` in `OvniModel/Rt/FsSpec.lean`),
`faultAt`: the `i`-th libc call of the run fails (errno class, or short count
for write/fwrite/fputs), then the runtime does what the C code does after that
failure (`cont`).  Outcome: `die fs` (abort()) or `returned fs`.
-/
namespace Ovni.Props.C10
open Ovni.Rt Ovni.Rt.Fs

/-- **C10.**  For every program (both modes), every call index, every fault kind:
    either the runtime aborts — and a complete copy of every thread's flushed
    bytes is still on disk, unless the failing call is `close(streamfd)` itself
    reporting the loss of the last write — or it returns with the final trace of
    every freed thread complete. -/
theorem single_fault_not_silent (C : Codec) (p : Prog) (hwf : WellFormed p) (i : Nat) (f : Fault) (kept : Nat) :
    NotSilent C p (siteAt (calls C.ser p) i) (faultAt C.ser p i f kept) := by
  have hend : ∀ fl, NotSilent C p fl (.returned (run p.init (ops (calls C.ser p)))) :=
    fun _ t ht hf => complete_of_done (view_at_end C p hwf t ht hf)
  unfold faultAt
  simp only
  cases hci : (calls C.ser p)[i]? with
  | none => exact hend _
  | some c =>
    simp only
    by_cases hfire : fires c.op f = true
    case neg => rw [if_neg hfire]; exact hend _
    have hopi : (ops (calls C.ser p))[i]? = some c.op := by rw [ops, List.getElem?_map, hci]; rfl
    -- the fault-free run: the first i calls, the call, the rest
    have hfull : run p.init (ops (calls C.ser p))
        = run (apply (crashState C p i) c.op) (ops ((calls C.ser p).drop (i + 1))) := by
      rw [← crashState_succ C p i _ hopi, crashState, ← run_append, ← ops_append, List.take_append_drop]
    obtain ⟨τ, hso⟩ := callOf_calls C.ser p c (List.mem_of_getElem? hci)
    rw [if_pos hfire, show siteAt (calls C.ser p) i = some c.site by rw [siteAt, hci]; rfl]
    exact not_silent_of_inv C p hso f kept _ hfire (fun t ht => (tinv_at_crash C p hwf t ht i).kept)
      (fun t ht => crashState_succ C p i _ hopi ▸ (tinv_at_crash C p hwf t ht (i + 1)).kept)
      (fun t ht hf => hfull ▸ view_at_end C p hwf t ht hf)

/-- Without faults, no point of the run — in either mode — is without a
    complete copy of what each thread has flushed (`remove(src)` only ever
    follows the completed copy). -/
theorem fault_free_run_keeps_a_complete_copy (C : Codec) (p : Prog) (hwf : WellFormed p) (k : Nat) :
    ∀ t ∈ p.threads, CopyExists (crashState C p k) t.tid :=
  crashState_eq C p k ▸ copy_at_crash_sched C p _ (schedule_sequential C.ser p) hwf k

/-! The code before the fix (`Rt/FsOld.lean`) violated the statement: one witness
per call site whose failure it ignored although data did not reach its
destination (`Old.unchecked`).  The keys are those checks/c10.py reports on the
unpatched library; `move_ignores_fclose_error` and `move_ignores_fopen_error`
go under the key of `move_ignores_copy_errors`. -/

open Ovni.Rt.Fs.Witness

/-- Key `close-streamfd-unchecked` (direct mode): `close(streamfd)` reports a
    deferred write error, the old `ovni_thread_free` ignored it and returned;
    the final stream.obs lacks the last flush and no complete copy exists. -/
theorem close_streamfd_unchecked :
    siteAt (Old.calls wC.ser wDirect) 20 = some .closeStream ∧
    Outcome.isReturned (Old.faultAt wC.ser wDirect 20 .eio) = true ∧
    ¬ Complete wC wT (Old.faultAt wC.ser wDirect 20 .eio).fs ∧
    ¬ CopyExists (Old.faultAt wC.ser wDirect 20 .eio).fs 7 := by decide +kernel

/-- Key `move-opendir-failure-silent`: `opendir(thdir)` fails, nothing is
    relocated, the old `ovni_thread_free` returned: the final trace has no stream. -/
theorem move_opendir_failure_silent :
    siteAt (Old.calls wC.ser wObsFirst) 31 = some .moveOpendir ∧
    Outcome.isReturned (Old.faultAt wC.ser wObsFirst 31 .eacces) = true ∧
    ¬ Complete wC wT (Old.faultAt wC.ser wObsFirst 31 .eacces).fs := by decide +kernel

/-- Key `move-readdir-failure-silent`: `readdir` fails, the old loop ended as
    if the directory were empty. -/
theorem move_readdir_failure_silent :
    siteAt (Old.calls wC.ser wObsFirst) 32 = some .moveReaddir ∧
    Outcome.isReturned (Old.faultAt wC.ser wObsFirst 32 .eio) = true ∧
    ¬ Complete wC wT (Old.faultAt wC.ser wObsFirst 32 .eio).fs := by decide +kernel

/-- Key `move-ignores-copy-errors`: the `fwrite` of the stream.obs copy fails
    (ENOSPC), the result was ignored, `remove(src)` followed: normal return, final
    stream.obs empty, and the only complete copy has been unlinked. -/
theorem move_ignores_copy_errors :
    siteAt (Old.calls wC.ser wObsFirst) 38 = some .moveFwrite ∧
    Outcome.isReturned (Old.faultAt wC.ser wObsFirst 38 .enospc) = true ∧
    ¬ Complete wC wT (Old.faultAt wC.ser wObsFirst 38 .enospc).fs ∧
    ¬ CopyExists (Old.faultAt wC.ser wObsFirst 38 .enospc).fs 7 := by decide +kernel

/-- … the same when the `fclose` of the copy fails (its final flush). -/
theorem move_ignores_fclose_error :
    siteAt (Old.calls wC.ser wObsFirst) 40 = some .moveFcloseOut ∧
    Outcome.isReturned (Old.faultAt wC.ser wObsFirst 40 .enospc) = true ∧
    ¬ Complete wC wT (Old.faultAt wC.ser wObsFirst 40 .enospc).fs ∧
    ¬ CopyExists (Old.faultAt wC.ser wObsFirst 40 .enospc).fs 7 := by decide +kernel

/-- … and when `fopen(dst)` fails: the source survives, but the old runtime
    returned normally with the stream missing from the final trace. -/
theorem move_ignores_fopen_error :
    siteAt (Old.calls wC.ser wObsFirst) 36 = some .moveFopenDst ∧
    Outcome.isReturned (Old.faultAt wC.ser wObsFirst 36 .eacces) = true ∧
    ¬ Complete wC wT (Old.faultAt wC.ser wObsFirst 36 .eacces).fs ∧
    CopyExists (Old.faultAt wC.ser wObsFirst 36 .eacces).fs 7 := by decide +kernel

theorem single_fault_not_silent_before_fix :
    ¬ ∀ (C : Codec) (p : Prog), WellFormed p → (p.tmpMode = false ∨ ReaddirOrder p) →
        ∀ i f kept, NotSilent C p (siteAt (Old.calls C.ser p) i) (Old.faultAt C.ser p i f kept) := by
  intro h
  obtain ⟨_, hr, hc, _⟩ := move_ignores_copy_errors
  exact hc (notSilent_returned hr (h wC wObsFirst (by unfold WellFormed; decide)
    (Or.inr (by unfold ReaddirOrder; decide)) 38 .enospc 0) wT (by decide) rfl).1

/-- Three of the faults above (`close(streamfd)`, the `fwrite` and the `fclose` of the copy) on the
    code after the fix: each aborts, and a complete copy is left (for `close`, the injected fault
    is itself the loss). -/
example :
    siteAt (calls wC.ser wDirect) 20 = some .closeStream ∧
    Outcome.isReturned (faultAt wC.ser wDirect 20 .eio) = false ∧
    siteAt (calls wC.ser wObsFirst) 34 = some .moveFwrite ∧
    Outcome.isReturned (faultAt wC.ser wObsFirst 34 .enospc) = false ∧
    CopyExists (faultAt wC.ser wObsFirst 34 .enospc).fs 7 ∧
    CopyExists (faultAt wC.ser wObsFirst 34 .short).fs 7 ∧
    siteAt (calls wC.ser wObsFirst) 36 = some .moveFcloseOut ∧
    Outcome.isReturned (faultAt wC.ser wObsFirst 36 .enospc) = false ∧
    CopyExists (faultAt wC.ser wObsFirst 36 .enospc).fs 7 := by decide +kernel

/-- A failing `write` aborts, a short one is retried and the run completes. -/
example : siteAt (calls wC.ser wObsFirst) 25 = some .writeStream ∧
    Outcome.isReturned (faultAt wC.ser wObsFirst 25 .enospc) = false ∧
    Outcome.isReturned (faultAt wC.ser wObsFirst 25 .short) = true ∧
    Complete wC wT (faultAt wC.ser wObsFirst 25 .short).fs := by decide +kernel

end Ovni.Props.C10
