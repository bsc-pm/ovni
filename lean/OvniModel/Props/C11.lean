import OvniModel.Lemmas.ConcWitness

/-!
# C11 — concurrent tracing threads are isolated; process init/fini happen exactly once

Model: `Rt/Conc.lean` (interleaving semantics over the process-wide `rproc`,
the thread-local `rthread`s and the per-thread files), whose shared accesses
are built from `Generated/Footprint.lean` — generated from
`src/rt/ovni.c` + `src/common.c` on every run by `tools/gen/gen_footprint.py`.

A *schedule* is any list of thread indices (`runSched`): the theorems quantify
over all of them, over any number of threads and over all programs.
Assumed (DESIGN §4): thread-local storage is private to its thread; the
operations on the `atomic_int` are sequentially consistent (one step each).
-/
-- `[JData D]` is in scope for every statement, also for those that never look at jumbo data
set_option linter.unusedSectionVars false
namespace Ovni.Props.C11
open Ovni.Rt Ovni.Rt.Conc
variable {D : Type} [JData D]

/-- Every API function other than `ovni_proc_init` / `ovni_proc_fini` writes no
    member of the shared `rproc` and only *loads* `rproc.st`; `rproc` is the
    only variable with static storage in `ovni.c` that is neither
    thread-local nor const (and `rthread` is thread-local); no API function
    writes any other shared global (those of `common.c` included); nothing
    was left unresolved by the analysis (no indirect calls). -/
theorem footprint_disjoint :
    (∀ r ∈ Ovni.Generated.Footprint.table, r.1 ≠ "ovni_proc_init" → r.1 ≠ "ovni_proc_fini" →
        r.2.2.1 = [] ∧ ∀ op ∈ r.2.2.2.2, isLoadRaw op = true) ∧
    Ovni.Generated.Footprint.sharedGlobals = ["rproc"] ∧
    "rthread" ∈ Ovni.Generated.Footprint.threadLocals ∧
    (∀ r ∈ Ovni.Generated.Footprint.otherWrites, r.2 = []) ∧
    Ovni.Generated.Footprint.unresolved = [] := by
  decide +kernel

/-- The thread-level functions the model expands are all in the table and
    satisfy the above (so their step lists contain no shared write). -/
theorem footprint_thread_functions : Foot.generated.threadOK = true := by decide +kernel

/-- `ovni_proc_init` as generated: its first access to `rproc.st` is
    `compare_exchange(UNINIT → INIT)`, and nothing later stores `UNINIT`. -/
theorem init_shape_generated :
    raceShapeRaw .uninit .init (Foot.generated.events "ovni_proc_init") = true := by decide +kernel

/-- `ovni_proc_fini` as generated: its first access is
    `compare_exchange(READY → GONE)`, nothing later stores `READY`. -/
theorem fini_shape_generated :
    raceShapeRaw .ready .gone (Foot.generated.events "ovni_proc_fini") = true := by decide +kernel

/-- In `ovni_proc_init` every write of an `rproc` member comes before READY is
    published: the last shared event is the store of READY (so `rproc` is
    read-only once a thread can see READY). -/
theorem init_publishes_last :
    (Foot.generated.events "ovni_proc_init").getLast? =
      some (Ovni.Generated.Footprint.kStore, Ovni.Generated.Footprint.stReady, 0, "st") := by decide +kernel

/-- Starting from INIT, READY is reached by the last shared event of
    `ovni_proc_init` and by no earlier one. -/
theorem init_ready_only_last :
    onlyLastRaw .init .ready (Foot.generated.events "ovni_proc_init").tail = true := by decide +kernel

/-- Every path format a thread-level function hands to `snprintf` contains the
    bytes `thread.%d` or is a pure join of already built paths (`"%s/%s"`); the
    two files of the model are built from `%s/thread.%d/stream.obs` and
    `%s/thread.%d/stream.json`.  `pathFormats` does not record which argument
    is bound to `%d`: that it is the thread's tid (`rthread.tid`; `tid` in
    `mkdir_thread`), so that different threads get different paths, is read in
    `src/rt/ovni.c` and not decided here. -/
theorem thread_paths_contain_tid :
    (∀ r ∈ Ovni.Generated.Footprint.pathFormats, r.1 ∉ procLevelPathFns →
        (hasInfix tidPattern r.2.2 || pureJoin r.2.2) = true) ∧
    ("create_trace_stream", "%s/thread.%d/stream.obs") ∈ Ovni.Generated.Footprint.pathFormats.map (fun r => (r.1, r.2.1)) ∧
    ("thread_metadata_store", "%s/thread.%d/stream.json") ∈ Ovni.Generated.Footprint.pathFormats.map (fun r => (r.1, r.2.1)) := by
  decide +kernel

/-- The hypothesis of the once-theorems, spelled out: threads `0 … N-1` are alive,
    have not started and are each about to make the single call `kall i`; every
    other thread runs an arbitrary thread-level program, at any stage. -/
theorem race_iff (frm : PSt) (N : Nat) (kall : Nat → Call D) (tidOf : Nat → Nat) (c : Cfg D) :
    Race frm N kall tidOf c ↔
      c.g.st = frm ∧
      (∀ i, i < N → (c.th i).dead = false ∧ (c.th i).wins = 0 ∧ (c.th i).pend = [] ∧ (c.th i).calls = [kall i]) ∧
      (∀ i, N ≤ i → ThrSafe (tidOf i) (c.th i) ∧ (c.th i).wins = 0) :=
  ⟨fun h => ⟨h.st, h.racers, h.others⟩, fun h => ⟨h.1, h.2.1, h.2.2⟩⟩

/-- `Returned x`: the call of the thread ran to its end without die(). -/
theorem returned_iff (x : Thr D) : Returned x ↔ x.dead = false ∧ x.pend = [] ∧ x.calls = [] := Iff.rfl

/-- Generic form: for any footprint whose thread-level functions write nothing
    shared and any step list whose first access to `rproc.st` is the
    compare-exchange `frm → to` (and whose later steps do not store `frm`
    again): under every schedule at most one thread ever gets past it; once all
    `N` calls have run to completion exactly one returned while all the others
    reached die(), and the shared state is what the winner's steps alone make
    of `(to, initial members)`. -/
theorem cas_once {fp : Foot} (hfp : fp.threadOK = true) (cap : Nat) {frm to : PSt} (hne : frm ≠ to) (N : Nat)
    (kall : Nat → Call D) (rest : Nat → List (Step D)) (tidOf : Nat → Nat)
    (hexp : ∀ i t, expand fp t (kall i) = .st (.cas frm to) :: rest i)
    (hq : ∀ i, ∀ s ∈ rest i, Quiet frm s)
    (c0 : Cfg D) (h0 : Race frm N kall tidOf c0) (σ : List Nat) :
    (∀ i j, 0 < ((runSched fp cap c0 σ).th i).wins → 0 < ((runSched fp cap c0 σ).th j).wins → i = j) ∧
    (∀ i, ((runSched fp cap c0 σ).th i).wins ≤ 1) ∧
    (0 < N → (∀ i, i < N → ((runSched fp cap c0 σ).th i).done) →
      ∃ w, w < N ∧ Returned ((runSched fp cap c0 σ).th w) ∧ ((runSched fp cap c0 σ).th w).wins = 1 ∧
        (∀ i, i < N → i ≠ w → ((runSched fp cap c0 σ).th i).dead = true ∧ ((runSched fp cap c0 σ).th i).wins = 0) ∧
        (runSched fp cap c0 σ).g = applyQ (rest w) ⟨to, c0.g.proc⟩) := by
  obtain ⟨⟨ph, g1, g2, g3⟩, -, eff⟩ := race_invariants hfp cap hne hexp hq c0 h0 σ
  generalize runSched fp cap c0 σ = c at ph g1 g2 g3 eff ⊢
  -- only the racer in phase `Won` has won anything
  have wins : ∀ i, (c.th i).wins = 0 ∨ (i < N ∧ Won frm (c.th i)) := by
    intro i
    rcases ph i with ⟨hi, hf | hl | hw | hd⟩ | ⟨_, hb⟩
    · exact .inl hf.2.1
    · exact .inl hl.2.1
    · exact .inr ⟨hi, hw⟩
    · exact .inl hd.2
    · exact .inl hb.2
  have wonOf : ∀ i, 0 < (c.th i).wins → i < N ∧ Won frm (c.th i) :=
    fun i h => (wins i).resolve_left (Nat.ne_of_gt h)
  refine ⟨fun i j a b => g3 i j (wonOf i a).1 (wonOf j b).1 (wonOf i a).2 (wonOf j b).2, fun i => ?_,
    fun hN hdone => ?_⟩
  · rcases wins i with h | ⟨_, h⟩
    · exact h ▸ Nat.zero_le 1
    · exact Nat.le_of_eq h.2.1
  have fin : ∀ i, i < N → (Won frm (c.th i) ∧ (c.th i).pend = []) ∨ Lost (c.th i) :=
    fun i hi => (ph_iff.mp ph i).done hi (hdone i hi)
  have hst : c.g.st ≠ frm := fun e => (fin 0 hN).elim (fun w => (g1 e 0 hN).1 w.1) (g1 e 0 hN).2
  obtain ⟨w, hwN, hw⟩ := g2 hst
  have hwp : (c.th w).pend = [] :=
    (fin w hwN).elim (·.2) fun l => Bool.noConfusion (hw.1.symm.trans l.1)
  refine ⟨w, hwN, ⟨hw.1, hwp, hw.2.2.1⟩, hw.2.1,
    fun i hi hne' => (fin i hi).resolve_left fun wi => hne' (g3 i w hi hwN wi.1 hw), ?_⟩
  obtain ⟨done, hd1, hd2⟩ := eff w hwN hw
  rw [hwp, List.append_nil] at hd1
  rw [hd2, hd1]

/-- What the winner's steps after the compare-exchange make of `(INIT, anything)`, whatever the
    schedule: READY, with every modelled member of `rproc` set from the caller's arguments. -/
theorem init_steps_effect (a p0 : Proc) :
    applyQ (D := D) (Foot.generated.ordered "ovni_proc_init" a).tail ⟨.init, p0⟩ = ⟨.ready, a⟩ := by
  cases a
  rfl

/-- **init_once**: `N ≥ 1` threads race to call `ovni_proc_init` (any
    arguments) on an uninitialised process, while any number of other threads
    run thread-level programs.  Under every schedule at most one of them passes
    the compare-exchange; when all calls have completed, exactly one has
    returned, every other one has reached die(), and the process is READY with
    the returned caller's arguments.  The step list is the one generated from
    the C source. -/
theorem init_once (cap N : Nat) (a : Nat → Proc) (tidOf : Nat → Nat) (c0 : Cfg D)
    (h0 : Race .uninit N (fun i => Call.procInit (a i)) tidOf c0) (σ : List Nat) :
    (∀ i j, 0 < ((runSched Foot.generated cap c0 σ).th i).wins →
        0 < ((runSched Foot.generated cap c0 σ).th j).wins → i = j) ∧
    (∀ i, ((runSched Foot.generated cap c0 σ).th i).wins ≤ 1) ∧
    (0 < N → (∀ i, i < N → ((runSched Foot.generated cap c0 σ).th i).done) →
      ∃ w, w < N ∧ Returned ((runSched Foot.generated cap c0 σ).th w) ∧
        ((runSched Foot.generated cap c0 σ).th w).wins = 1 ∧
        (∀ i, i < N → i ≠ w → ((runSched Foot.generated cap c0 σ).th i).dead = true ∧
          ((runSched Foot.generated cap c0 σ).th i).wins = 0) ∧
        (runSched Foot.generated cap c0 σ).g = ⟨.ready, a w⟩) := by
  have sh := fun i => shape_of_raw (D := D) init_shape_generated (a i)
  have h := cas_once footprint_thread_functions cap (frm := .uninit) (to := .init) nofun N
    (fun i => Call.procInit (a i)) (fun i => (Foot.generated.ordered "ovni_proc_init" (a i)).tail)
    tidOf (fun i _ => (sh i).1) (fun i => (sh i).2) c0 h0 σ
  refine ⟨h.1, h.2.1, fun hN hd => ?_⟩
  obtain ⟨w, h1, h2, h3, h4, h5⟩ := h.2.2 hN hd
  exact ⟨w, h1, h2, h3, h4, h5.trans (init_steps_effect (a w) _)⟩

/-- **No thread ever sees a half-initialised process**: in every reachable
    state of such a race, if `rproc.st` is READY then the winner has returned
    and every modelled member of `rproc` holds the winner's value (a bystander's
    `atomic_load(&rproc.st) == ST_READY` test therefore guards completely
    initialised data; before that it dies with "process not ready"). -/
theorem ready_means_initialised (cap N : Nat) (a : Nat → Proc) (tidOf : Nat → Nat) (c0 : Cfg D)
    (h0 : Race .uninit N (fun i => Call.procInit (a i)) tidOf c0) (σ : List Nat) :
    (runSched Foot.generated cap c0 σ).g.st = .ready →
      ∃ w, w < N ∧ Returned ((runSched Foot.generated cap c0 σ).th w) ∧
        (runSched Foot.generated cap c0 σ).g.proc = a w := by
  have sh := fun i => shape_of_raw (D := D) init_shape_generated (a i)
  obtain ⟨⟨-, -, g2, -⟩, -, e2⟩ := race_invariants footprint_thread_functions cap (frm := .uninit) (to := .init)
    nofun (kall := fun i => Call.procInit (a i))
    (rest := fun i => (Foot.generated.ordered "ovni_proc_init" (a i)).tail)
    (fun i _ => (sh i).1) (fun i => (sh i).2) c0 h0 σ
  generalize runSched Foot.generated cap c0 σ = c at g2 e2 ⊢
  intro hr
  obtain ⟨w, hwN, hw⟩ := g2 (hr ▸ nofun)
  obtain ⟨done, hd1, hd2⟩ := e2 w hwN hw
  -- READY is stored by the last event only: the winner has nothing left to do
  have hp : (c.th w).pend = [] :=
    done_of_onlyLast .init .ready (a w) c0.g.proc _ init_ready_only_last done _
      (List.map_tail.trans hd1) (hd2 ▸ hr)
  rw [hp, List.append_nil] at hd1
  refine ⟨w, hwN, ⟨hw.1, hp, hw.2.2.1⟩, ?_⟩
  rw [hd2, ← hd1]
  exact congrArg Glob.proc (init_steps_effect (a w) _)

/-- **fini_once**: the same for `N ≥ 1` threads racing to call
    `ovni_proc_fini` on a READY process (other threads may still be tracing);
    afterwards the process is GONE and the other members of `rproc` are as
    they were. -/
theorem fini_once (cap N : Nat) (tidOf : Nat → Nat) (c0 : Cfg D)
    (h0 : Race .ready N (fun _ => Call.procFini) tidOf c0) (σ : List Nat) :
    (∀ i j, 0 < ((runSched Foot.generated cap c0 σ).th i).wins →
        0 < ((runSched Foot.generated cap c0 σ).th j).wins → i = j) ∧
    (∀ i, ((runSched Foot.generated cap c0 σ).th i).wins ≤ 1) ∧
    (0 < N → (∀ i, i < N → ((runSched Foot.generated cap c0 σ).th i).done) →
      ∃ w, w < N ∧ Returned ((runSched Foot.generated cap c0 σ).th w) ∧
        ((runSched Foot.generated cap c0 σ).th w).wins = 1 ∧
        (∀ i, i < N → i ≠ w → ((runSched Foot.generated cap c0 σ).th i).dead = true ∧
          ((runSched Foot.generated cap c0 σ).th i).wins = 0) ∧
        (runSched Foot.generated cap c0 σ).g = ⟨.gone, c0.g.proc⟩) := by
  have sh := shape_of_raw (D := D) fini_shape_generated {}
  have h := cas_once footprint_thread_functions cap (frm := .ready) (to := .gone) nofun N
    (fun _ => Call.procFini) (fun _ => (Foot.generated.ordered "ovni_proc_fini" {}).tail)
    tidOf (fun _ _ => sh.1) (fun _ => sh.2) c0 h0 σ
  refine ⟨h.1, h.2.1, fun hN hd => ?_⟩
  obtain ⟨w, h1, h2, h3, h4, h5⟩ := h.2.2 hN hd
  exact ⟨w, h1, h2, h3, h4, h5.trans rfl⟩

/-- The hypothesis of the isolation theorem, spelled out: the program of thread
    `i` — the call in progress and the calls to come — consists of thread-level
    API calls only (`ovni_thread_init` with its own tid, emit / jumbo / mark /
    flush, add_cpu, set_rank, require, attribute set/flush, `ovni_thread_free`),
    i.e. no `ovni_proc_init` / `ovni_proc_fini`: `rproc` has been published. -/
theorem safeCfg_iff (tidOf : Nat → Nat) (c : Cfg D) :
    SafeCfg tidOf c ↔ ∀ i, (c.th i).t.tid = tidOf i ∧ (∀ s ∈ (c.th i).pend, StepSafe (tidOf i) s) ∧
      (∀ k ∈ (c.th i).calls, CallSafe (tidOf i) k) := Iff.rfl

/-- **thread_isolation**: for every schedule `σ`, any number of threads with
    pairwise distinct tids and any thread-level programs: what thread `i` ends
    up with — its whole thread-local state (buffer, records already written,
    clock, metadata, cpus, rank, whether it died and at which call) and its two
    files `thread.<tid>/stream.obs`, `thread.<tid>/stream.json` — is exactly
    what it gets when the same schedule is run with every other thread doing
    nothing; and the shared `rproc` is never modified. -/
theorem thread_isolation (cap : Nat) (tidOf : Nat → Nat) (hinj : ∀ a b, tidOf a = tidOf b → a = b)
    (c0 : Cfg D) (h0 : SafeCfg tidOf c0) (σ : List Nat) (i : Nat) :
    (runSched Foot.generated cap c0 σ).th i = (runSched Foot.generated cap (solo c0 i) σ).th i ∧
    (∀ k, (runSched Foot.generated cap c0 σ).fs (tidOf i) k =
          (runSched Foot.generated cap (solo c0 i) σ).fs (tidOf i) k) ∧
    (runSched Foot.generated cap c0 σ).g = c0.g := by
  have a := agree_run footprint_thread_functions cap hinj i σ c0 (solo c0 i) h0
    (othersStopped_solo c0 i) (agree_solo tidOf c0 i)
  exact ⟨a.2.1, a.2.2, (safeCfg_run footprint_thread_functions cap h0 σ).2⟩

/-- Running alone, only the thread's own ticks count: the solo run of `σ` is
    the run of thread `i`'s calls, one tick after the other. -/
theorem solo_is_sequential (cap : Nat) (c0 : Cfg D) (σ : List Nat) (i : Nat) :
    runSched Foot.generated cap (solo c0 i) σ =
      runSched Foot.generated cap (solo c0 i) (List.replicate (σ.count i) i) :=
  run_alone Foot.generated cap i σ (solo c0 i) (othersStopped_solo c0 i)

/-- Two schedules that give thread `i` the same number of ticks leave it with
    the same state, stream and metadata — the other threads' interleaving is
    invisible. -/
theorem schedule_independent (cap : Nat) (tidOf : Nat → Nat) (hinj : ∀ a b, tidOf a = tidOf b → a = b)
    (c0 : Cfg D) (h0 : SafeCfg tidOf c0) (σ₁ σ₂ : List Nat) (i : Nat) (hc : σ₁.count i = σ₂.count i) :
    (runSched Foot.generated cap c0 σ₁).th i = (runSched Foot.generated cap c0 σ₂).th i ∧
    (∀ k, (runSched Foot.generated cap c0 σ₁).fs (tidOf i) k = (runSched Foot.generated cap c0 σ₂).fs (tidOf i) k) := by
  have a1 := thread_isolation cap tidOf hinj c0 h0 σ₁ i
  have a2 := thread_isolation cap tidOf hinj c0 h0 σ₂ i
  rw [solo_is_sequential cap c0 σ₁ i] at a1
  rw [solo_is_sequential cap c0 σ₂ i, ← hc] at a2
  exact ⟨a1.1.trans a2.1.symm, fun k => (a1.2.1 k).trans (a2.2.1 k).symm⟩

/-- The stream part of a thread is a C01 buffer machine: under every schedule
    and whatever the other threads do, the buffer, the records written so far
    and the clock of thread `i` are the result of running *some* sequence of
    `Rt.step` operations from its initial state (the proof builds the thread's
    own `.buf` steps; the statement does not say which sequence it is).  So
    what C01 and C02 prove of every state reachable by `Rt.run` carries over to
    each thread that starts in a state satisfying their invariant. -/
theorem thread_stream_is_buffer_run (fp : Foot) (cap : Nat) (c0 : Cfg D) (σ : List Nat) (i : Nat) :
    ∃ ops : List (Op D), run cap (c0.th i).t.s ops = some ((runSched fp cap c0 σ).th i).t.s := by
  refine runSched_inv (P := fun c' => ∃ ops, run cap (c0.th i).t.s ops = some (c'.th i).t.s) ?_ σ c0 ⟨[], rfl⟩
  intro c' j ⟨ops, h⟩
  rw [tick_th, upd_apply]
  split
  · next e =>
    subst e
    obtain ⟨ops', h'⟩ := tickEff_stream fp cap c'.g (c'.th i)
    exact ⟨ops ++ ops', by rw [run_append, h]; exact h'⟩
  · exact ⟨ops, h⟩

section Examples

private def args (i : Nat) : Proc := { app := 1, pid := 10 + i, loom := 7 }
private def initRace : Cfg (List Nat) := raceCfg 3 (fun i => .procInit (args i)) .uninit
private def finiRace : Cfg (List Nat) := raceCfg 3 (fun _ => .procFini) .ready

/-- The hypotheses of `init_once` hold for three racing threads … -/
example : Race .uninit 3 (fun i => Call.procInit (args i)) (fun _ => 0) initRace :=
  raceCfg_race 3 _ .uninit

/-- … a round-robin schedule runs all three calls to completion: thread 0
    wins, the process is READY with thread 0's arguments, threads 1 and 2 died. -/
example :
    let c := runSched Foot.generated 100 initRace (roundRobin 3 15)
    (∀ i, i < 3 → (c.th i).dead = true ∨ ((c.th i).pend.isEmpty = true ∧ (c.th i).calls.isEmpty = true)) ∧
    (c.th 0).dead = false ∧ (c.th 0).wins = 1 ∧ (c.th 1).dead = true ∧ (c.th 2).dead = true ∧
    c.g = ⟨.ready, args 0⟩ := by decide +kernel

/-- … and under another schedule thread 2 is the one. -/
example :
    let c := runSched Foot.generated 100 initRace ([2, 2, 1, 0, 1, 0] ++ List.replicate 14 2)
    (c.th 2).dead = false ∧ (c.th 2).wins = 1 ∧ (c.th 0).dead = true ∧ (c.th 1).dead = true ∧
    c.g = ⟨.ready, args 2⟩ := by decide +kernel

example : Race .ready 3 (fun _ => (Call.procFini : Call (List Nat))) (fun _ => 0) finiRace :=
  raceCfg_race 3 _ .ready

example :
    let c := runSched Foot.generated 100 finiRace [1, 0, 2, 2, 1, 0]
    (c.th 2).dead = false ∧ (c.th 2).wins = 1 ∧ (c.th 0).dead = true ∧ (c.th 1).dead = true ∧
    c.g.st = .gone := by decide +kernel

/-- The compare-exchange is needed: for the step list of a `ovni_proc_init`
    that tests `st` with a load and then stores (the list `gen_footprint.py` would
    produce for such a source) there is a schedule under which TWO threads
    return from `ovni_proc_init`, the second overwriting the first one's pid. -/
theorem cas_is_needed :
    ∃ σ, Returned ((runSched loadStoreFoot 100 (raceCfg (D := List Nat) 2 (fun i => .procInit (args i)) .uninit) σ).th 0) ∧
         Returned ((runSched loadStoreFoot 100 (raceCfg (D := List Nat) 2 (fun i => .procInit (args i)) .uninit) σ).th 1) ∧
         (runSched loadStoreFoot 100 (raceCfg (D := List Nat) 2 (fun i => .procInit (args i)) .uninit) σ).g.proc.pid = 11 :=
  ⟨[0, 1, 0, 1, 0, 1, 0, 1, 0, 1], by
    refine ⟨⟨by decide, ?_, ?_⟩, ⟨by decide, ?_, ?_⟩, by decide⟩ <;>
      exact List.isEmpty_iff.mp (by decide)⟩

/-- and that generated list indeed fails the shape test `init_once` rests on. -/
example : raceShapeRaw .uninit .init (loadStoreFoot.events "ovni_proc_init") = false := by decide +kernel

private def ev (v : Nat) : Op (List Nat) := .emitNow { m := 79, c := 72, v := v, clock := 0 } []
private def prog (i : Nat) : List (Call (List Nat)) :=
  if i = 0 then [.threadInit 100, .stream (ev 1), .addCpu 0 0, .stream (ev 2), .stream .flush, .threadFree]
  else if i = 1 then [.threadInit 101, .stream (ev 3), .attrSet "k" "1", .stream .flush, .stream (ev 4), .threadFree]
  else []
private def twoThreads : Cfg (List Nat) := threadsCfg { app := 1, pid := 1, loom := 0 } (fun i => 100 + i) prog

/-- The hypothesis of `thread_isolation` holds for two threads that trace
    concurrently (init, emit, add_cpu / attr, flush, emit, free) … -/
example : SafeCfg (fun i => 100 + i) twoThreads :=
  threadsCfg_safe _ _ _ (by
    intro i k hk
    unfold prog at hk
    split at hk
    · next h => subst h; simp at hk; rcases hk with rfl | rfl | rfl | rfl | rfl | rfl <;> simp [CallSafe]
    · split at hk
      · next h => subst h; simp at hk; rcases hk with rfl | rfl | rfl | rfl | rfl | rfl <;> simp [CallSafe]
      · simp at hk)

/-- … and after a round-robin schedule both have finished, with the user events
    emitted before their flush in their own file (two for thread 0; one for
    thread 1, whose last event stayed in the buffer: the library does not flush
    in `ovni_thread_free`) and their metadata written. -/
example :
    let c := runSched Foot.generated 100 twoThreads (roundRobin 2 26)
    (c.th 0).dead = false ∧ (c.th 1).dead = false ∧ (c.th 0).t.s.finished = true ∧ (c.th 1).t.s.finished = true ∧
    File.size (c.fs 100 .obs) = 2 ∧ File.size (c.fs 101 .obs) = 1 ∧
    File.size (c.fs 100 .json) = 11 ∧ File.size (c.fs 101 .json) = 11 := by
  decide +kernel

private def mixed : Cfg (List Nat) :=
  { g := { st := .uninit },
    th := fun i => if i < 2 then { calls := [.procInit (args i)] }
                   else if i = 2 then { t := { tid := 102, s := { now := 1000 } }, calls := [.threadInit 102, .stream (ev 5)] }
                   else { t := { tid := 100 + i } } }

/-- Two racers and a bystander that calls `ovni_thread_init` concurrently:
    the hypotheses of `init_once` / `ready_means_initialised` hold; -/
example : Race .uninit 2 (fun i => Call.procInit (args i)) (fun i => 100 + i) mixed :=
  ⟨rfl, fun i h => by simp only [mixed, if_pos h]; exact ⟨rfl, rfl, rfl, rfl⟩, fun i h => by
    by_cases e : i = 2
    · subst e
      refine ⟨⟨rfl, by simp [mixed], fun k hk => ?_⟩, rfl⟩
      simp [mixed] at hk
      rcases hk with rfl | rfl
      · rfl
      · trivial
    · simp only [mixed, if_neg (Nat.not_lt.mpr h), if_neg e]
      exact bystander_of_idle ⟨rfl, rfl, rfl, rfl⟩⟩

/-- if the bystander comes too early it dies ("process not ready") … -/
example :
    let c := runSched Foot.generated 100 mixed ([0, 0, 2, 2] ++ roundRobin 2 15)
    (c.th 2).dead = true ∧ c.g = ⟨.ready, args 0⟩ := by decide +kernel

/-- … and if it comes after READY it is initialised with the winner's data
    (`ovni.pid` of thread 1, who won here). -/
example :
    let c := runSched Foot.generated 100 mixed ([1, 1] ++ roundRobin 2 15 ++ List.replicate 12 2)
    (c.th 2).dead = false ∧ (c.th 2).t.s.ready = true ∧ c.g = ⟨.ready, args 1⟩ ∧
    (c.th 2).t.md.lookup "ovni.pid" = some "11" := by
  decide +kernel

/-- Distinct tids are needed: two threads that both call
    `ovni_thread_init(100)` clobber each other's `thread.100/stream.obs` — the
    file does not hold what thread 0 alone would have written. -/
example :
    let c0 : Cfg (List Nat) := threadsCfg {} (fun _ => 100)
      (fun i => if i = 0 then [.threadInit 100, .stream (ev 1), .stream .flush] else
                if i = 1 then [.threadInit 100] else [])
    let σ := List.replicate 15 0 ++ List.replicate 8 1
    File.size ((runSched Foot.generated 100 c0 σ).fs 100 .obs) = 0 ∧
    File.size ((runSched Foot.generated 100 (solo c0 0) σ).fs 100 .obs) = 1 := by decide +kernel

end Examples

end Ovni.Props.C11
