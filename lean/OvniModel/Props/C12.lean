import OvniModel.Lemmas.Stream
import OvniModel.Lemmas.Meta
import OvniModel.Props.C14
import OvniModel.Props.Json

/-!
# C12 — structurally invalid or incomplete traces are rejected

`Valid t → acceptsN fuel g (corrupt t) = false` for every `fuel` and every memory
`g` beyond the end of the file (`Emu/Stream.lean`); streams are lists of
well-formed events of any length, any payload / jumbo sizes, clocks below 2^63.
The metadata gates (`Emu/Meta.lean`) decide over records computed from the bytes
of `stream.json` by the parson model (`Emu/MetaJson.lean`).

The un-prefixed `acceptsN` / `emuEv` are ovni's code before the repairs db50cd1 /
38f8319, `Fixed.*` the code as repaired (DESIGN §0.3).  `truncation_rejected` is
**false before db50cd1** (`stream_step` read the jumbo size field before checking
that it lies inside the stream): a witness refutes it, and the `_partial` theorem
carries the hypothesis that excludes the witness class.
-/
namespace Ovni.Props.C12
open Ovni.Emu.Stream Ovni.Emu.Meta

/-- A valid stream passes the stream layer, whatever lies beyond its end (the
    rejections below are not vacuous). -/
theorem valid_accepted (g : Garbage) (evs : List SEv) (hv : Valid evs) :
    acceptsN (evs.length + 1) g (streamBytes evs) = true :=
  accepts_valid_with _ g evs hv (ldOk_loadEv g _)

theorem Fixed.valid_accepted (g : Garbage) (evs : List SEv) (hv : Valid evs) :
    Fixed.acceptsN (evs.length + 1) g (streamBytes evs) = true :=
  accepts_valid_with _ g evs hv (ldOk_fixed g _)

/-- Replacing any one of the 8 header bytes (4 magic, 4 version) by any other
    value makes `load_obs` fail, for both cursors. -/
theorem bad_header_rejected (rest : List Nat) (i : Nat) (hi : i < 8) (v : Nat)
    (hv : v ≠ (header ++ rest).getD i 0) (g : Garbage) (fuel : Nat) :
    acceptsN fuel g ((header ++ rest).set i v) = false ∧
    Fixed.acceptsN fuel g ((header ++ rest).set i v) = false :=
  have h := not_prefix_set rest i hi v hv
  ⟨acceptsWith_not_header _ fuel _ h, acceptsWith_not_header _ fuel _ h⟩

theorem short_header_rejected (buf : List Nat) (h : buf.length < 8) (g : Garbage) (fuel : Nat) :
    acceptsN fuel g buf = false ∧ Fixed.acceptsN fuel g buf = false :=
  have hp : ¬ header <+: buf := fun hp => by have := hp.length_le; rw [header_length] at this; omega
  ⟨acceptsWith_not_header _ fuel _ hp, acceptsWith_not_header _ fuel _ hp⟩

/-- The torn last event: a loader that answers `incomplete` at its offset makes the stream rejected. -/
theorem trunc_with (ld : Loader) (g : Garbage) (init : List SEv) (l : SEv) (r : Nat)
    (hv : Valid (init ++ [l])) (hr : 0 < r)
    (hld : LdOk g (streamBytes init ++ l.encode.take r) ld)
    (hfin : ∀ (c : Cur) (r1 : List Read), (ld c ((streamBytes init).length : Int) r1).1 = .err .incomplete) :
    ∀ fuel, acceptsWith (stepWith ld g (streamBytes init ++ l.encode.take r)) fuel
      (streamBytes init ++ l.encode.take r) = false :=
  rejected_of_loader_err ld g init (l.encode.take r) _ .incomplete hld (by simp [streamBytes])
    (by rw [Ne, List.take_eq_nil_iff]; exact fun h => h.elim (by omega) (encode_ne_nil l))
    (fun x hx => hv.2.1 x (List.mem_append_left _ hx)) (List.pairwise_append.mp hv.2.2).1 hfin

/-- Before db50cd1: a stream cut strictly inside its last event is rejected
    **provided** the cut does not tear the size field of a jumbo event (last
    event not jumbo, or at least 16 of its bytes survive).  What is missing:
    the case of a jumbo last event with 1..15 surviving bytes, where
    `ovni_ev_size` read the 4-byte size beyond the end of the stream. -/
theorem truncation_rejected_partial (g : Garbage) (init : List SEv) (l : SEv) (r : Nat)
    (hv : Valid (init ++ [l])) (hr : 0 < r) (hr2 : r < l.encode.length)
    (hj : isJumboF l.flags = true → 16 ≤ r) :
    ∀ fuel, acceptsN fuel g (streamBytes init ++ l.encode.take r) = false :=
  trunc_with _ g init l r hv hr (ldOk_loadEv g _) (loadEv_trunc g _ l (hv.2.1 l (by simp)) r hr hj hr2)

/-- **The full truncation statement is false before db50cd1**: the valid
    stream of one jumbo event with 4 data bytes, cut after the 12-byte header of
    that event, is accepted when the four bytes after the end of the buffer,
    where the size field would be, read `fc ff ff ff` = `0xfffffffc`
    (`ovni_payload_size` wraps to 0, the event "fits" exactly). -/
theorem truncation_not_rejected :
    ∃ (g : Garbage) (init : List SEv) (l : SEv) (r : Nat),
      Valid (init ++ [l]) ∧ 0 < r ∧ r < l.encode.length ∧
      acceptsN 2 g (streamBytes init ++ l.encode.take r) = true :=
  ⟨fun i => if i = 20 then 0xfc else 0xff, [],
    { flags := 0x13, mcv := [86, 89, 99], clock := 5, body := [4, 0, 0, 0, 1, 2, 3, 4] }, 12,
    by decide, by decide, by decide, by decide⟩

/-- Repaired cursor: **every** cut strictly inside the last event is rejected,
    for every garbage beyond the end. -/
theorem Fixed.truncation_rejected (g : Garbage) (init : List SEv) (l : SEv) (r : Nat)
    (hv : Valid (init ++ [l])) (hr : 0 < r) (hr2 : r < l.encode.length) :
    ∀ fuel, Fixed.acceptsN fuel g (streamBytes init ++ l.encode.take r) = false :=
  trunc_with _ g init l r hv hr (ldOk_fixed g _)
    (Ovni.Emu.Stream.Fixed.loadEv_trunc g _ l (hv.2.1 l (by simp)) r hr hr2)

theorem Fixed.truncation_rejected_take (g : Garbage) (init : List SEv) (l : SEv) (k : Nat)
    (hv : Valid (init ++ [l])) (h1 : (streamBytes init).length < k)
    (h2 : k < (streamBytes (init ++ [l])).length) :
    ∀ fuel, Fixed.acceptsN fuel g ((streamBytes (init ++ [l])).take k) = false := by
  rw [streamBytes_concat, List.length_append] at h2
  have hk : k = (streamBytes init).length + (k - (streamBytes init).length) := by omega
  rw [hk, streamBytes_concat, List.take_length_add_append]
  exact Fixed.truncation_rejected g init l _ hv (by omega) (by omega)

/-- Swapping two adjacent events whose clocks differ makes the clock go
    backwards at the second of them: rejected (`unsorted = 0`).  Any list of
    well-formed events whose clocks are not sorted is rejected alike, at its
    first descent (`unsorted_with`). -/
theorem swap_rejected (g : Garbage) (pre : List SEv) (a b : SEv) (post : List SEv)
    (hv : Valid (pre ++ a :: b :: post)) (hne : a.clock ≠ b.clock) :
    ∀ fuel, acceptsN fuel g (streamBytes (pre ++ b :: a :: post)) = false :=
  swap_with _ g pre a b post hv hne (ldOk_loadEv g _)

theorem Fixed.swap_rejected (g : Garbage) (pre : List SEv) (a b : SEv) (post : List SEv)
    (hv : Valid (pre ++ a :: b :: post)) (hne : a.clock ≠ b.clock) :
    ∀ fuel, Fixed.acceptsN fuel g (streamBytes (pre ++ b :: a :: post)) = false :=
  swap_with _ g pre a b post hv hne (ldOk_fixed g _)

-- non-vacuity: a valid stream with payloads and a jumbo event
def exEvs : List SEv :=
  [ { flags := 0x0f, mcv := [79, 72, 120], clock := 10, body := [0,0,0,0, 255,255,255,255, 0,0,0,0,0,0,0,0] },
    { flags := 0x13, mcv := [86, 89, 99], clock := 10, body := [3, 0, 0, 0, 7, 8, 9] },
    { flags := 0x03, mcv := [79, 65, 115], clock := 20, body := [0, 0, 0, 0] },
    { flags := 0x00, mcv := [79, 72, 101], clock := 9223372036854775807, body := [] } ]

example : Valid exEvs := by decide
example : Valid (List.take 2 exEvs ++ exEvs[2] :: exEvs[3] :: []) ∧ exEvs[2].clock ≠ exEvs[3].clock := by
  decide +kernel
example : acceptsN 5 (fun _ => 0) (streamBytes exEvs) = true := by decide +kernel

def goodMeta : Meta :=
  { version := some 3, part := some "thread", loom := some "node0", pid := 7, tid := 8, appId := some 1,
    finished := true, hasRequire := true, requires := [79], cpus := some [(0, 0)] }

example : checkStream goodMeta = .ok true := by decide
example : checkTrace [goodMeta] = .ok () := by decide

/-- What a stream must say to be loaded as a thread stream: equivalent to the
    transcribed order of the per-stream checks. -/
theorem thread_stream_spec (m : Meta) :
    checkStream m = .ok true ↔
      m.parsed = true ∧ m.version = some 3 ∧ m.part = some "thread" ∧
      (∃ name, m.loom = some name ∧ '/' ∉ name.toList) ∧ m.cpus ≠ some [] ∧ 0 < m.pid ∧
      (∀ a, m.appId = some a → 0 < a) ∧ 0 < m.tid ∧ m.finished = true := by
  unfold checkStream
  rw [show ((Ovni.Generated.metadataVersion : Nat) : Int) = 3 from rfl]
  simp only [gate_eq_ok, exit_eq_ok, Bool.false_eq_true, and_false, false_or, and_true, Decidable.not_not,
    Bool.not_eq_false, Int.not_le, not_exists, not_and]
  refine and_congr_right fun _ => and_congr_right fun _ => ?_
  constructor
  · rintro ⟨_, hp, hl, hs, rest⟩
    cases hn : m.loom with
    | none => exact absurd hn hl
    | some name => rw [hn] at hs; exact ⟨hp, ⟨name, rfl, hs⟩, rest⟩
  · rintro ⟨hp, ⟨name, hn, hs⟩, rest⟩
    rw [hp, hn]
    exact ⟨nofun, rfl, nofun, hs, rest⟩

/-- Every mandatory per-stream key, removed or set to a refused value, makes
    the stream fail to load — starting from **any** accepted metadata record. -/
theorem mandatory_key_rejected (m : Meta) (h : checkStream m = .ok true) :
    (∃ e, checkStream { m with parsed := false } = .error e) ∧
    (∃ e, checkStream { m with version := none } = .error e) ∧
    (∀ v : Int, v ≠ 3 → ∃ e, checkStream { m with version := some v } = .error e) ∧
    (∃ e, checkStream { m with part := none } = .error e) ∧
    (∃ e, checkStream { m with loom := none } = .error e) ∧
    (∀ s : String, '/' ∈ s.toList → ∃ e, checkStream { m with loom := some s } = .error e) ∧
    (∀ p : Int, p ≤ 0 → ∃ e, checkStream { m with pid := p } = .error e) ∧
    (∀ t : Int, t ≤ 0 → ∃ e, checkStream { m with tid := t } = .error e) ∧
    (∀ a : Int, a ≤ 0 → ∃ e, checkStream { m with appId := some a } = .error e) ∧
    (∃ e, checkStream { m with cpus := some [] } = .error e) ∧
    (∃ e, checkStream { m with finished := false } = .error e) := by
  have h3 : m.part = some "thread" := ((thread_stream_spec m).mp h).2.2.1
  -- a record whose part is still `thread` is refused as soon as one conjunct of `thread_stream_spec` fails
  have rej : ∀ m' : Meta, m'.part = some "thread" → ¬ (checkStream m' = .ok true) →
      ∃ e, checkStream m' = .error e := fun m' hp => checkStream_rejected m' (.inr hp)
  refine ⟨?_, ?_, ?_, checkStream_rejected _ (.inl rfl) ?_, ?_, ?_, ?_, ?_, ?_, ?_, ?_⟩
  · exact rej _ h3 fun hok => by
      obtain ⟨hparsed, _⟩ := (thread_stream_spec _).mp hok; simp at hparsed
  · exact rej _ h3 fun hok => by
      obtain ⟨_, hver, _⟩ := (thread_stream_spec _).mp hok; simp at hver
  · intro v hv
    exact rej _ h3 fun hok => by
      obtain ⟨_, hver, _⟩ := (thread_stream_spec _).mp hok; simp at hver; exact hv hver
  · exact fun hok => by
      obtain ⟨_, _, hpart, _⟩ := (thread_stream_spec _).mp hok; simp at hpart
  · exact rej _ h3 fun hok => by
      obtain ⟨_, _, _, ⟨n, hn, _⟩, _⟩ := (thread_stream_spec _).mp hok; simp at hn
  · intro s hs
    exact rej _ h3 fun hok => by
      obtain ⟨_, _, _, ⟨n, hn, hn'⟩, _⟩ := (thread_stream_spec _).mp hok
      simp at hn; subst hn; exact hn' hs
  · intro p hp
    exact rej _ h3 fun hok => by
      obtain ⟨_, _, _, _, _, hpid, _⟩ := (thread_stream_spec _).mp hok; simp at hpid; omega
  · intro t ht
    exact rej _ h3 fun hok => by
      obtain ⟨_, _, _, _, _, _, _, htid, _⟩ := (thread_stream_spec _).mp hok; simp at htid; omega
  · intro a ha
    exact rej _ h3 fun hok => by
      obtain ⟨_, _, _, _, _, _, happ, _⟩ := (thread_stream_spec _).mp hok
      have := happ a rfl; omega
  · exact rej _ h3 fun hok => by
      obtain ⟨_, _, _, _, hcpus, _⟩ := (thread_stream_spec _).mp hok; simp at hcpus
  · exact rej _ h3 fun hok => by
      obtain ⟨_, _, _, _, _, _, _, _, hfin⟩ := (thread_stream_spec _).mp hok; simp at hfin

/-- Trace level (single-stream form): a loom none of whose streams lists a
    CPU, a process none of whose streams carries `app_id`, a thread without
    `ovni.lib`, a thread without an `ovni.require` object — each is refused. -/
theorem trace_key_rejected (m : Meta) (h : checkStream m = .ok true) :
    (∃ e, checkTrace [{ m with cpus := none }] = .error e) ∧
    (∃ e, checkTrace [{ m with appId := none }] = .error e) ∧
    (∃ e, checkTrace [{ m with hasLib := false }] = .error e) ∧
    (∃ e, checkTrace [{ m with hasRequire := false }] = .error e) := by
  obtain ⟨h1, h2, h3, hl, h5, h6, h7, h8, h9⟩ := (thread_stream_spec m).mp h
  have ok1 : checkStream { m with cpus := none } = .ok true :=
    (thread_stream_spec _).mpr ⟨h1, h2, h3, hl, nofun, h6, h7, h8, h9⟩
  have ok2 : checkStream { m with appId := none } = .ok true :=
    (thread_stream_spec _).mpr ⟨h1, h2, h3, hl, h5, h6, nofun, h8, h9⟩
  -- `checkStream` does not look at `hasLib` and `hasRequire`
  have ok3 : checkStream { m with hasLib := false } = .ok true := h
  have ok4 : checkStream { m with hasRequire := false } = .ok true := h
  exact ⟨error_of_ne_ok fun hok => ((checkTrace_single _ ok1).mp hok).1 rfl,
    error_of_ne_ok fun hok => ((checkTrace_single _ ok2).mp hok).2.1 rfl,
    error_of_ne_ok (fun hok => nomatch ((checkTrace_single _ ok3).mp hok).2.2.1),
    error_of_ne_ok (fun hok => nomatch ((checkTrace_single _ ok4).mp hok).2.2.2)⟩

/-- Events of a model no thread required (other than the always-enabled ovni
    model) and events of an unregistered model char are refused by `model_event`.
    "Required" is the field `Meta.requires`, which the caller fills (the stream
    driver with `Meta.compatReqs`); `metaOfJson` leaves it empty. -/
theorem unrequired_model_rejected (registered : List Nat) (ths : List Meta) (m : Nat)
    (hm : m ≠ 79) (hreq : ∀ t ∈ ths, m ∉ t.requires) :
    ∃ e, modelGate registered ths m = .error e := by
  unfold modelGate
  by_cases hr : m ∈ registered
  · rw [if_neg (by simpa using hr)]
    have : ¬ (m = 79 ∨ ths.any (fun t => decide (m ∈ t.requires)) = true) := by
      intro h
      rcases h with h | h
      · exact hm h
      · obtain ⟨t, ht, hd⟩ := List.any_eq_true.mp h
        exact hreq t ht (by simpa using hd)
    rw [if_neg this]; exact ⟨_, rfl⟩
  · rw [if_pos (by simpa using hr)]; exact ⟨_, rfl⟩

/-- Version-mismatched metadata is refused, whichever thread carries it: if
    some thread requires a registered model with a version string that does not
    parse or is not compatible with the model's (the `.error` outcome of
    `should_enable`, see `Props.C14.shouldEnable_error_iff`), the probe of
    `emu_init` aborts. -/
theorem mismatched_require_rejected (models : List (List Nat × List Nat × Nat)) (ths : List Meta)
    (name ver : List Nat) (ch : Nat) (hv : Ovni.Version.Ver)
    (hm : (name, ver, ch) ∈ models) (hp : Ovni.Version.parse (some ver) = some hv)
    (t : Meta) (ht : t ∈ ths)
    (hbad : Ovni.Version.shouldEnable hv (Ovni.Version.reqFor name t.require) = .error) :
    versionGate models ths = .error .reqVersion := by
  unfold versionGate
  rw [Ovni.Version.enabledSet_eq_none.mpr ⟨name, ver, ch, hm, (Ovni.Props.C14.abort_iff ..).mpr
    (Or.inr ⟨hv, hp, _, List.mem_map.2 ⟨_, List.mem_map.2 ⟨t, ht, rfl⟩, rfl⟩, hbad⟩)⟩]

/-- the two-thread situation: the first thread requires nanos6 1.1.0, the second
    one an incompatible major, a too-new minor, or an unparsable version -/
example : ∀ bad ∈ [[50, 46, 48, 46, 48], [49, 46, 57, 57, 46, 48], [49, 46, 120, 46, 48]],
    versionGate Ovni.Generated.modelVersions
      [{ goodMeta with reqs := [([110, 97, 110, 111, 115, 54], [49, 46, 49, 46, 48])] },
       { goodMeta with tid := 101, reqs := [([110, 97, 110, 111, 115, 54], bad)] }] = .error .reqVersion := by
  decide +kernel

example : versionGate Ovni.Generated.modelVersions
      [{ goodMeta with reqs := [([110, 97, 110, 111, 115, 54], [49, 46, 49, 46, 48])] },
       { goodMeta with tid := 101, reqs := [([110, 97, 110, 111, 115, 54], [49, 46, 48, 46, 55])] }] = .ok () := by
  decide +kernel

theorem wrong_payload_size_rejected (mcv : Nat × Nat × Nat) (ok : Nat → Bool) (n : Nat)
    (hg : sizeGuard mcv = some ok) (hn : ok n = false) : payloadGate mcv n = .error .payload := by
  unfold payloadGate; rw [hg]; simp [hn]

/-- The guards as they stand: `OHx` needs ≥ 4 bytes, `OAs` exactly 4, `OAr` exactly 8, marks exactly 12. -/
example : payloadGate (79, 72, 120) 0 = .error .payload ∧ payloadGate (79, 65, 115) 8 = .error .payload ∧
    payloadGate (79, 65, 114) 4 = .error .payload ∧ payloadGate (79, 77, 91) 8 = .error .payload ∧
    payloadGate (79, 72, 120) 16 = .ok () := by decide

/-- `emu_ev` before 38f8319 (DESIGN §6-D): `is_jumbo` of a non-jumbo event with payload is whatever the
    previous event left — after a jumbo event it stays 1.  Witness: stream
    `[jumbo VYc, OAs with 4 bytes]`; the second event is decoded as jumbo. -/
theorem emuEv_sticky_jumbo :
    ∃ (buf : List Nat) (o1 o2 : Int) (g : Garbage),
      isJumboF (flagsAt g buf o2) = false ∧
      (emuEv (emuEv ⟨0, false, false⟩ g buf o1) g buf o2).isJumbo = true :=
  ⟨streamBytes (exEvs.drop 1), 8, 27, fun _ => 0, by decide, by decide⟩

/-- `emu_ev` as repaired by 38f8319: `is_jumbo` is set only for an event whose own
    flags say jumbo (the previous event plays no part; a jumbo flag with payload
    size 0 gives `is_jumbo = 0`, so the converse does not hold). -/
theorem Fixed.emuEv_isJumbo (prev : EmuEv) (g : Garbage) (buf : List Nat) (off : Int) :
    (Ovni.Emu.Stream.Fixed.emuEv prev g buf off).isJumbo = true → isJumboF (flagsAt g buf off) = true := by
  unfold Ovni.Emu.Stream.Fixed.emuEv
  simp only
  split <;> simp

/-- A `stream.json` whose text is a strict prefix of what libovni serialized (a
    kill or a full disk during `json_serialize_to_file_pretty`; the empty file
    included) does not pass `load_json`: the stream is rejected with class `json`,
    and so is a trace made of it. -/
theorem truncated_json_rejected (cast : Bool) (j : Ovni.Json.Json) (hw : Ovni.Json.Writable j)
    (hd : Ovni.Json.delimited j = true) (p : List Nat) (hp : p <+: Ovni.Json.serializePretty j)
    (hne : p ≠ Ovni.Json.serializePretty j) :
    ∃ m, metaOfText cast p = some m ∧ checkStream m = .error .json ∧ checkTrace [m] = .error .json :=
  ⟨_, metaOfText_fail cast p (Ovni.Props.Json.truncation_rejected j hw hd p hp hne), rfl, rfl⟩

/-- The complete file gives the emulator's getters the value libovni held. -/
theorem written_json_read_back (cast : Bool) (j : Ovni.Json.Json) (hw : Ovni.Json.Writable j) :
    metaOfText cast (Ovni.Json.serializePretty j) = some (metaOfJson cast j) :=
  metaOfText_ok cast _ j (Ovni.Props.Json.roundtrip j hw)

set_option maxRecDepth 100000 in
/-- The real `stream.json` of `Props/Json.lean` passes the per-stream gate; cut before its last byte it does not. -/
example : (metaOfText false Ovni.Props.Json.realText).map checkStream = some (.ok true)
    ∧ (metaOfText false (Ovni.Props.Json.realText.take 937)).map checkStream = some (.error .json) := by
  rw [metaOfText_ok _ _ _ Ovni.Props.Json.parse_realText,
    metaOfText_fail _ _ (Ovni.Props.Json.parse_realText_cut 937 (by omega))]
  decide +kernel

end Ovni.Props.C12
