import OvniModel.Lemmas.EmuCoreTotal

/-!
# C13 — Paraver output is well-formed and self-consistent

Model: `Emu/Prv.lean` (prv.c / prf.c) on top of the record generation of
`Emu/View.lean`.  `records_error_only_zero` is `records_error` of `Lemmas/EmuCoreRec` under the
property's name, and `records_values_labelled_OH` is the OH* case of `records_values_labelled_ovni`:
the checks audit the `Props` modules only.
-/
namespace Ovni.Props.C13
open Ovni.Emu Ovni.Generated

/-- Invariant of a .prv file being written. -/
def Mono (p : PrvFile) : Prop :=
  p.lines.Pairwise (fun a b => a.1 ≤ b.1) ∧ ∀ l ∈ p.lines, l.1 ≤ p.time

theorem writeAll_eq (rs : List PrvRec) (p : PrvFile) :
    p.writeAll rs = { p with lines := p.lines ++ rs.map fun r => (p.time, r.row, r.type, r.value) } := by
  induction rs generalizing p with
  | nil => simp [PrvFile.writeAll]
  | cons r rs ih =>
    show (p.write r).writeAll rs = _
    rw [ih]; simp [PrvFile.write]

theorem write_time (p : PrvFile) (r : PrvRec) : (p.write r).time = p.time := rfl
theorem write_nrows (p : PrvFile) (r : PrvRec) : (p.write r).nrows = p.nrows := rfl

theorem mono_writeAll (rs : List PrvRec) (p : PrvFile) (h : Mono p) :
    Mono (p.writeAll rs) ∧ (p.writeAll rs).time = p.time ∧ (p.writeAll rs).nrows = p.nrows := by
  rw [writeAll_eq]
  refine ⟨⟨List.pairwise_append.mpr ⟨h.1, ?_, fun a ha b hb => ?_⟩, fun l hl => ?_⟩, rfl, rfl⟩
  · exact List.pairwise_map.mpr (List.pairwise_of_forall fun _ _ => Int.le_refl _)
  · obtain ⟨r, _, rfl⟩ := List.mem_map.mp hb; exact h.2 a ha
  · rcases List.mem_append.mp hl with hl | hl
    · exact h.2 l hl
    · obtain ⟨r, _, rfl⟩ := List.mem_map.mp hl; exact Int.le_refl _

theorem mono_write (p : PrvFile) (r : PrvRec) (h : Mono p) : Mono (p.write r) :=
  (mono_writeAll [r] p h).1

theorem mono_advance {p : PrvFile} {t : Int} (h : Mono p) (ht : p.time ≤ t) :
    Mono ({ p with time := t } : PrvFile) :=
  ⟨h.1, fun l hl => Int.le_trans (h.2 l hl) ht⟩

theorem advance_ok {p p' : PrvFile} {t : Int} (h : p.advance t = .ok p') :
    p' = { p with time := t } ∧ p.time ≤ t := by
  unfold PrvFile.advance at h
  split at h
  · cases h
  · cases h; exact ⟨rfl, by omega⟩

theorem mono_step (p p' : PrvFile) (file : Nat) (t : Int) (rs : List PrvRec) (h : Mono p)
    (hs : p.step file t rs = .ok p') : Mono p' ∧ p'.time = t ∧ p.time ≤ t ∧ p'.nrows = p.nrows := by
  unfold PrvFile.step at hs
  split at hs
  · cases hs
  · rename_i pa hadv
    obtain ⟨rfl, hle⟩ := advance_ok hadv
    cases hs
    obtain ⟨m, ht, hn⟩ := mono_writeAll (rs.filter (·.file == file)) _ (mono_advance h hle)
    exact ⟨m, ht, hle, hn⟩

/-- **Timestamps never decrease and the header duration is the last event
    time**, for every sequence of emulator steps (clock, records) the writer
    accepts. -/
theorem prv_times_monotone (file : Nat) (steps : List (Int × List PrvRec)) (p p' : PrvFile)
    (h : Mono p) (hr : p.run file steps = .ok p') :
    Mono p' ∧ p'.header.2 = p.nrows ∧
      p'.header.1 = (match steps.getLast? with | some (t, _) => t | none => p.time) := by
  induction steps generalizing p with
  | nil =>
    simp only [PrvFile.run, Except.ok.injEq] at hr
    subst hr
    exact ⟨h, rfl, rfl⟩
  | cons s rest ih =>
    obtain ⟨t, rs⟩ := s
    simp only [PrvFile.run] at hr
    cases hs : p.step file t rs with
    | error e => rw [hs] at hr; cases hr
    | ok p1 =>
      rw [hs] at hr
      obtain ⟨m1, ht1, _, hn1⟩ := mono_step p p1 file t rs h hs
      obtain ⟨m', hn', hh'⟩ := ih p1 m1 hr
      cases rest with
      | nil => exact ⟨m', hn'.trans hn1, hh'.trans ht1⟩
      | cons a b => rw [List.getLast?_cons_cons]; exact ⟨m', hn'.trans hn1, hh'⟩

/-- A step whose clock goes backwards is refused (no line is written at an
    earlier time than an existing one). -/
theorem backwards_refused (p : PrvFile) (file : Nat) (t : Int) (rs : List PrvRec) (h : t < p.time) :
    p.step file t rs = .error .other := by
  unfold PrvFile.step PrvFile.advance
  simp [h]

theorem specs_consistent : ∀ s ∈ allSpecs, s.pvtType.length = s.nch := by decide

/-- `hty` is what `records_mem` gives; `threadTypes` and `cpuTypes` are the raw types of a row, then the
    types of the models. -/
theorem type_mem (e : Emu) (hx : ∀ s ∈ e.extra, s.pvtType.length = s.nch) {raws : List (Nat × Nat × Chan)}
    {r : PrvRec} (hty : (∃ x ∈ raws, r.type = x.1 ∧ prvValue x.2.1 x.2.2.cur = .ok r.value) ∨
      ∃ m ∈ e.specs, ∃ i < m.nch, r.type = m.pvtType.getD i 0) :
    r.type ∈ raws.map (·.1) ++ e.specs.flatMap (·.pvtType) := by
  rcases hty with ⟨x, hxr, h1, _⟩ | ⟨m, hm, i, hi, h1⟩
  · rw [h1]; exact List.mem_append_left _ (List.mem_map_of_mem (f := (·.1)) hxr)
  · have hlen : m.pvtType.length = m.nch := by
      rcases List.mem_append.1 hm with ha | he
      · exact specs_consistent m (List.mem_filter.1 ha).1
      · exact hx m he
    rw [← hlen] at hi
    rw [h1, List.getD_eq_getElem?_getD, List.getElem?_eq_getElem hi]
    exact List.mem_append_right _ (List.mem_flatMap.2 ⟨m, hm, List.getElem_mem hi⟩)

/-- **Rows in range, types declared.** Every record the emulator produces in a
    step belongs to the row of an existing thread (file 0) or CPU (file 1) —
    row = gindex + 1 — and its type is one of the types declared in the matching
    .pcf (the three fixed types plus the channel types of the enabled models). -/
theorem records_rows_types (old new : Emu) (hxc : ∀ s ∈ new.extra, s.pvtType.length = s.nch)
    (out : List PrvRec) (h : records old new = .ok out)
    (r : PrvRec) (hr : r ∈ out) :
    (r.file = 0 ∧ (∃ t ∈ new.threads, r.row = t.gindex + 1) ∧ r.type ∈ threadTypes new) ∨
    (r.file = 1 ∧ (∃ c ∈ new.cpus, r.row = c.gindex + 1) ∧ r.type ∈ cpuTypes new) := by
  rcases records_mem h hr with ⟨t, ht, hf, hw, hty⟩ | ⟨c, hc, hf, hw, hty⟩
  · exact Or.inl ⟨hf, ⟨t, ht, hw⟩, type_mem new hxc hty⟩
  · exact Or.inr ⟨hf, ⟨c, hc, hw⟩, type_mem new hxc hty⟩

/-- every value a connect-time initialisation or a CPU-mux default of the model puts on a channel
    has a label in the PCF value table `labels` of that channel -/
def initLabelled (m : ModelSpec) (labels : List (List (Int × String))) : Bool :=
  (m.initVals ++ m.cpuDefault).all (fun iv => (labels.getD iv.1 []).any (fun l => l.1 == iv.2))

/-- **Labels.** The connect-time values and CPU-mux defaults of nOS-V and Nanos6 (no other model has any) are
    labelled.
    (The values of the event tables: C08 `tables_labelled`; thread-state codes and CPU affinity
    labels: `records_values_labelled_ovni`.) -/
theorem init_values_labelled :
    initLabelled specNosv Nosv.labels = true ∧ initLabelled specNanos6 Nanos6.labels = true := by decide

/-- the six thread states have the codes labelled in the table of thread.c (regenerated codes) -/
theorem thread_state_codes :
    [ThState.unknown, .running, .paused, .dead, .cooling, .warming].map ThState.code = [0, 1, 2, 3, 4, 5] := by
  decide

def typesDisjoint (m : ModelSpec) : Bool :=
  m.pvtType.all fun ty => ty != prvThreadState && ty != prvThreadCpu

theorem allSpecs_types_disjoint : ∀ m ∈ allSpecs, typesDisjoint m = true := by decide

theorem getD_type_ne {m : ModelSpec} (h : typesDisjoint m = true) (i : Nat) :
    m.pvtType.getD i 0 ≠ prvThreadState ∧ m.pvtType.getD i 0 ≠ prvThreadCpu := by
  rw [List.getD_eq_getElem?_getD]
  cases hg : m.pvtType[i]? with
  | none => exact ⟨by decide, by decide⟩
  | some ty =>
    unfold typesDisjoint at h
    rw [List.all_eq_true] at h
    have := h ty (List.mem_of_getElem? hg)
    simp only [Bool.and_eq_true, bne_iff_ne, ne_eq] at this
    exact this

/-- **Labelled values (general form)**: `records_values_labelled_ovni` for any `new` whose flushed
    state is well-formed and in which no channel group reuses the types 4 / 6. -/
theorem records_values_labelled_wf (old : Emu) {new : Emu} (hw : WF new.flushAll)
    (hx : ∀ m ∈ new.extra, typesDisjoint m = true) {out : List PrvRec} (h : records old new = .ok out)
    {r : PrvRec} (hr : r ∈ out) (hf : r.file = 0) :
    (r.type = prvThreadState →
      ∃ t ∈ new.flushAll.threads, r.row = t.gindex + 1 ∧ r.value = t.state.code) ∧
    (r.type = prvThreadCpu →
      ∃ t ∈ new.flushAll.threads, r.row = t.gindex + 1 ∧
        ((t.cpu = none ∧ r.value = 0) ∨
          ∃ c ∈ new.flushAll.cpus, t.cpu = some c.gindex ∧ r.value = (c.gindex : Int) + 1)) := by
  have hdis : ∀ m ∈ allSpecs.filter (fun s => new.enabled.contains s.char) ++ new.extra,
      typesDisjoint m = true := by
    intro m hm
    rcases List.mem_append.1 hm with h1 | h1
    · exact allSpecs_types_disjoint m (List.mem_filter.1 h1).1
    · exact hx m h1
  rcases records_mem h hr with ⟨t, ht, _, hrow, hty⟩ | ⟨c, _, hf1, _⟩
  · obtain ⟨⟨j, hj⟩, hcs, _, hcc⟩ := wf_flush_thread hw ht
    have htf := List.mem_of_getElem? hj
    rcases hty with ⟨x, hx, hty, hval⟩ | ⟨m, hm, i, _, hty⟩
    · simp only [thRaws, List.mem_cons, List.not_mem_nil, or_false] at hx
      rcases hx with rfl | rfl | rfl <;> simp only at hty hval
      · refine ⟨fun h4 => absurd (hty.symm.trans h4) (by decide), fun _ => ⟨t.flush, htf, hrow, ?_⟩⟩
        rw [hcc] at hval
        cases hcpu : t.cpu with
        | none => rw [hcpu] at hval; exact Or.inl ⟨hcpu, (Except.ok.inj hval).symm⟩
        | some ci =>
          rw [hcpu, show cpuVal (some ci) = .int ci from rfl, prvValue_next] at hval
          obtain ⟨c, hc, _⟩ := hw.cpu_lists hj (show t.flush.cpu = some ci from hcpu)
          rw [← (hw.cpu ci c hc).gidx] at hcpu hval
          exact Or.inr ⟨c, List.mem_of_getElem? hc, hcpu, (Except.ok.inj hval).symm⟩
      · exact ⟨fun h4 => absurd (hty.symm.trans h4) (by decide), fun h6 => absurd (hty.symm.trans h6) (by decide)⟩
      · refine ⟨fun _ => ⟨t.flush, htf, hrow, ?_⟩, fun h6 => absurd (hty.symm.trans h6) (by decide)⟩
        rw [hcs, prvValue_state] at hval
        exact (Except.ok.inj hval).symm
    · -- a model view: its type is neither 4 nor 6
      obtain ⟨n4, n6⟩ := getD_type_ne (hdis m hm) i
      exact ⟨fun h4 => absurd (hty.symm.trans h4) n4, fun h6 => absurd (hty.symm.trans h6) n6⟩
  · rw [hf] at hf1; cases hf1

/-- **`emit`'s zero rule is the only failure of the record emission**: `records` fails only with
    "forbidden value 0" — an integer 0 (after PRV_NEXT) on a type without PRV_ZERO; under
    `NoZeroIds` and for the events of the ovni model it does not fail at all
    (`records_total_of_wf`, C04 `records_total`, C05 `records_total_affinity`). -/
theorem records_error_only_zero {old new : Emu} {err : Err} (h : records old new = .error err) :
    err = .prvZero := records_error h

section
variable (th mh : Emu → Nat → Nat → Nat → List Nat → Except Err Emu)

/-- **Every thread-state and CPU-affinity value the ovni model prints has a label.**  For every
    accepted step of a thread event OH{x,c,p,w,r,e} or an affinity event OAs / OAr from a well-formed
    state, every record written to thread.prv with type `prvThreadState` carries the code of the
    state of the row's thread after the step — one of the six codes labelled by `state_name[]` in
    thread.c — and every record with type `prvThreadCpu` carries 0 (no CPU) or `gindex + 1` of the
    existing CPU the thread is bound to after the step, the value `cpu_add_to_pcf_type` labels. -/
theorem records_values_labelled_ovni {e e' : Emu} (h : WF e) (hen : e.enabled.contains 79 = true)
    (hx : ∀ m ∈ e.extra, typesDisjoint m = true) {ev : OEv} (hk : IsThreadEv ev ∨ IsAffinityEv ev)
    {rs : List PrvRec} (hs : stepEv e ev.1 79 ev.2.1 ev.2.2.1 ev.2.2.2 th mh = .ok (e', rs))
    {r : PrvRec} (hr : r ∈ rs) (hf : r.file = 0) :
    (r.type = prvThreadState →
      ∃ t ∈ e'.threads, r.row = t.gindex + 1 ∧ r.value = t.state.code ∧
        r.value ∈ [ThState.unknown, .running, .paused, .dead, .cooling, .warming].map (fun s => (s.code : Int))) ∧
    (r.type = prvThreadCpu →
      ∃ t ∈ e'.threads, r.row = t.gindex + 1 ∧
        ((t.cpu = none ∧ r.value = 0) ∨
          ∃ c ∈ e'.cpus, t.cpu = some c.gindex ∧ r.value = (c.gindex : Int) + 1)) := by
  obtain ⟨e1, hm, hrec, rfl⟩ := (stepEv_ok_iff th mh).mp hs
  obtain ⟨tj, x, hso⟩ := emuStep_sound th mh h hen hk (stepEv_emuStep th mh hs)
  have hx1 : ∀ m ∈ e1.extra, typesDisjoint m = true := by
    have : e1.extra = e.extra := hso.static.extra
    rw [this]; exact hx
  obtain ⟨a, b⟩ := records_values_labelled_wf e hso.wf hx1 hrec hr hf
  refine ⟨fun h4 => ?_, b⟩
  obtain ⟨t, ht, h1, h2⟩ := a h4
  refine ⟨t, ht, h1, h2, ?_⟩
  rw [h2]
  cases t.state <;> decide

/-- The OH* case with the event spelled out. -/
theorem records_values_labelled_OH {e e' : Emu} (h : WF e) (hen : e.enabled.contains 79 = true)
    (hx : ∀ m ∈ e.extra, typesDisjoint m = true) {ti v : Nat} (hv : v ∈ [120, 99, 112, 119, 114, 101])
    {payload : List Nat} {rs : List PrvRec} (hs : stepEv e ti 79 72 v payload th mh = .ok (e', rs))
    {r : PrvRec} (hr : r ∈ rs) (hf : r.file = 0) :
    (r.type = prvThreadState → ∃ t ∈ e'.threads, r.row = t.gindex + 1 ∧ r.value = t.state.code) ∧
    (r.type = prvThreadCpu → r.value = 0 ∨ ∃ c ∈ e'.cpus, r.value = (c.gindex : Int) + 1) := by
  obtain ⟨a, b⟩ := records_values_labelled_ovni th mh h hen hx (ev := (ti, 72, v, payload))
    (Or.inl ⟨rfl, hv⟩) hs hr hf
  refine ⟨fun h4 => ?_, fun h6 => ?_⟩
  · obtain ⟨t, ht, h1, h2, _⟩ := a h4; exact ⟨t, ht, h1, h2⟩
  · obtain ⟨t, _, _, h2⟩ := b h6
    rcases h2 with ⟨_, h0⟩ | ⟨c, hc, _, hv'⟩
    · exact Or.inl h0
    · exact Or.inr ⟨c, hc, hv'⟩
end

/-- **.row file**: as many names as rows, one per thread / CPU in gindex order. -/
theorem row_file_complete (labels : List String) :
    (rowFile labels).1 = labels.length ∧ (rowFile labels).2 = labels := ⟨rfl, rfl⟩

example : Mono ({ nrows := 2 } : PrvFile) := ⟨List.Pairwise.nil, by intro l hl; cases hl⟩
example : (({ nrows := 2 } : PrvFile).run 0 [(0, [⟨0, 1, 4, 1⟩]), (5, [⟨0, 1, 4, 2⟩, ⟨1, 1, 3, 0⟩]), (5, [])]).toOption.map
    (fun p => (p.header, p.lines)) = some ((5, 2), [(0, 1, 4, 1), (5, 1, 4, 2)]) := by decide +kernel

/-- the execute of the only thread of a one-CPU system writes, on thread row 1, CPU 1 = `gindex 0 + 1`
    (type 6) and state 1 = running (type 4): the hypotheses of `records_values_labelled_ovni` are
    satisfiable and its conclusions are met with non-zero values -/
example :
    ((stepEv (mkEmu [(10, 100, 0)] [(0, 0, false)] [79] false) 0 79 72 120 [0, 0, 0, 0]
        (fun _ _ _ _ _ => .error .unknownEvent) (fun _ _ _ _ _ => .error .unknownEvent)).toOption.map
      fun p => p.2.filter (fun r => r.file == 0 && (r.type == prvThreadState || r.type == prvThreadCpu))) =
    some [⟨0, 1, 6, 1⟩, ⟨0, 1, 4, 1⟩] := by decide +kernel

example : ∀ m ∈ (mkEmu [(10, 100, 0)] [(0, 0, false)] [79] false).extra, typesDisjoint m = true := by
  intro m hm; cases hm

end Ovni.Props.C13
