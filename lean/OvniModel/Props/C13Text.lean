import OvniModel.Lemmas.PvRegs

/-!
# C13, text level — the Paraver files as text

`Props/C13.lean` states the property on records; here it is stated on the bytes
of the files `Emu/PvText.lean` prints (over `Emu/PvLines.lean`, the emulator with
its whole patch bay), read back by independent readers (`parsePrv`, `parseRow`,
`pcfDeclared`, `parsePcfTypes`).  The same functions print the files the check
compares byte for byte with ovniemu's (`drv_emu`, `pvtext`).
-/
namespace Ovni.Props.C13Text
open Ovni.Emu Ovni.Emu.PvText Ovni.Generated Ovni.Props.C13

/-- **C13 on the text of a `.prv` and its `.pcf`**: the file parses (header with
    the given duration and row count, then one record per line), times never
    decrease and none is later than the duration, every row is within 1 … nrows,
    every type is declared by the PCF text. -/
def PrvWellFormed (prv pcf : Text) (nrows : Nat) (duration : Int) : Prop :=
  ∃ ls, parsePrv prv = some ((duration, nrows), ls) ∧
    ls.Pairwise (fun a b => a.1 ≤ b.1) ∧
    ∀ l ∈ ls, 1 ≤ l.2.1 ∧ l.2.1 ≤ nrows ∧ l.1 ≤ duration ∧ l.2.2.1 ∈ pcfDeclared pcf

/-- **Every `.prv` text reads back**, for any row count, any duration (negative
    included) and records with numbers of any size: decimal printing loses
    nothing and no record is split or merged. -/
theorem prv_roundtrip (p : PrvFile) : parsePrv (prvText p) = some (p.header, p.lines) :=
  parsePrv_text p.nrows p.time p.lines

theorem prvText_injective (p q : PrvFile) (h : prvText p = prvText q) :
    p.header = q.header ∧ p.lines = q.lines := by
  have hp := prv_roundtrip p
  rw [h, prv_roundtrip q] at hp
  simp only [Option.some.injEq, Prod.mk.injEq] at hp
  exact ⟨hp.1.symm, hp.2.symm⟩

/-- **Exact bound of the `%020lld` placeholder**: the header `prv_close` writes
    has the length of the header `prv_open` wrote iff the duration has at most
    20 digits (19 after a minus sign). -/
theorem header_rewrite_same_length_iff (nrows : Nat) (d : Int) :
    (prvHeader nrows d).length = (prvOpenText nrows).length ↔ (-(10 : Int) ^ 19 < d ∧ d < (10 : Int) ^ 20) := by
  have h0 : (intPad0 20 0).length = 20 := (intPad0_length 20 (by decide) 0).mpr (by decide)
  unfold prvOpenText
  rw [prvHeader_length, prvHeader_length, h0, ← intPad0_length 20 (by decide) d]
  omega

/-- **The rewrite never changes the file** beyond the header when the duration
    is in that range — every `int64_t` clock is (2^63 < 10^19). -/
theorem close_is_prvText (p : PrvFile) (h : -(10 : Int) ^ 19 < p.time ∧ p.time < (10 : Int) ^ 20) :
    prvCloseText p = prvText p ∧ (prvCloseText p).length = (prvOpenedText p).length := by
  have hl := (header_rewrite_same_length_iff p.nrows p.time).mpr h
  have e : prvCloseText p = prvText p := overwrite_same_length _ _ _ hl
  refine ⟨e, ?_⟩
  rw [e]
  simp only [prvText, prvOpenedText, List.length_append, hl]

theorem int64_in_range (t : Int) (h0 : 0 ≤ t) (h : t < 2 ^ 63) : -(10 : Int) ^ 19 < t ∧ t < (10 : Int) ^ 20 := by
  have : (2 : Int) ^ 63 < (10 : Int) ^ 20 := by decide
  have : -(10 : Int) ^ 19 < 0 := by decide
  omega

/-- Beyond the bound the rewrite eats the beginning of the first record: a
    duration of 10^20 (21 digits) turns `2:0:1:1:1:…` into `:0:1:1:1:…` and the
    file no longer parses. -/
theorem close_corrupts_beyond_bound :
    parsePrv (prvCloseText { nrows := 1, time := 10 ^ 20, lines := [(10 ^ 20, 1, 4, 1)] }) = none := by decide +kernel

/-- **thread.row**: what `prf_close` writes reads back as one name per thread in
    gindex order, the declared size being the number of threads; every name fits
    `MAX_PRF_LABEL`.  The middle conjunct only recalls the definition of
    `threadNames` (the name of thread `g` is `TH <appid>.<tid>`). -/
theorem thread_row_wellformed (e : Emu) (n : Names) (t : Text) (h : rowFileOf (threadNames e n) = .ok t) :
    parseRow t = some (e.threads.length, threadNames e n) ∧
    threadNames e n = e.threads.mapIdx (fun g th => threadName (n.appids.getD g 0) th.tid) ∧
    ∀ nm ∈ threadNames e n, nm.length < maxPrfLabel := by
  obtain ⟨hp, hlen⟩ := rowFile_reads (fun nm hnm => by
    obtain ⟨i, _, rfl⟩ := List.mem_mapIdx.mp hnm
    exact threadName_no_nl _ _) h
  rw [threadNames, List.length_mapIdx] at hp
  exact ⟨hp, rfl, hlen⟩

/-- **cpu.row**: one name per CPU in gindex order; the middle conjunct recalls the definition of
    `cpuNames` (` CPU <loom>.<phyid>` or `vCPU <loom>.*`). -/
theorem cpu_row_wellformed (e : Emu) (n : Names) (t : Text) (h : rowFileOf (cpuNames e n) = .ok t) :
    parseRow t = some (e.cpus.length, cpuNames e n) ∧
    cpuNames e n = e.cpus.mapIdx (fun g c => cpuName (n.cpus.getD g (c.loom, 0)).1 (n.cpus.getD g (c.loom, 0)).2 c.virt) ∧
    ∀ nm ∈ cpuNames e n, nm.length < maxPrfLabel := by
  obtain ⟨hp, hlen⟩ := rowFile_reads (cpuNames_no_nl e n) h
  rw [cpuNames, List.length_mapIdx] at hp
  exact ⟨hp, rfl, hlen⟩

section
variable {th mh : Emu → Nat → Nat → Nat → List Nat → Except Err Emu}

theorem prvWellFormed_close {p : PrvFile} {pcf : Pcf} (hm : Mono p) (h0 : 0 ≤ p.time) (hdur : p.time < (10 : Int) ^ 20)
    (hl : ∀ l ∈ p.lines, 1 ≤ l.2.1 ∧ l.2.1 ≤ p.nrows ∧ l.2.2.1 ∈ typeIds pcf) :
    PrvWellFormed (prvCloseText p) (pcfText pcf) p.nrows p.time := by
  refine ⟨p.lines, ?_, hm.1, fun l hl' => ?_⟩
  · have hneg : -(10 : Int) ^ 19 < 0 := by decide
    rw [(close_is_prvText p ⟨by omega, hdur⟩).1, prv_roundtrip]
    rfl
  · obtain ⟨h1, h2, h3⟩ := hl l hl'
    exact ⟨h1, h2, hm.2 l hl', pcf_declares h3⟩

theorem prvWellFormed_of_inv {l : XLayout} {f : Nat} {t : Int} {p : PrvFile} {pcf : Pcf} (hi : FileInv l f t p)
    (hty : typeIds pcf = layTypes l f) (hdur : p.time < (10 : Int) ^ 20) :
    PrvWellFormed (prvCloseText p) (pcfText pcf) (layRows l f) p.time := by
  rw [← hi.rows]
  exact prvWellFormed_close hi.mono (hi.time ▸ hi.nonneg) hdur fun x hx => by rw [hty, hi.rows]; exact hi.lines x hx

/-- **thread.prv of every accepted history is well formed, as text.**  Connect
    the emulator for any hierarchy, enabled models and mark table
    (`XEmu.init`), emulate any accepted list of events (`XEmu.run`, clocks below
    10^20 — every `int64_t` is), close the file (`prvCloseText`).  Then the text
    is `PrvWellFormed` against the text of thread.pcf (`pcfText` of what
    `system_connect`, the models and the marks put there), with the number of
    threads as row count and the clock of the last event as duration. -/
theorem thread_prv_text_wellformed {e : Emu} {n : Names} {x0 x : XEmu} {evs : List XEv}
    (hinit : XEmu.init e = .ok x0) (hrun : x0.run th mh evs = .ok x)
    (hmarks : e.extra = markExtra n.marks) (hdur : x.th.time < (10 : Int) ^ 20)
    {tp : Pcf} (htp : threadPcf e n = .ok tp) :
    PrvWellFormed (prvCloseText x.th) (pcfText tp) e.threads.length x.th.time ∧
    x.th.time = (match evs.getLast? with | some ev => ev.1 | none => 0) := by
  have hi := (XEmu.history_inv hinit hrun).th
  exact ⟨prvWellFormed_of_inv hi (threadPcf_ids_lay hmarks htp) hdur, hi.time⟩

/-- **cpu.prv of every accepted history is well formed, as text** (rows = CPUs
    including the virtual ones, types declared by the text of cpu.pcf). -/
theorem cpu_prv_text_wellformed {e : Emu} {n : Names} {x0 x : XEmu} {evs : List XEv}
    (hinit : XEmu.init e = .ok x0) (hrun : x0.run th mh evs = .ok x)
    (hmarks : e.extra = markExtra n.marks) (hdur : x.cpu.time < (10 : Int) ^ 20)
    {cp : Pcf} (hcp : cpuPcf e n = .ok cp) :
    PrvWellFormed (prvCloseText x.cpu) (pcfText cp) e.cpus.length x.cpu.time ∧
    x.cpu.time = (match evs.getLast? with | some ev => ev.1 | none => 0) := by
  have hi := (XEmu.history_inv hinit hrun).cpu
  exact ⟨prvWellFormed_of_inv hi (cpuPcf_ids_lay hmarks hcp) hdur, hi.time⟩

/-- **The six files the driver prints** (`PvText.files`, what the check
    compares byte for byte with ovniemu's): both `.prv` are well formed against
    their `.pcf`, both `.row` read back as one name per row in gindex order. -/
theorem files_wellformed {e : Emu} {n : Names} {x0 x : XEmu} {evs : List XEv} {f : Files}
    (hinit : XEmu.init e = .ok x0) (hrun : x0.run th mh evs = .ok x)
    (hmarks : e.extra = markExtra n.marks) (hdt : x.th.time < (10 : Int) ^ 20) (hdc : x.cpu.time < (10 : Int) ^ 20)
    (hf : files x n = .ok f) :
    PrvWellFormed f.threadPrv f.threadPcf e.threads.length x.th.time ∧
    PrvWellFormed f.cpuPrv f.cpuPcf e.cpus.length x.cpu.time ∧
    parseRow f.threadRow = some (e.threads.length, threadNames e n) ∧
    parseRow f.cpuRow = some (e.cpus.length, cpuNames e n) := by
  obtain ⟨tp, cp, tr, cr, h1, h2, h3, h4, rfl⟩ := files_ok hf
  rw [(XEmu.history_inv hinit hrun).emu0] at h1 h2 h3 h4
  exact ⟨(thread_prv_text_wellformed hinit hrun hmarks hdt h1).1,
    (cpu_prv_text_wellformed hinit hrun hmarks hdc h2).1,
    (thread_row_wellformed e n tr h3).1, (cpu_row_wellformed e n cr h4).1⟩
end

/-- **Every `.pcf` text reads back**: for any structure (ids and values of any
    size, repeated or not, labels empty or with leading / trailing blanks) whose
    labels contain no newline (`PcfWf`; `rt_fails_type_label`,
    `rt_fails_value_label`, `rt_truncates_value_label` show what happens without
    it), the independent reader `parsePcfTypes` returns the event types in order,
    each with its id, label and (value, label) pairs.  The default options and
    the colours are skipped. -/
theorem pcf_roundtrip (p : Pcf) (h : PcfWf p) :
    parsePcfTypes (pcfText p) = some (p.map fun t => (t.id, t.label, t.values)) :=
  parsePcfTypes_pcfText p h

theorem pcfText_injective (p q : Pcf) (hp : PcfWf p) (hq : PcfWf q) (h : pcfText p = pcfText q) : p = q := by
  have e := pcf_roundtrip p hp
  rw [h, pcf_roundtrip q hq] at e
  exact (pcfBlocks_inj (Option.some.inj e)).symm

/-- **The text of thread.pcf and cpu.pcf of the model is readable**: the
    structures the emulator builds are well formed whenever the labels that
    come from the trace metadata (mark titles and labels, task type labels) have
    no newline; every other label is a CPU name or comes from a fixed table. -/
theorem emu_pcf_roundtrip {e : Emu} {n : Names} (hn : NamesWf n) :
    (∀ p, threadPcf e n = .ok p → parsePcfTypes (pcfText p) = some (p.map fun t => (t.id, t.label, t.values))) ∧
    (∀ p, cpuPcf e n = .ok p → parsePcfTypes (pcfText p) = some (p.map fun t => (t.id, t.label, t.values))) :=
  ⟨fun p h => pcf_roundtrip p (threadPcf_wf hn h), fun p h => pcf_roundtrip p (cpuPcf_wf hn h)⟩

theorem thread_state_in_table :
    ∀ v ∈ [ThState.unknown, .running, .paused, .dead, .cooling, .warming].map (fun s => (s.code : Int)),
      ∃ x ∈ threadPcfTypes, x.1 = prvThreadState ∧ v ∈ x.2.2.map (·.1) := by decide

/-- **State values are labelled in the text of thread.pcf.**  For the PCF the
    emulator builds for any system, enabled models, marks and task types (labels
    of the metadata without newline), the text read back has:
    - under the thread-state type (4) a label for each of the six state codes,
      the set `records_values_labelled_ovni` shows the thread-state records to carry;
    - under the CPU-affinity type (6) a label for `gindex + 1` of every CPU, the
      non-zero values of the affinity records (0 = no CPU is Paraver's "no value");
    - for every enabled model and each of its channels, a label under the
      Paraver type of that channel for every value of the channel's label table
      (`model_pvt_spec`). -/
theorem pcf_values_labelled_text {e : Emu} {n : Names} {p : Pcf} (hn : NamesWf n) (h : threadPcf e n = .ok p) :
    (∀ v ∈ [ThState.unknown, .running, .paused, .dead, .cooling, .warming].map (fun s => (s.code : Int)),
      v ∈ pcfValuesOf (pcfText p) prvThreadState) ∧
    (∀ g < e.cpus.length, ((g : Int) + 1) ∈ pcfValuesOf (pcfText p) prvThreadCpu) ∧
    (∀ s ∈ connectOrder e.enabled e.extra, s.char ≠ markGroup → ∀ info, pcfInfo s.char = some info →
      ∀ i < s.nch, ∀ v ∈ info.labels.getD i [], v.1 ∈ pcfValuesOf (pcfText p) (s.pvtType.getD i 0)) := by
  have hwf := threadPcf_wf hn h
  obtain ⟨a, b, c⟩ := threadPcf_hasVal h
  refine ⟨?_, fun g hg => hasVal_text hwf (b g hg), fun s hs hne info hi i hlt v hv =>
    hasVal_text hwf (c s hs hne info hi i hlt v hv)⟩
  intro v hv
  obtain ⟨x, hx, hty, hmem⟩ := thread_state_in_table v hv
  obtain ⟨w, hw, rfl⟩ := List.mem_map.mp hmem
  rw [← hty]
  exact hasVal_text hwf (a x hx w hw)

/-- **The initial and CPU-default values of the nOS-V and Nanos6 channels are
    labelled in the text** (`init_values_labelled` at text level): every value
    `model_*_connect` puts on a channel at connect time or a CPU mux shows by
    default has a label under the type of that channel in the text of thread.pcf. -/
theorem init_values_labelled_text {e : Emu} {n : Names} {p : Pcf} (hn : NamesWf n) (h : threadPcf e n = .ok p)
    {s : ModelSpec} (hs : s ∈ connectOrder e.enabled e.extra) (hsp : s = specNosv ∨ s = specNanos6) :
    ∀ iv ∈ s.initVals ++ s.cpuDefault, iv.2 ∈ pcfValuesOf (pcfText p) (s.pvtType.getD iv.1 0) := by
  have key : ∀ (info : PcfInfo), pcfInfo s.char = some info → s.char ≠ markGroup →
      (∀ iv ∈ s.initVals ++ s.cpuDefault, iv.1 < s.nch ∧ iv.2 ∈ (info.labels.getD iv.1 []).map (·.1)) →
      ∀ iv ∈ s.initVals ++ s.cpuDefault, iv.2 ∈ pcfValuesOf (pcfText p) (s.pvtType.getD iv.1 0) := by
    intro info hi hne hall iv hiv
    obtain ⟨hlt, hmem⟩ := hall iv hiv
    obtain ⟨w, hw, hw2⟩ := List.mem_map.mp hmem
    rw [← hw2]
    exact (pcf_values_labelled_text hn h).2.2 s hs hne info hi iv.1 hlt w hw
  rcases hsp with rfl | rfl
  · exact key ⟨Nosv.pcfPrefix, Nosv.labels, Nosv.cpuPvtType⟩ rfl (by decide) (by decide)
  · exact key ⟨Nanos6.pcfPrefix, Nanos6.labels, Nanos6.cpuPvtType⟩ rfl (by decide) (by decide)

/-! ### Non-vacuity: a real trace

One loom, one process (pid 100, application 3) with thread 10, CPU 0 and the
virtual CPU; the thread executes on CPU 0 at clock 100, flushes from 103 to 105
and ends at 110.  The strings below are the bytes of the six files
`ovniemu` wrote for that trace (copied from a run of the real tool); the model
prints the same bytes, and the hypotheses of `files_wellformed` hold. -/

def exEmu : Emu := mkEmu [(10, 100, 0)] [(0, 0, false), (0, -1, true)] [79] true
def exNames : Names := { appids := [3], cpus := [(0, 0), (0, 0)] }
def exHook : Emu → Nat → Nat → Nat → List Nat → Except Err Emu := fun _ _ _ _ _ => .error .unknownEvent
/-- OHx(cpu 0, tid -1, tag 0) at 0, OF[ at 3, OF] at 5, OHe at 10 (clocks relative to the first event).
    An event is (clock, thread index, model, category, value, payload); the payload of `OHx` is the
    little-endian bytes of cpu (i32), tid (i32, -1 = `255 255 255 255`) and tag (u64). -/
def exEvs : List XEv :=
  [(0, 0, 79, 72, 120, [0, 0, 0, 0, 255, 255, 255, 255, 0, 0, 0, 0, 0, 0, 0, 0]),
   (3, 0, 79, 70, 91, []), (5, 0, 79, 70, 93, []), (10, 0, 79, 72, 101, [])]
def exRun : Option XEmu := (XEmu.init exEmu).toOption.bind fun x0 => (x0.run exHook exHook exEvs).toOption
def exFiles : Option Files := exRun.bind fun x => (files x exNames).toOption

deriving instance DecidableEq for PrvFile

/-- the expected files are given as byte lists, which the kernel compares without decoding characters -/
def bytesOf (t : Text) : List Nat := t.map Char.toNat

/-- `t'` is found by rewriting `t` in a goal of its own (a rewrite walks through its whole goal, and with the
    expected bytes in it that is a thousand numerals each time).  What is rewritten are the string literals,
    `String.toList_ofList` unifying with each: the kernel decodes a literal by well-founded recursion over its
    bytes, which is slow. -/
theorem bytesOf_congr {t t' : Text} {L : List Nat} (h : t = t') (hL : some (bytesOf t') = some L) :
    some (bytesOf t) = some L := h ▸ hL

def exTh : PrvFile := { nrows := 1, time := 10, lines :=
  [(0, 1, 6, 1), (0, 1, 4, 1), (0, 1, 2, 10), (3, 1, 7, 1), (5, 1, 7, 0), (10, 1, 4, 3), (10, 1, 2, 0), (10, 1, 6, 0)] }
def exCpu : PrvFile := { nrows := 2, time := 10, lines :=
  [(0, 1, 2, 10), (0, 1, 1, 100), (0, 1, 3, 1), (0, 1, 7, 0), (3, 1, 7, 1), (5, 1, 7, 0), (10, 1, 2, 0), (10, 1, 1, 0),
   (10, 1, 3, 0)] }

def exThreadPcf : Pcf :=
  [⟨6, "Thread: CPU affinity".toList, [(1, " CPU 0.0".toList), (2, "vCPU 0.*".toList)]⟩,
   ⟨2, "Thread: TID of the ACTIVE thread".toList, []⟩,
   ⟨4, "Thread: thread state".toList, [(0, "Unknown".toList), (1, "Running".toList), (2, "Paused".toList),
     (3, "Dead".toList), (4, "Cooling".toList), (5, "Warming".toList)]⟩,
   ⟨7, "Flushing ovni buffer ".toList, [(1, "Flushing".toList)]⟩]
def exCpuPcf : Pcf :=
  [⟨3, "CPU: Number of RUNNING threads".toList, []⟩, ⟨1, "CPU: PID of the RUNNING thread".toList, []⟩,
   ⟨2, "CPU: TID of the RUNNING thread".toList, []⟩,
   ⟨7, "Flushing ovni buffer of the RUNNING thread".toList, [(1, "Flushing".toList)]⟩]

/-- The emulator runs once, here. -/
theorem exRun_eq : exRun.map (fun x => (x.th, x.cpu)) = some (exTh, exCpu) := by decide +kernel

theorem exThreadPcf_eq : threadPcf exEmu exNames = .ok exThreadPcf := pcf_ok_of_blocks (by decide +kernel)

theorem exCpuPcf_eq : cpuPcf exEmu exNames = .ok exCpuPcf := pcf_ok_of_blocks (by decide +kernel)

theorem exFiles_eq : exFiles = some
    { threadPrv := prvCloseText exTh, cpuPrv := prvCloseText exCpu,
      threadPcf := pcfText exThreadPcf, cpuPcf := pcfText exCpuPcf,
      threadRow := rowText (threadNames exEmu exNames), cpuRow := rowText (cpuNames exEmu exNames) } := by
  obtain ⟨x, hx, hf⟩ := Option.map_eq_some_iff.mp exRun_eq
  obtain ⟨x0, hx0, hxr⟩ := Option.bind_eq_some_iff.mp (show (XEmu.init exEmu).toOption.bind _ = some x from hx)
  have he := (XEmu.history_inv (toOption_eq_some hx0) (toOption_eq_some hxr)).emu0
  have hlen : (∀ nm ∈ threadNames exEmu exNames, nm.length < maxPrfLabel) ∧
      ∀ nm ∈ cpuNames exEmu exNames, nm.length < maxPrfLabel := by decide +kernel
  rw [exFiles, hx, Option.bind_some, files, he, exThreadPcf_eq, exCpuPcf_eq, rowFileOf_spec, rowFileOf_spec, if_pos hlen.1,
    if_pos hlen.2, (Prod.mk.inj hf).1, (Prod.mk.inj hf).2]
  rfl

/- thread.prv as ovniemu wrote it:
    #Paraver (19/01/38 at 03:14):00000000000000000010_ns:0:1:1(1:1)
    2:0:1:1:1:0:6:1
    2:0:1:1:1:0:4:1
    2:0:1:1:1:0:2:10
    2:0:1:1:1:3:7:1
    2:0:1:1:1:5:7:0
    2:0:1:1:1:10:4:3
    2:0:1:1:1:10:2:0
    2:0:1:1:1:10:6:0
-/
example : exFiles.map (fun f => bytesOf f.threadPrv) = some
    [35, 80, 97, 114, 97, 118, 101, 114, 32, 40, 49, 57, 47, 48, 49, 47, 51, 56, 32, 97, 116, 32, 48, 51, 58, 49, 52, 41, 58, 48, 48, 48, 48, 48, 48, 48, 48, 48, 48, 48, 48, 48, 48, 48, 48, 48, 48, 49, 48, 95, 110, 115, 58, 48, 58, 49, 58, 49, 40, 49, 58, 49, 41, 10, 50, 58, 48, 58, 49, 58, 49, 58, 49, 58, 48, 58, 54, 58, 49, 10, 50, 58, 48, 58, 49, 58, 49, 58, 49, 58, 48, 58, 52, 58, 49, 10, 50, 58, 48, 58, 49, 58, 49, 58, 49, 58, 48, 58, 50, 58, 49, 48, 10, 50, 58, 48, 58, 49, 58, 49, 58, 49, 58, 51, 58, 55, 58, 49, 10, 50, 58, 48, 58, 49, 58, 49, 58, 49, 58, 53, 58, 55, 58, 48, 10, 50, 58, 48, 58, 49, 58, 49, 58, 49, 58, 49, 48, 58, 52, 58, 51, 10, 50, 58, 48, 58, 49, 58, 49, 58, 49, 58, 49, 48, 58, 50, 58, 48, 10, 50, 58, 48, 58, 49, 58, 49, 58, 49, 58, 49, 48, 58, 54, 58, 48, 10] := by
  rw [exFiles_eq]
  decide +kernel

/- cpu.prv as ovniemu wrote it:
    #Paraver (19/01/38 at 03:14):00000000000000000010_ns:0:1:1(2:1)
    2:0:1:1:1:0:2:10
    2:0:1:1:1:0:1:100
    2:0:1:1:1:0:3:1
    2:0:1:1:1:0:7:0
    2:0:1:1:1:3:7:1
    2:0:1:1:1:5:7:0
    2:0:1:1:1:10:2:0
    2:0:1:1:1:10:1:0
    2:0:1:1:1:10:3:0
-/
example : exFiles.map (fun f => bytesOf f.cpuPrv) = some
    [35, 80, 97, 114, 97, 118, 101, 114, 32, 40, 49, 57, 47, 48, 49, 47, 51, 56, 32, 97, 116, 32, 48, 51, 58, 49, 52, 41, 58, 48, 48, 48, 48, 48, 48, 48, 48, 48, 48, 48, 48, 48, 48, 48, 48, 48, 48, 49, 48, 95, 110, 115, 58, 48, 58, 49, 58, 49, 40, 50, 58, 49, 41, 10, 50, 58, 48, 58, 49, 58, 49, 58, 49, 58, 48, 58, 50, 58, 49, 48, 10, 50, 58, 48, 58, 49, 58, 49, 58, 49, 58, 48, 58, 49, 58, 49, 48, 48, 10, 50, 58, 48, 58, 49, 58, 49, 58, 49, 58, 48, 58, 51, 58, 49, 10, 50, 58, 48, 58, 49, 58, 49, 58, 49, 58, 48, 58, 55, 58, 48, 10, 50, 58, 48, 58, 49, 58, 49, 58, 49, 58, 51, 58, 55, 58, 49, 10, 50, 58, 48, 58, 49, 58, 49, 58, 49, 58, 53, 58, 55, 58, 48, 10, 50, 58, 48, 58, 49, 58, 49, 58, 49, 58, 49, 48, 58, 50, 58, 48, 10, 50, 58, 48, 58, 49, 58, 49, 58, 49, 58, 49, 48, 58, 49, 58, 48, 10, 50, 58, 48, 58, 49, 58, 49, 58, 49, 58, 49, 48, 58, 51, 58, 48, 10] := by
  rw [exFiles_eq]
  decide +kernel

/- thread.row as ovniemu wrote it:
    LEVEL NODE SIZE 1
    hostname
    
    LEVEL THREAD SIZE 1
    TH 3.10
-/
example : exFiles.map (fun f => bytesOf f.threadRow) = some
    [76, 69, 86, 69, 76, 32, 78, 79, 68, 69, 32, 83, 73, 90, 69, 32, 49, 10, 104, 111, 115, 116, 110, 97, 109, 101, 10, 10, 76, 69, 86, 69, 76, 32, 84, 72, 82, 69, 65, 68, 32, 83, 73, 90, 69, 32, 49, 10, 84, 72, 32, 51, 46, 49, 48, 10] := by
  rw [exFiles_eq]
  decide +kernel

/- cpu.row as ovniemu wrote it:
    LEVEL NODE SIZE 1
    hostname
    
    LEVEL THREAD SIZE 2
     CPU 0.0
    vCPU 0.*
-/
example : exFiles.map (fun f => bytesOf f.cpuRow) = some
    [76, 69, 86, 69, 76, 32, 78, 79, 68, 69, 32, 83, 73, 90, 69, 32, 49, 10, 104, 111, 115, 116, 110, 97, 109, 101, 10, 10, 76, 69, 86, 69, 76, 32, 84, 72, 82, 69, 65, 68, 32, 83, 73, 90, 69, 32, 50, 10, 32, 67, 80, 85, 32, 48, 46, 48, 10, 118, 67, 80, 85, 32, 48, 46, 42, 10] := by
  rw [exFiles_eq]
  decide +kernel

/- thread.pcf as ovniemu wrote it (1066 bytes: the default header, the 23 colours, then)
    
    
    EVENT_TYPE
    0 6          Thread: CPU affinity
    VALUES
    1     CPU 0.0
    2    vCPU 0.*
    
    
    EVENT_TYPE
    0 2          Thread: TID of the ACTIVE thread
    VALUES
    
    
    EVENT_TYPE
    0 4          Thread: thread state
    VALUES
    0    Unknown
    1    Running
    2    Paused
    3    Dead
    4    Cooling
    5    Warming
    
    
    EVENT_TYPE
    0 7          Flushing ovni buffer 
    VALUES
    1    Flushing
-/
example : exFiles.map (fun f => bytesOf f.threadPcf) = some
    [68, 69, 70, 65, 85, 76, 84, 95, 79, 80, 84, 73, 79, 78, 83, 10, 10, 76, 69, 86, 69, 76, 32, 32, 32, 32, 32, 32, 32, 32, 32, 32, 32, 32, 32, 32, 32, 84, 72, 82, 69, 65, 68, 10, 85, 78, 73, 84, 83, 32, 32, 32, 32, 32, 32, 32, 32, 32, 32, 32, 32, 32, 32, 32, 78, 65, 78, 79, 83, 69, 67, 10, 76, 79, 79, 75, 95, 66, 65, 67, 75, 32, 32, 32, 32, 32, 32, 32, 32, 32, 32, 32, 49, 48, 48, 10, 83, 80, 69, 69, 68, 32, 32, 32, 32, 32, 32, 32, 32, 32, 32, 32, 32, 32, 32, 32, 49, 10, 70, 76, 65, 71, 95, 73, 67, 79, 78, 83, 32, 32, 32, 32, 32, 32, 32, 32, 32, 32, 69, 78, 65, 66, 76, 69, 68, 10, 78, 85, 77, 95, 79, 70, 95, 83, 84, 65, 84, 69, 95, 67, 79, 76, 79, 82, 83, 32, 49, 48, 48, 48, 10, 89, 77, 65, 88, 95, 83, 67, 65, 76, 69, 32, 32, 32, 32, 32, 32, 32, 32, 32, 32, 51, 55, 10, 10, 10, 68, 69, 70, 65, 85, 76, 84, 95, 83, 69, 77, 65, 78, 84, 73, 67, 10, 10, 84, 72, 82, 69, 65, 68, 95, 70, 85, 78, 67, 32, 32, 32, 32, 32, 32, 32, 32, 32, 83, 116, 97, 116, 101, 32, 65, 115, 32, 73, 115, 10, 10, 10, 83, 84, 65, 84, 69, 83, 95, 67, 79, 76, 79, 82, 10, 48, 32, 32, 32, 123, 32, 32, 48, 44, 32, 32, 32, 48, 44, 32, 32, 32, 48, 125, 10, 49, 32, 32, 32, 123, 32, 32, 48, 44, 32, 49, 51, 48, 44, 32, 50, 48, 48, 125, 10, 50, 32, 32, 32, 123, 50, 49, 55, 44, 32, 50, 49, 55, 44, 32, 50, 49, 55, 125, 10, 51, 32, 32, 32, 123, 50, 51, 48, 44, 32, 32, 50, 53, 44, 32, 32, 55, 53, 125, 10, 52, 32, 32, 32, 123, 32, 54, 48, 44, 32, 49, 56, 48, 44, 32, 32, 55, 53, 125, 10, 53, 32, 32, 32, 123, 50, 53, 53, 44, 32, 50, 50, 53, 44, 32, 32, 50, 53, 125, 10, 54, 32, 32, 32, 123, 50, 52, 53, 44, 32, 49, 51, 48, 44, 32, 32, 52, 56, 125, 10, 55, 32, 32, 32, 123, 49, 52, 53, 44, 32, 32, 51, 48, 44, 32, 49, 56, 48, 125, 10, 56, 32, 32, 32, 123, 32, 55, 48, 44, 32, 50, 52, 48, 44, 32, 50, 52, 48, 125, 10, 57, 32, 32, 32, 123, 50, 52, 48, 44, 32, 32, 53, 48, 44, 32, 50, 51, 48, 125, 10, 49, 48, 32, 32, 123, 50, 49, 48, 44, 32, 50, 52, 53, 44, 32, 32, 54, 48, 125, 10, 49, 49, 32, 32, 123, 50, 53, 48, 44, 32, 49, 57, 48, 44, 32, 50, 49, 50, 125, 10, 49, 50, 32, 32, 123, 32, 32, 48, 44, 32, 49, 50, 56, 44, 32, 49, 50, 56, 125, 10, 49, 51, 32, 32, 123, 49, 50, 56, 44, 32, 49, 50, 56, 44, 32, 49, 50, 56, 125, 10, 49, 52, 32, 32, 123, 50, 50, 48, 44, 32, 49, 57, 48, 44, 32, 50, 53, 53, 125, 10, 49, 53, 32, 32, 123, 49, 55, 48, 44, 32, 49, 49, 48, 44, 32, 32, 52, 48, 125, 10, 49, 54, 32, 32, 123, 50, 53, 53, 44, 32, 50, 53, 48, 44, 32, 50, 48, 48, 125, 10, 49, 55, 32, 32, 123, 49, 50, 56, 44, 32, 32, 32, 48, 44, 32, 32, 32, 48, 125, 10, 49, 56, 32, 32, 123, 49, 55, 48, 44, 32, 50, 53, 53, 44, 32, 49, 57, 53, 125, 10, 49, 57, 32, 32, 123, 49, 50, 56, 44, 32, 49, 50, 56, 44, 32, 32, 32, 48, 125, 10, 50, 48, 32, 32, 123, 50, 53, 53, 44, 32, 50, 49, 53, 44, 32, 49, 56, 48, 125, 10, 50, 49, 32, 32, 123, 32, 32, 48, 44, 32, 32, 32, 48, 44, 32, 49, 50, 56, 125, 10, 50, 50, 32, 32, 123, 32, 32, 48, 44, 32, 32, 32, 48, 44, 32, 50, 53, 53, 125, 10, 10, 10, 69, 86, 69, 78, 84, 95, 84, 89, 80, 69, 10, 48, 32, 54, 32, 32, 32, 32, 32, 32, 32, 32, 32, 32, 84, 104, 114, 101, 97, 100, 58, 32, 67, 80, 85, 32, 97, 102, 102, 105, 110, 105, 116, 121, 10, 86, 65, 76, 85, 69, 83, 10, 49, 32, 32, 32, 32, 32, 67, 80, 85, 32, 48, 46, 48, 10, 50, 32, 32, 32, 32, 118, 67, 80, 85, 32, 48, 46, 42, 10, 10, 10, 69, 86, 69, 78, 84, 95, 84, 89, 80, 69, 10, 48, 32, 50, 32, 32, 32, 32, 32, 32, 32, 32, 32, 32, 84, 104, 114, 101, 97, 100, 58, 32, 84, 73, 68, 32, 111, 102, 32, 116, 104, 101, 32, 65, 67, 84, 73, 86, 69, 32, 116, 104, 114, 101, 97, 100, 10, 86, 65, 76, 85, 69, 83, 10, 10, 10, 69, 86, 69, 78, 84, 95, 84, 89, 80, 69, 10, 48, 32, 52, 32, 32, 32, 32, 32, 32, 32, 32, 32, 32, 84, 104, 114, 101, 97, 100, 58, 32, 116, 104, 114, 101, 97, 100, 32, 115, 116, 97, 116, 101, 10, 86, 65, 76, 85, 69, 83, 10, 48, 32, 32, 32, 32, 85, 110, 107, 110, 111, 119, 110, 10, 49, 32, 32, 32, 32, 82, 117, 110, 110, 105, 110, 103, 10, 50, 32, 32, 32, 32, 80, 97, 117, 115, 101, 100, 10, 51, 32, 32, 32, 32, 68, 101, 97, 100, 10, 52, 32, 32, 32, 32, 67, 111, 111, 108, 105, 110, 103, 10, 53, 32, 32, 32, 32, 87, 97, 114, 109, 105, 110, 103, 10, 10, 10, 69, 86, 69, 78, 84, 95, 84, 89, 80, 69, 10, 48, 32, 55, 32, 32, 32, 32, 32, 32, 32, 32, 32, 32, 70, 108, 117, 115, 104, 105, 110, 103, 32, 111, 118, 110, 105, 32, 98, 117, 102, 102, 101, 114, 32, 10, 86, 65, 76, 85, 69, 83, 10, 49, 32, 32, 32, 32, 70, 108, 117, 115, 104, 105, 110, 103, 10] := by
  rw [exFiles_eq, Option.map_some]
  refine bytesOf_congr (t' := ?t) ?opened ?_
  case opened =>
    unfold pcfText pcfHeader exThreadPcf
    rewrite [String.toList_append, String.toList_append, String.toList_append]
    repeat rewrite [String.toList_ofList]
    exact rfl
  decide +kernel

/- cpu.pcf as ovniemu wrote it (1003 bytes: the default header, the 23 colours, then)
    
    
    EVENT_TYPE
    0 3          CPU: Number of RUNNING threads
    VALUES
    
    
    EVENT_TYPE
    0 1          CPU: PID of the RUNNING thread
    VALUES
    
    
    EVENT_TYPE
    0 2          CPU: TID of the RUNNING thread
    VALUES
    
    
    EVENT_TYPE
    0 7          Flushing ovni buffer of the RUNNING thread
    VALUES
    1    Flushing
-/
example : exFiles.map (fun f => bytesOf f.cpuPcf) = some
    [68, 69, 70, 65, 85, 76, 84, 95, 79, 80, 84, 73, 79, 78, 83, 10, 10, 76, 69, 86, 69, 76, 32, 32, 32, 32, 32, 32, 32, 32, 32, 32, 32, 32, 32, 32, 32, 84, 72, 82, 69, 65, 68, 10, 85, 78, 73, 84, 83, 32, 32, 32, 32, 32, 32, 32, 32, 32, 32, 32, 32, 32, 32, 32, 78, 65, 78, 79, 83, 69, 67, 10, 76, 79, 79, 75, 95, 66, 65, 67, 75, 32, 32, 32, 32, 32, 32, 32, 32, 32, 32, 32, 49, 48, 48, 10, 83, 80, 69, 69, 68, 32, 32, 32, 32, 32, 32, 32, 32, 32, 32, 32, 32, 32, 32, 32, 49, 10, 70, 76, 65, 71, 95, 73, 67, 79, 78, 83, 32, 32, 32, 32, 32, 32, 32, 32, 32, 32, 69, 78, 65, 66, 76, 69, 68, 10, 78, 85, 77, 95, 79, 70, 95, 83, 84, 65, 84, 69, 95, 67, 79, 76, 79, 82, 83, 32, 49, 48, 48, 48, 10, 89, 77, 65, 88, 95, 83, 67, 65, 76, 69, 32, 32, 32, 32, 32, 32, 32, 32, 32, 32, 51, 55, 10, 10, 10, 68, 69, 70, 65, 85, 76, 84, 95, 83, 69, 77, 65, 78, 84, 73, 67, 10, 10, 84, 72, 82, 69, 65, 68, 95, 70, 85, 78, 67, 32, 32, 32, 32, 32, 32, 32, 32, 32, 83, 116, 97, 116, 101, 32, 65, 115, 32, 73, 115, 10, 10, 10, 83, 84, 65, 84, 69, 83, 95, 67, 79, 76, 79, 82, 10, 48, 32, 32, 32, 123, 32, 32, 48, 44, 32, 32, 32, 48, 44, 32, 32, 32, 48, 125, 10, 49, 32, 32, 32, 123, 32, 32, 48, 44, 32, 49, 51, 48, 44, 32, 50, 48, 48, 125, 10, 50, 32, 32, 32, 123, 50, 49, 55, 44, 32, 50, 49, 55, 44, 32, 50, 49, 55, 125, 10, 51, 32, 32, 32, 123, 50, 51, 48, 44, 32, 32, 50, 53, 44, 32, 32, 55, 53, 125, 10, 52, 32, 32, 32, 123, 32, 54, 48, 44, 32, 49, 56, 48, 44, 32, 32, 55, 53, 125, 10, 53, 32, 32, 32, 123, 50, 53, 53, 44, 32, 50, 50, 53, 44, 32, 32, 50, 53, 125, 10, 54, 32, 32, 32, 123, 50, 52, 53, 44, 32, 49, 51, 48, 44, 32, 32, 52, 56, 125, 10, 55, 32, 32, 32, 123, 49, 52, 53, 44, 32, 32, 51, 48, 44, 32, 49, 56, 48, 125, 10, 56, 32, 32, 32, 123, 32, 55, 48, 44, 32, 50, 52, 48, 44, 32, 50, 52, 48, 125, 10, 57, 32, 32, 32, 123, 50, 52, 48, 44, 32, 32, 53, 48, 44, 32, 50, 51, 48, 125, 10, 49, 48, 32, 32, 123, 50, 49, 48, 44, 32, 50, 52, 53, 44, 32, 32, 54, 48, 125, 10, 49, 49, 32, 32, 123, 50, 53, 48, 44, 32, 49, 57, 48, 44, 32, 50, 49, 50, 125, 10, 49, 50, 32, 32, 123, 32, 32, 48, 44, 32, 49, 50, 56, 44, 32, 49, 50, 56, 125, 10, 49, 51, 32, 32, 123, 49, 50, 56, 44, 32, 49, 50, 56, 44, 32, 49, 50, 56, 125, 10, 49, 52, 32, 32, 123, 50, 50, 48, 44, 32, 49, 57, 48, 44, 32, 50, 53, 53, 125, 10, 49, 53, 32, 32, 123, 49, 55, 48, 44, 32, 49, 49, 48, 44, 32, 32, 52, 48, 125, 10, 49, 54, 32, 32, 123, 50, 53, 53, 44, 32, 50, 53, 48, 44, 32, 50, 48, 48, 125, 10, 49, 55, 32, 32, 123, 49, 50, 56, 44, 32, 32, 32, 48, 44, 32, 32, 32, 48, 125, 10, 49, 56, 32, 32, 123, 49, 55, 48, 44, 32, 50, 53, 53, 44, 32, 49, 57, 53, 125, 10, 49, 57, 32, 32, 123, 49, 50, 56, 44, 32, 49, 50, 56, 44, 32, 32, 32, 48, 125, 10, 50, 48, 32, 32, 123, 50, 53, 53, 44, 32, 50, 49, 53, 44, 32, 49, 56, 48, 125, 10, 50, 49, 32, 32, 123, 32, 32, 48, 44, 32, 32, 32, 48, 44, 32, 49, 50, 56, 125, 10, 50, 50, 32, 32, 123, 32, 32, 48, 44, 32, 32, 32, 48, 44, 32, 50, 53, 53, 125, 10, 10, 10, 69, 86, 69, 78, 84, 95, 84, 89, 80, 69, 10, 48, 32, 51, 32, 32, 32, 32, 32, 32, 32, 32, 32, 32, 67, 80, 85, 58, 32, 78, 117, 109, 98, 101, 114, 32, 111, 102, 32, 82, 85, 78, 78, 73, 78, 71, 32, 116, 104, 114, 101, 97, 100, 115, 10, 86, 65, 76, 85, 69, 83, 10, 10, 10, 69, 86, 69, 78, 84, 95, 84, 89, 80, 69, 10, 48, 32, 49, 32, 32, 32, 32, 32, 32, 32, 32, 32, 32, 67, 80, 85, 58, 32, 80, 73, 68, 32, 111, 102, 32, 116, 104, 101, 32, 82, 85, 78, 78, 73, 78, 71, 32, 116, 104, 114, 101, 97, 100, 10, 86, 65, 76, 85, 69, 83, 10, 10, 10, 69, 86, 69, 78, 84, 95, 84, 89, 80, 69, 10, 48, 32, 50, 32, 32, 32, 32, 32, 32, 32, 32, 32, 32, 67, 80, 85, 58, 32, 84, 73, 68, 32, 111, 102, 32, 116, 104, 101, 32, 82, 85, 78, 78, 73, 78, 71, 32, 116, 104, 114, 101, 97, 100, 10, 86, 65, 76, 85, 69, 83, 10, 10, 10, 69, 86, 69, 78, 84, 95, 84, 89, 80, 69, 10, 48, 32, 55, 32, 32, 32, 32, 32, 32, 32, 32, 32, 32, 70, 108, 117, 115, 104, 105, 110, 103, 32, 111, 118, 110, 105, 32, 98, 117, 102, 102, 101, 114, 32, 111, 102, 32, 116, 104, 101, 32, 82, 85, 78, 78, 73, 78, 71, 32, 116, 104, 114, 101, 97, 100, 10, 86, 65, 76, 85, 69, 83, 10, 49, 32, 32, 32, 32, 70, 108, 117, 115, 104, 105, 110, 103, 10] := by
  rw [exFiles_eq, Option.map_some]
  refine bytesOf_congr (t' := ?t) ?opened ?_
  case opened =>
    unfold pcfText pcfHeader exCpuPcf
    rewrite [String.toList_append, String.toList_append, String.toList_append]
    repeat rewrite [String.toList_ofList]
    exact rfl
  decide +kernel

/-! the event types read back from the two `.pcf` texts above by `parsePcfTypes`
    (labels as byte lists), and the values the texts label -/

abbrev BlockBytes := Nat × List Nat × List (Int × List Nat)
instance : DecidableEq BlockBytes := inferInstanceAs (DecidableEq (Nat × List Nat × List (Int × List Nat)))
def blockBytes (b : PcfBlock) : BlockBytes :=
  (b.1, bytesOf b.2.1, b.2.2.map fun v => (v.1, bytesOf v.2))

/-- What the reader returns on these texts is an instance of `pcf_roundtrip` (the reader itself is run in the
    `rt_*` counterexamples of Lemmas/PvPcfRt). -/
theorem exThreadPcf_parse : parsePcfTypes (pcfText exThreadPcf) = some (pcfBlocks exThreadPcf) :=
  pcf_roundtrip _ (threadPcf_wf (by decide) exThreadPcf_eq)

example : exFiles.map (fun f => (parsePcfTypes f.threadPcf).map (·.map blockBytes)) = some (some
    [(6, [84, 104, 114, 101, 97, 100, 58, 32, 67, 80, 85, 32, 97, 102, 102, 105, 110, 105, 116, 121],
       [(1, [32, 67, 80, 85, 32, 48, 46, 48]), (2, [118, 67, 80, 85, 32, 48, 46, 42])]),
     (2, [84, 104, 114, 101, 97, 100, 58, 32, 84, 73, 68, 32, 111, 102, 32, 116, 104, 101, 32, 65, 67, 84, 73, 86, 69, 32, 116, 104, 114, 101, 97, 100], []),
     (4, [84, 104, 114, 101, 97, 100, 58, 32, 116, 104, 114, 101, 97, 100, 32, 115, 116, 97, 116, 101],
       [(0, [85, 110, 107, 110, 111, 119, 110]), (1, [82, 117, 110, 110, 105, 110, 103]), (2, [80, 97, 117, 115, 101, 100]),
        (3, [68, 101, 97, 100]), (4, [67, 111, 111, 108, 105, 110, 103]), (5, [87, 97, 114, 109, 105, 110, 103])]),
     (7, [70, 108, 117, 115, 104, 105, 110, 103, 32, 111, 118, 110, 105, 32, 98, 117, 102, 102, 101, 114, 32],
       [(1, [70, 108, 117, 115, 104, 105, 110, 103])])]) := by
  rw [exFiles_eq, Option.map_some, exThreadPcf_parse, exThreadPcf]
  repeat rw [String.toList_ofList]
  decide +kernel

example : exFiles.map (fun f => pcfValuesOf f.threadPcf prvThreadState) = some [0, 1, 2, 3, 4, 5] := by
  rw [exFiles_eq, Option.map_some, pcfValuesOf_of_parse exThreadPcf_parse]
  rfl
example : exFiles.map (fun f => pcfValuesOf f.threadPcf prvThreadCpu) = some [1, 2] := by
  rw [exFiles_eq, Option.map_some, pcfValuesOf_of_parse exThreadPcf_parse]
  rfl
example : exFiles.map (fun f => pcfValuesOf f.threadPcf 7) = some [1] := by
  rw [exFiles_eq, Option.map_some, pcfValuesOf_of_parse exThreadPcf_parse]
  rfl
example : exFiles.map (fun f => pcfValuesOf f.threadPcf 5) = some [] := by
  rw [exFiles_eq, Option.map_some, pcfValuesOf_of_parse exThreadPcf_parse]
  rfl
example : exFiles.map (fun f => (parsePcfTypes f.cpuPcf).map (·.map fun b => (b.1, b.2.2.map (·.1)))) =
    some (some [(3, []), (1, []), (2, []), (7, [1])]) := by
  rw [exFiles_eq, Option.map_some, pcf_roundtrip _ (cpuPcf_wf (by decide) exCpuPcf_eq)]
  rfl
/-- every value of the thread-state and affinity records of thread.prv above
    (type 4: values 1 and 3; type 6: value 1, and 0 = "no CPU", which Paraver does
    not label) is labelled in the text of thread.pcf -/
example : exFiles.map (fun f => (parsePrv f.threadPrv).map fun r =>
    (r.2.filter fun l => l.2.2.1 == 4 || (l.2.2.1 == 6 && l.2.2.2 != 0)).all fun l =>
      (pcfValuesOf f.threadPcf l.2.2.1).contains l.2.2.2) = some (some true) := by
  have hp : parsePrv (prvCloseText exTh) = some (exTh.header, exTh.lines) :=
    (close_is_prvText exTh ⟨by decide, by decide⟩).1 ▸ prv_roundtrip exTh
  simp only [exFiles_eq, Option.map_some, hp, pcfValuesOf_of_parse exThreadPcf_parse]
  decide +kernel
example : NamesWf exNames := by decide

example : exRun.map (fun x => (x.th.time, x.cpu.time, x.th.lines.length)) = some (10, 10, 8) := by
  obtain ⟨x, hx, hf⟩ := Option.map_eq_some_iff.mp exRun_eq
  rw [hx, Option.map_some, (Prod.mk.inj hf).1, (Prod.mk.inj hf).2]
  rfl
example : exEmu.extra = markExtra exNames.marks := rfl

end Ovni.Props.C13Text
