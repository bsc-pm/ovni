import OvniModel.Lemmas.Version

/-!
# C14 — version gating follows semantic versioning

Model: `OvniModel/Version.lean` (transcription of
`src/include/version.h`, `ovni_version_check_str`, `src/emu/model.c`).
Strings are byte lists; `dec n` (`Lemmas/Version.lean`) is the decimal rendering of `n`.
-/
namespace Ovni.Props.C14
open Ovni.Version

theorem compat_iff (w h : Ver) :
    compatible w h = true ↔ w.major = h.major ∧ w.minor ≤ h.minor := by
  unfold compatible
  by_cases h1 : w.major = h.major <;> by_cases h2 : w.minor > h.minor <;> simp [h1, h2] <;> omega

theorem compat_ignores_patch (w h : Ver) (p q : Nat) :
    compatible { w with patch := p } { h with patch := q } = compatible w h := rfl

/-- Every well-formed `a.b.c` and `a.b.c-suffix` (fields below 2^31, fewer than
    64 characters) parses to `(a, b, c)`. -/
theorem parse_wellformed (a b c : Nat) (ha : a < 2 ^ 31) (hb : b < 2 ^ 31) (hc : c < 2 ^ 31)
    (suffix : Str) (hs : suffix = [] ∨ ∃ t, suffix = 45 :: t)
    (hlen : (dec a ++ 46 :: (dec b ++ 46 :: (dec c ++ suffix))).length < 64) :
    parse (some (dec a ++ 46 :: (dec b ++ 46 :: (dec c ++ suffix)))) = some ⟨a, b, c⟩ := by
  have nodd : ∀ n, ∀ x ∈ dec n, isDotDash x = false := by
    intro n x hx
    have := (isDigit_iff x).1 (dec_all_digits n x hx)
    simp [isDotDash]; omega
  have nodot : ∀ n, ∀ x ∈ dec n, isDot x = false := fun n x hx =>
    (Bool.or_eq_false_iff.mp (nodd n x hx)).1
  have pf : ∀ n, n < 2 ^ 31 → parseField (dec n) = some n := fun n hn =>
    (parseField_dec (sg := []) (.inl rfl) hn).trans (if_neg (by simp))
  have hsuf : ∀ d ∈ suffix.head?, isDotDash d = true := by
    rcases hs with rfl | ⟨t, rfl⟩ <;> simp [isDotDash]
  show parseStr _ = _
  unfold parseStr
  simp only [ge_iff_le, Nat.not_le.mpr hlen, if_false]
  rw [strtok_append isDot (dec a) _ (dec_ne_nil a) (nodot a) (by simp [isDot])]
  simp only [pf a ha, List.drop_succ_cons, List.drop_zero]
  rw [strtok_append isDot (dec b) _ (dec_ne_nil b) (nodot b) (by simp [isDot])]
  simp only [pf b hb, List.drop_succ_cons, List.drop_zero]
  rw [strtok_append isDotDash (dec c) _ (dec_ne_nil c) (nodd c) hsuf]
  simp only [pf c hc]

/-- Plain `a.b.c` with fields below 2^31 is always short enough. -/
theorem parse_wellformed_plain (a b c : Nat) (ha : a < 2 ^ 31) (hb : b < 2 ^ 31) (hc : c < 2 ^ 31) :
    parse (some (dec a ++ 46 :: (dec b ++ 46 :: (dec c ++ [])))) = some ⟨a, b, c⟩ := by
  apply parse_wellformed a b c ha hb hc [] (Or.inl rfl)
  have la := dec_length_le 9 a (by omega)
  have lb := dec_length_le 9 b (by omega)
  have lc := dec_length_le 9 c (by omega)
  simp only [List.length_append, List.length_cons, List.length_nil]
  omega

theorem parse_null : parse none = none := rfl

theorem parse_too_long (s : Str) (h : s.length ≥ 64) : parse (some s) = none := by
  show parseStr s = none
  unfold parseStr; simp [h]

theorem parse_empty : parse (some []) = none := by decide

/-- A field is accepted only if it is blanks, an optional sign and then at
    least one digit and nothing else: any other (non-numeric, trailing
    garbage, empty) field is refused. -/
theorem parseField_sound (t : Str) (n : Nat) (h : parseField t = some n) :
    ∃ ws sg ds, t = ws ++ sg ++ ds ∧ (∀ c ∈ ws, isSpace c = true) ∧
      (sg = [] ∨ sg = [45] ∨ sg = [43]) ∧ ds ≠ [] ∧ (∀ c ∈ ds, isDigit c = true) := by
  obtain ⟨sg, hsg, hu⟩ := stripSign_eq (t.dropWhile isSpace)
  unfold parseField at h
  simp only at h
  generalize (stripSign (t.dropWhile isSpace)).2 = r at h hu
  split at h
  · cases h
  · rename_i hne
    split at h
    · cases h
    · rename_i hrest
      -- `strtol` stopped at the end of the field: all of `r` is digits
      have hr : r.takeWhile isDigit = r := by
        have := List.takeWhile_append_dropWhile (p := isDigit) (l := r)
        rwa [show r.dropWhile isDigit = [] by simpa using hrest, List.append_nil] at this
      refine ⟨t.takeWhile isSpace, sg, r, ?_, fun c hc => mem_takeWhile hc, hsg, ?_,
        fun c hc => mem_takeWhile (hr ▸ hc)⟩
      · rw [List.append_assoc, ← hu, List.takeWhile_append_dropWhile]
      · rintro rfl; exact hne rfl

theorem parseField_negative (n : Nat) (h0 : 0 < n) (h : n < 2 ^ 31) :
    parseField (45 :: dec n) = none :=
  (parseField_dec (.inr (.inl rfl)) h).trans (if_pos ⟨rfl, h0⟩)

/-- A missing field (fewer than three tokens) is refused: with no dot at all
    there is no minor number. -/
theorem parse_missing_minor (s : Str) (h : ∀ c ∈ s, isDot c = false) : parse (some s) = none := by
  show parseStr s = none
  unfold parseStr
  split
  · rfl
  · cases s with
    | nil => rfl
    | cons c cs =>
      rw [← List.append_nil (c :: cs), strtok_append isDot (c :: cs) [] (by simp) h nofun]
      simp only
      split
      · rfl
      · rfl

/-- ... and with a single dot there is no patch number. -/
theorem parse_missing_patch (t0 t1 : Str) (h0 : ∀ c ∈ t0, isDot c = false) (hne : t0 ≠ [])
    (h1 : ∀ c ∈ t1, isDot c = false) : parse (some (t0 ++ 46 :: t1)) = none := by
  show parseStr _ = none
  unfold parseStr
  split
  · rfl
  · rw [strtok_append isDot t0 _ hne h0 (by simp [isDot])]
    simp only [List.drop_succ_cons, List.drop_zero]
    split
    · rfl
    · cases t1 with
      | nil => rfl
      | cons c cs =>
        rw [← List.append_nil (c :: cs), strtok_append isDot (c :: cs) [] (by simp) h1 nofun]
        simp only
        split
        · rfl
        · rfl

/-- `ovni_version_check_str` returns (does not abort) exactly when the
    requested version parses, has the library's major and a minor that is not
    greater. -/
theorem check_str_iff (lib : Str) (e : Ver) (hlib : parse (some lib) = some e) (v : Option Str) :
    checkStr lib v = true ↔ ∃ p, parse v = some p ∧ p.major = e.major ∧ p.minor ≤ e.minor := by
  simp only [← compat_iff]
  unfold checkStr
  cases v with
  | none => simp [parse_null]
  | some s => cases parse (some s) <;> simp [hlib, compatible]

/-- The runtime's own version string (regenerated from the source) parses. -/
theorem lib_version_parses : (parse (some Ovni.Generated.libVersion)).isSome = true := by decide

theorem shouldEnable_enabled_iff (h : Ver) (t : ThreadReq) :
    shouldEnable h t = .enabled ↔
      ∃ s w, t = some (some s) ∧ parse (some s) = some w ∧ w.major = h.major ∧ w.minor ≤ h.minor := by
  rcases t with _ | _ | s
  · simp [shouldEnable]
  · simp [shouldEnable]
  · cases hp : parse (some s) <;> simp [shouldEnable, hp, ← compat_iff]

theorem shouldEnable_error_iff (h : Ver) (t : ThreadReq) :
    shouldEnable h t = .error ↔
      t = none ∨ ∃ s, t = some (some s) ∧
        (parse (some s) = none ∨ ∃ w, parse (some s) = some w ∧ ¬ (w.major = h.major ∧ w.minor ≤ h.minor)) := by
  rcases t with _ | _ | s
  · simp [shouldEnable]
  · simp [shouldEnable]
  · cases hp : parse (some s) <;> simp [shouldEnable, hp, ← compat_iff]

/-- `probeLoop_eq` outcome by outcome: each side becomes a propositional combination of
    "some requirement is unusable", "some requirement is compatible" and `en`. -/
theorem probeLoop_spec (h : Ver) (ts : List ThreadReq) (en : Bool) :
    (probeLoop h en ts = .error ↔ ∃ t ∈ ts, shouldEnable h t = .error) ∧
    (probeLoop h en ts = .enabled ↔
      (∀ t ∈ ts, shouldEnable h t ≠ .error) ∧ (en = true ∨ ∃ t ∈ ts, shouldEnable h t = .enabled)) ∧
    (probeLoop h en ts = .disabled ↔ (∀ t ∈ ts, shouldEnable h t = .disabled) ∧ en = false) := by
  have hd : ∀ r : Probe, r = .disabled ↔ r ≠ .error ∧ r ≠ .enabled := fun r => by cases r <;> simp
  have ne : ∀ P : ThreadReq → Prop, (∀ t ∈ ts, ¬ P t) ↔ ¬ ∃ t ∈ ts, P t := by simp
  rw [probeLoop_eq]
  simp only [hd (shouldEnable _ _), forall_and, ne_eq, ne, List.any_eq_true, beq_iff_eq, Bool.or_eq_true]
  by_cases he : ∃ t ∈ ts, shouldEnable h t = .error <;> by_cases hn : ∃ t ∈ ts, shouldEnable h t = .enabled <;>
    cases en <;> simp [he, hn]

/-- A model is enabled exactly when its own version parses, no thread carries
    an unusable requirement (missing `require` object, unparsable or
    incompatible version: those abort emulation) and some thread requires it
    compatibly, or all models are forced on, or this one is always on. -/
theorem enabled_iff (enableAll : Bool) (specV : Str) (threads : List ThreadReq) (on : Bool) :
    modelEnabled enableAll specV threads on = some true ↔
      ∃ h, parse (some specV) = some h ∧ (∀ t ∈ threads, shouldEnable h t ≠ .error) ∧
        ((enableAll || on) = true ∨ ∃ t ∈ threads, shouldEnable h t = .enabled) := by
  rw [modelEnabled_eq]
  cases parse (some specV) <;> simp [or_assoc]

/-- Probing aborts exactly on a model whose own version does not parse, or on a thread whose
    requirement is incompatible, unparsable or structurally missing. -/
theorem abort_iff (enableAll : Bool) (specV : Str) (threads : List ThreadReq) (on : Bool) :
    modelEnabled enableAll specV threads on = none ↔
      parse (some specV) = none ∨
      ∃ h, parse (some specV) = some h ∧ ∃ t ∈ threads, shouldEnable h t = .error := by
  rw [modelEnabled_eq]
  cases parse (some specV) <;> simp

/-- The two tests of `model_event` before it calls the handler: the model is registered and enabled. -/
theorem event_gate (registered enabled : Bool) :
    eventGate registered enabled = true ↔ registered = true ∧ enabled = true := by
  simp [eventGate]

theorem enabledSet_mem (all : Bool) (threads : List Require) (models : List (Str × Str × Nat))
    (en : List Nat) (h : enabledSet all threads models = some en) (ch : Nat) :
    ch ∈ en ↔ ∃ name ver, (name, ver, ch) ∈ models ∧
      modelEnabled all ver (threads.map (reqFor name)) (alwaysOn ch) = some true := by
  rw [enabledSet_eq] at h
  split at h
  · cases h
    simp
  · cases h

/-- A trace passes probing and the per-event gate only if no model aborts and
    every event belongs to a registered model that is enabled (by a compatible
    requirement of some stream, or by force). -/
theorem gate_pass_only_enabled (all : Bool) (models : List (Str × Str × Nat))
    (threads : List Require) (evs : List Nat)
    (h : gateVerdict all models threads evs = true) :
    ∀ m ∈ evs, ∃ name ver, (name, ver, m) ∈ models ∧
      modelEnabled all ver (threads.map (reqFor name)) (alwaysOn m) = some true := by
  unfold gateVerdict at h
  cases hs : enabledSet all threads models with
  | none => rw [hs] at h; cases h
  | some en =>
    rw [hs] at h
    simp only [List.all_eq_true] at h
    intro m hm
    have := h m hm
    rw [event_gate] at this
    have hin : m ∈ en := by simpa using this.2
    exact (enabledSet_mem all threads models en hs m).1 hin

/-- All eight provider versions in the source (regenerated) parse, so no model
    aborts because of its own version string. -/
theorem model_versions_parse :
    ∀ m ∈ Ovni.Generated.modelVersions, (parse (some m.2.1)).isSome = true := by decide

/-- "1.11.0" -/
example : parse (some [49, 46, 49, 49, 46, 48]) = some ⟨1, 11, 0⟩ := by decide
example : dec 1234 = [49, 50, 51, 52] := by simp [dec]
/-- "2.4.0-rc" -/
example : parse (some [50, 46, 52, 46, 48, 45, 114, 99]) = some ⟨2, 4, 0⟩ := by decide
/-- the provider's own version followed by text that is not a `-` suffix is malformed, not compatible:
    "1.1.0rc1", "1.1.0x", "1.1.0 beta" (in general: `parseField_sound`) -/
example : parse (some [49, 46, 49, 46, 48, 114, 99, 49]) = none ∧ parse (some [49, 46, 49, 46, 48, 120]) = none ∧
    parse (some [49, 46, 49, 46, 48, 32, 98, 101, 116, 97]) = none := by decide
example : modelEnabled false [49, 46, 49, 46, 48] [some (some [49, 46, 49, 46, 48, 114, 99, 49])] = none := by decide
/-- provider 2.4.0; one thread without the model, one requiring 2.3.9 -/
example : modelEnabled false [50, 46, 52, 46, 48]
    [some none, some (some [50, 46, 51, 46, 57])] = some true := by decide
/-- provider 2.4.0, a thread requiring 2.5.0: abort -/
example : modelEnabled false [50, 46, 52, 46, 48] [some (some [50, 46, 53, 46, 48])] = none := by decide
/-- spellings the C code accepts beyond strict semver (documented, not violations):
    " +1..2.-3" parses as 1.2.3 -/
example : parse (some [32, 43, 49, 46, 46, 50, 46, 45, 51]) = some ⟨1, 2, 3⟩ := by decide

end Ovni.Props.C14
