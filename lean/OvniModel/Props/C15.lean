import OvniModel.Lemmas.SystemContent
import OvniModel.Lemmas.SystemCrash
import OvniModel.Lemmas.SystemDirname

/-!
# C15 — metadata merge is distribution-independent; conflicts are refused cleanly

Model: `OvniModel/Emu/System.lean` (`build m ss`: `trace_load`'s relpath sort
followed by `system_init`; `m = .fixed` is ovni's code, in which `load_cpus`
searches the CPUs merged so far for an index; `m = .asIs` is `load_cpus` before
ovni's commit f0b14dc, which read `cpus_array[index]` instead; DESIGN §6-B).
Vocabulary (`SameUnion`, `RelpathsDistinct`, the `*Facts`): `Emu/SystemSpec.lean`.
The statements about `.asIs` say how far the properties held before f0b14dc and
that the missing hypothesis was exactly the absence of the crash.
-/
namespace Ovni.Props.C15
open Ovni.Emu.System

def mkStream (relpath loom : Str) (pid tid : Int) (appId : Option Int)
    (cpus : Option (List (Int × Int))) (rank : Option Int := none) (nranks : Option Int := none) :
    StreamMeta :=
  { tp := { relpath := relpath, part := some sThread, loom := some loom, pid := pid, tid := tid,
            finished := 1, hasVersion := true, hasCommit := true },
    appId := appId, rank := rank, nranks := nranks, cpus := cpus }

/-- One thread listing its two CPUs in ascending index order. -/
def wAsc : List StreamMeta := [mkStream [97] [110] 1 1 (some 1) (some [(0, 0), (1, 1)])]
/-- The same CPUs listed as (index 1, phyid 1) then (index 0, phyid 0). -/
def wDesc : List StreamMeta := [mkStream [97] [110] 1 1 (some 1) (some [(1, 1), (0, 0)])]
/-- Index 0 bound to phyid 0 and to phyid 5. -/
def wTwoPhy : List StreamMeta := [mkStream [97] [110] 1 1 (some 1) (some [(0, 0), (0, 5)])]

/-- Two looms, three processes with ranks, app id / ranks / CPUs spread over the threads. -/
def wBig : List StreamMeta :=
  [ mkStream [98, 49] [110, 50] 7 71 (some 3) none (some 2) (some 3),
    mkStream [98, 50] [110, 50] 7 70 none (some [(0, 4), (1, 2)]),
    mkStream [97, 49] [110, 49] 5 50 (some 1) (some [(0, 9)]) (some 1) (some 3),
    mkStream [97, 50] [110, 49] 4 41 (some 2) none (some 0) (some 3),
    mkStream [97, 51] [110, 49] 4 40 none (some [(0, 9)]) ]

/-- The same union, attributes moved to other threads, CPU lists duplicated,
    streams enumerated in another order. -/
def wBig' : List StreamMeta :=
  [ mkStream [97, 51] [110, 49] 4 40 (some 2) none (some 0) (some 3),
    mkStream [97, 50] [110, 49] 4 41 (some 2) (some [(0, 9), (0, 9)]),
    mkStream [98, 50] [110, 50] 7 70 (some 3) none (some 2) (some 3),
    mkStream [97, 49] [110, 49] 5 50 (some 1) none (some 1) (some 3),
    mkStream [98, 49] [110, 50] 7 71 none (some [(0, 4), (1, 2), (0, 4)]) ]

theorem crash_witness_descending : build .asIs wDesc = .crash := by decide

theorem crash_witness_two_phyids : build .asIs wTwoPhy = .crash := by decide

/-- The search (`.fixed`) accepts the consistent list in any order and refuses the
    contradictory one. -/
theorem fixed_on_witnesses :
    build .fixed wDesc = build .fixed wAsc ∧ (build .fixed wAsc).okPart ≠ none ∧
    build .fixed wTwoPhy = .error .cpuIndexRedefined := by decide

/-- ovni's code (`.fixed`) never dereferences `cpus_array` in `load_cpus`. -/
theorem fixed_never_crashes (ss : List StreamMeta) : build .fixed ss ≠ .crash :=
  fun hb => create_fixed_ne_crash _ (create_crash_of_build_crash hb)

/-- Enumeration order alone (`nftw`/`readdir` order): the result is identical,
    error class and (for `.asIs`) crash included. -/
theorem build_enum_order_invariant (m : Mode) (ss ss' : List StreamMeta)
    (hp : ss.Perm ss') (hd : RelpathsDistinct ss) : build m ss = build m ss' := by
  unfold build
  rw [load_eq_of_perm hp hd]

-- OPEN (refuted for `.asIs`, see `not_build_perm_invariant_asIs`):
--   theorem build_perm_invariant (ss ss') (hd : RelpathsDistinct ss) (hd' : RelpathsDistinct ss')
--       (hu : SameUnion ss ss') : (build .asIs ss).okPart = (build .asIs ss').okPart
--       ∧ build .asIs ss ≠ .crash
-- What is missing is exactly the hypothesis `build .asIs _ ≠ .crash` on both sides.

/-- Same union of metadata (same threads; per-process and per-loom attributes
    carried by any threads of that process / loom, any number of times; any
    enumeration order) ⇒ same hierarchy, same order, same rows, or both fail —
    provided neither presentation makes `load_cpus` dereference the
    unallocated `cpus_array` (decidable: `build` is computable). -/
theorem build_perm_invariant_partial (ss ss' : List StreamMeta)
    (hd : RelpathsDistinct ss) (hd' : RelpathsDistinct ss') (hu : SameUnion ss ss')
    (hc : build .asIs ss ≠ .crash) (hc' : build .asIs ss' ≠ .crash) :
    (build .asIs ss).okPart = (build .asIs ss').okPart :=
  okPart_eq_of_sameUnion hd hd' hu hc hc'

/-- The crash hypothesis in explicit form (`CpuOrderSafe`, decidable, defined
    without reference to `build`): for every loom, in load order and through each
    CPU list front to back, every entry whose physical id was not met before
    carries an index at least the number of distinct CPUs met before (or a
    negative one). -/
theorem safe_order_excludes_crash (ss : List StreamMeta) (h : CpuOrderSafe ss) :
    build .asIs ss ≠ .crash :=
  fun hb => create_asIs_ne_crash h.seq (create_crash_of_build_crash hb)

/-- `build_perm_invariant_partial` with the explicit hypothesis. -/
theorem build_perm_invariant_safe (ss ss' : List StreamMeta)
    (hd : RelpathsDistinct ss) (hd' : RelpathsDistinct ss') (hu : SameUnion ss ss')
    (hs : CpuOrderSafe ss) (hs' : CpuOrderSafe ss') :
    (build .asIs ss).okPart = (build .asIs ss').okPart :=
  build_perm_invariant_partial ss ss' hd hd' hu (safe_order_excludes_crash _ hs)
    (safe_order_excludes_crash _ hs')

example : CpuOrderSafe wBig ∧ CpuOrderSafe wBig' ∧ CpuOrderSafe wAsc ∧ ¬ CpuOrderSafe wDesc ∧
    ¬ CpuOrderSafe wTwoPhy := by decide

/-- The hypothesis cannot be dropped for `.asIs`: two presentations of the
    same union, one accepted, one crashing. -/
theorem not_build_perm_invariant_asIs :
    ¬ (∀ ss ss' : List StreamMeta, RelpathsDistinct ss → RelpathsDistinct ss' → SameUnion ss ss' →
        (build .asIs ss).okPart = (build .asIs ss').okPart ∧ build .asIs ss' ≠ .crash) := by
  intro h
  exact (h wAsc wDesc (by decide) (by decide) (by decide)).2 crash_witness_descending

/-- Full strength for ovni's code (`.fixed`): no hypothesis about crashes. -/
theorem build_perm_invariant_fixed (ss ss' : List StreamMeta)
    (hd : RelpathsDistinct ss) (hd' : RelpathsDistinct ss') (hu : SameUnion ss ss') :
    (build .fixed ss).okPart = (build .fixed ss').okPart ∧ build .fixed ss ≠ .crash ∧
      build .fixed ss' ≠ .crash :=
  ⟨okPart_eq_of_sameUnion hd hd' hu (fixed_never_crashes _) (fixed_never_crashes _),
   fixed_never_crashes _, fixed_never_crashes _⟩

/-- Whenever the `cpus_array[index]` lookup does not crash it computes what the
    search computes (so f0b14dc changes nothing but the crash). -/
theorem asIs_agrees_with_fixed (ss : List StreamMeta) (hd : RelpathsDistinct ss)
    (hc : build .asIs ss ≠ .crash) : (build .asIs ss).okPart = (build .fixed ss).okPart :=
  okPart_eq hc (fixed_never_crashes _) fun _ => Iff.rfl

theorem build_wBig : ∃ h, build .asIs wBig = .ok h ∧ h.sortByRank = true ∧
    h.threadRows = [(2, 40), (2, 41), (1, 50), (3, 70), (3, 71)] ∧
    h.cpuRows = [(0, some 9), (0, none), (1, some 2), (1, some 4), (1, none)] := by
  refine ⟨_, rfl, ?_⟩
  decide

/-- Non-vacuity: the hypotheses hold for a two-loom, three-process trace and a
    genuinely different distribution of it, and the common result is a success. -/
example : RelpathsDistinct wBig ∧ RelpathsDistinct wBig' ∧ build .asIs wBig ≠ .crash ∧
    build .asIs wBig' ≠ .crash ∧ (build .asIs wBig).okPart ≠ none ∧ wBig.map (·.tp) ≠ wBig'.map (·.tp) := by
  obtain ⟨h, hb, _⟩ := build_wBig
  rw [hb]
  exact ⟨by decide, by decide, nofun, by decide, nofun, by decide⟩

theorem sameUnion_wBig : SameUnion wBig wBig' := by decide

example : SameUnion wBig wBig' := sameUnion_wBig

/-- The stable sorts fall back on insertion order, i.e. on `trace_load`'s
    relpath order, only when sort keys tie; pids, tids, physical ids and loom
    names never tie, ranks might.  So when no rank is claimed by two processes
    (`RanksDistinct`, decidable) the result does not even depend on how the
    stream directories are named (`SameUnionMod`: same threads up to relpath,
    same facts; relpaths need not be distinct). -/
theorem build_dirname_independent_partial (ss ss' : List StreamMeta)
    (hu : SameUnionMod ss ss') (hr : RanksDistinct ss)
    (hc : build .asIs ss ≠ .crash) (hc' : build .asIs ss' ≠ .crash) :
    (build .asIs ss).okPart = (build .asIs ss').okPart :=
  okPart_eq_of_sameUnionMod hu hr hc hc'

theorem build_dirname_independent_fixed (ss ss' : List StreamMeta)
    (hu : SameUnionMod ss ss') (hr : RanksDistinct ss) :
    (build .fixed ss).okPart = (build .fixed ss').okPart :=
  okPart_eq_of_sameUnionMod hu hr (fixed_never_crashes _) (fixed_never_crashes _)

/-- Two processes of one loom both claiming rank 0; directories `a`, `b`. -/
def wTie : List StreamMeta :=
  [ mkStream [97] [110] 4 40 (some 1) (some [(0, 0)]) (some 0) (some 2),
    mkStream [98] [110] 5 50 (some 2) none (some 0) (some 2) ]
/-- The same with the two directory names exchanged. -/
def wTie' : List StreamMeta :=
  [ mkStream [98] [110] 4 40 (some 1) (some [(0, 0)]) (some 0) (some 2),
    mkStream [97] [110] 5 50 (some 2) none (some 0) (some 2) ]

/-- `RanksDistinct` cannot be dropped: with a rank tie the directory names
    decide the order of the rows (this is the code's documented stable-sort
    behaviour, not a defect: the union here is itself ambiguous). -/
theorem dirname_matters_on_rank_ties :
    SameUnionMod wTie wTie' ∧ ¬ RanksDistinct wTie ∧
    (build .fixed wTie).okPart ≠ (build .fixed wTie').okPart ∧
    (build .asIs wTie).okPart ≠ (build .asIs wTie').okPart := by decide

example : SameUnionMod wBig wBig' ∧ RanksDistinct wBig :=
  ⟨sameUnion_wBig.toMod, by decide⟩

/-- A successful `build` is ordered as the property says (`Ordered`, in
    `Emu/SystemSpec.lean`): looms by rank_min (the minimum rank of their
    processes) exactly when every loom has ranks, else strictly by name
    (`strcmp`); inside a loom, processes by rank when the loom has ranks
    (then every process has one), else strictly by pid; threads strictly by
    tid; CPUs strictly by physical id. -/
theorem order_spec (m : Mode) (ss : List StreamMeta) (h : Hier) (hb : build m ss = .ok h) : Ordered h :=
  (build_ok_iff.1 hb).2.ordered

/-- Rows of `thread.prv` in hierarchy order: looms, then processes, then
    threads; the name carries the process's app id and the thread's tid. -/
theorem threadRows_spec (h : Hier) :
    h.threadRows = h.looms.flatMap fun l => l.procs.flatMap fun p => p.threads.map fun t => (p.appid, t.tid) := by
  simp only [Hier.threadRows, Hier.threads, List.map_flatMap, List.map_map]
  rfl

/-- Rows of `cpu.prv`: loom after loom (numbered by position), its CPUs in
    order, then its virtual CPU — the virtual CPU is the last row of each loom. -/
theorem cpuRows_spec (i : Nat) (l : HLoom) (ls : List HLoom) :
    cpuRowsFrom i (l :: ls) =
      l.cpus.map (fun c => (i, some c.phyid)) ++ (i, none) :: cpuRowsFrom (i + 1) ls := by
  simp [cpuRowsFrom, loomCpuRows]

/-- Non-vacuity: a build that succeeds, is sorted by rank, and whose rows are
    the expected ones (loom `n1` holds ranks 0 and 1 and comes first; inside it
    pid 4 (rank 0) precedes pid 5 (rank 1); CPUs by physical id, vCPU last). -/
example : ∃ h, build .asIs wBig = .ok h ∧ h.sortByRank = true ∧
    h.threadRows = [(2, 40), (2, 41), (1, 50), (3, 70), (3, 71)] ∧
    h.cpuRows = [(0, some 9), (0, none), (1, some 2), (1, some 4), (1, none)] :=
  build_wBig

/-- A successful `build` contains exactly the union (`Content`, in
    `Emu/SystemSpec.lean`): the looms named by the thread streams; per loom the
    CPUs of its CPU facts, with indices exactly `0..n-1`; the processes and
    threads of the thread streams; each process with the app id (and rank /
    rank count, if any) that its threads wrote. -/
theorem hier_content (m : Mode) (ss : List StreamMeta) (h : Hier) (hb : build m ss = .ok h) :
    Content ss h :=
  (build_ok_iff.1 hb).2.content.of_load

-- OPEN (refuted for `.asIs`, see `not_conflicts_refused_asIs`):
--   theorem conflicts_refused (ss) (hc : Conflict ss) : ∃ e, build .asIs ss = .error e
-- What is missing is exactly the hypothesis `build .asIs ss ≠ .crash`.

/-- None of the contradictions of the property (two app ids, ranks or rank
    counts in one process; one CPU index bound to two physical ids or one
    physical id to two indices; duplicate TIDs; a loom without CPUs; a process
    without app id) is ever accepted, in either mode. -/
theorem conflicts_never_accepted (m : Mode) (ss : List StreamMeta) (hc : Conflict ss) (h : Hier) :
    build m ss ≠ .ok h :=
  fun hb => (build_ok_iff.1 hb).2.no_conflict hc

/-- ... and unless `load_cpus` dereferences the unallocated `cpus_array`
    first, it is refused with an error. -/
theorem conflicts_refused_partial (ss : List StreamMeta) (hc : Conflict ss)
    (hn : build .asIs ss ≠ .crash) : ∃ e, build .asIs ss = .error e :=
  conflict_refused hc hn

/-- The hypothesis cannot be dropped for `.asIs`: index 0 bound to phyid 0 and
    5 is a contradiction and crashes. -/
theorem not_conflicts_refused_asIs :
    ¬ (∀ ss : List StreamMeta, Conflict ss → ∃ e, build .asIs ss = .error e) := by
  intro h
  have hc : Conflict wTwoPhy :=
    Conflict.indexTwoPhyids [110] 0 0 5 (by decide) (by decide) (by decide)
  obtain ⟨e, he⟩ := h wTwoPhy hc
  rw [crash_witness_two_phyids] at he
  cases he

/-- Full strength for ovni's code (`.fixed`): every contradiction is refused with an
    error — never accepted, never a crash. -/
theorem conflicts_refused_fixed (ss : List StreamMeta) (hc : Conflict ss) :
    ∃ e, build .fixed ss = .error e :=
  conflict_refused hc (fixed_never_crashes ss)

/-- Conversely a failing merge always has a reason in the union: if
    `create_system` fails with an error then the union violates `CreateOK` or
    binds a CPU index to two physical ids. -/
theorem create_error_has_conflict (m : Mode) (ss : List StreamMeta) (e : Err)
    (h : create m (load ss) = .error e) : ¬ (CreateOK (load ss) ∧ IndexOK (cpuFacts (load ss))) :=
  create_error h

/-- Non-vacuity: each kind of contradiction is exhibited by a concrete trace
    which the model refuses with the corresponding error. -/
example :
    build .asIs [mkStream [97] [110] 1 1 (some 1) (some [(0, 0)]), mkStream [98] [110] 1 2 (some 2) none]
      = .error .appidMismatch ∧
    build .asIs [mkStream [97] [110] 1 1 (some 1) (some [(0, 0)]) (some 0) (some 2),
                 mkStream [98] [110] 1 2 none none (some 1) (some 2)] = .error .rankMismatch ∧
    build .asIs [mkStream [97] [110] 1 1 (some 1) (some [(0, 0)]) (some 0) (some 2),
                 mkStream [98] [110] 1 2 none none (some 0) (some 3)] = .error .nranksMismatch ∧
    build .asIs [mkStream [97] [110] 1 1 (some 1) (some [(0, 0), (1, 0)])] = .error .cpuIndexMismatch ∧
    build .asIs [mkStream [97] [110] 1 1 (some 1) (some [(1, 0), (1, 5)])] = .error .cpuIndexTaken ∧
    build .asIs [mkStream [97] [110] 1 1 (some 1) (some [(0, 0)]), mkStream [98] [110] 1 1 none none]
      = .error .dupThread ∧
    build .asIs [mkStream [97] [110] 1 1 (some 1) none] = .error .noCpus ∧
    build .asIs [mkStream [97] [110] 1 1 none (some [(0, 0)])] = .error .appidMissing := by
  decide

example : Conflict [mkStream [97] [110] 1 1 (some 1) (some [(0, 0)]), mkStream [98] [110] 1 1 none none] :=
  Conflict.dupTid (by decide)

end Ovni.Props.C15
