import OvniModel.Tools.OvnisortOld
import OvniModel.Lemmas.OvnisortTop

/-!
# C16 — ovnisort yields a stable sorted permutation and touches only what it must

Model: `Tools/Ovnisort.lean` (`src/emu/ovnisort.c` and the `stream_step` it
drives).  `sortFn` stands for `qsort` with `cmp_ev`: `IsSort sortFn` = it returns
a permutation sorted by the int64-cast clocks; `Stable sortFn` = equal clocks
keep their order (named hypothesis, true for the insertion sort `isort` used by
the driver and for glibc's merge sort).

Preconditions of the property, all decidable: `OnlyRegionsUnsorted evs`,
`WithinWindow n evs` (every region that is not already in place finds its
destination within the look-back; a region whose events, `OU[` marker included,
have non-decreasing clocks is left alone by `region_in_place` and needs no
window), `ClocksSigned evs` (clocks < 2^63), look-back `n ≥ 1`, at least one event.

`sorted_input_noop` / `second_run_noop` are the statements that the code
violated before `region_in_place` was added (`second_run_fails_before_fix`).
-/
namespace Ovni.Props.C16
open Ovni.Ovnisort

def totalSize (l : List Ev) : Nat := (l.map (·.size)).sum

/-- Under the preconditions and for any `qsort` that returns a
    sorted permutation: ovnisort succeeds, the stream keeps its size, its
    events are exactly the original events (a permutation of the `Ev` values,
    which carry their bytes) and the clocks are non-decreasing. -/
theorem winsort_ok {sortFn : List Ev → List Ev} (hf : IsSort sortFn) {n : Nat} (hn : 1 ≤ n)
    {evs : List Ev} (hne : evs ≠ []) (hr : OnlyRegionsUnsorted evs) (hw : WithinWindow n evs)
    (hc : ClocksSigned evs) :
    (winsort sortFn n evs).status = Status.ok ∧
    totalSize (winsort sortFn n evs).out = totalSize evs ∧
    (encodeBody (winsort sortFn n evs).out).length = (encodeBody evs).length ∧
    (winsort sortFn n evs).out.Perm evs ∧
    Sorted (winsort sortFn n evs).out := by
  obtain ⟨h1, h2, h3⟩ := (winsort_main hf hn hne hr hc).1 hw
  refine ⟨h1, (h3.map _).sum_nat, ?_, h3, h2⟩
  unfold encodeBody
  exact (h3.flatMap_right _).length_eq

/-- Nothing is ever lost or altered, whatever the stream, the look-back and
    the outcome (also when ovnisort stops with an error after having sorted
    some regions). -/
theorem permutation_always {sortFn : List Ev → List Ev} (hf : IsSort sortFn) (n : Nat) (evs : List Ev)
    (trunc : Bool) : (winsort sortFn n evs trunc).out.Perm evs :=
  winsort_perm hf n evs trunc

/-- Every event (hence every byte) before the earliest
    position named by an executed sort plan is unchanged; no precondition. -/
theorem prefix_untouched {sortFn : List Ev → List Ev} (hf : IsSort sortFn) (n : Nat) (evs : List Ev)
    (trunc : Bool) (q : Nat) (hq : ∀ pl ∈ (winsort sortFn n evs trunc).plans, q ≤ pl.1) :
    (winsort sortFn n evs trunc).out.take q = evs.take q := by
  rw [winsort_out]
  exact foldl_applyPlan (P := fun l => l.take q = evs.take q)
    (fun p hp l h => (applyPlan_take (fun l => (hf l).1.length_eq) (hq p hp) l).trans h) rfl

theorem prefix_bytes_untouched {sortFn : List Ev → List Ev} (hf : IsSort sortFn) (n : Nat) (evs : List Ev)
    (trunc : Bool) (q : Nat) (hq : ∀ pl ∈ (winsort sortFn n evs trunc).plans, q ≤ pl.1) :
    (encodeBody (winsort sortFn n evs trunc).out).take (encodeBody (evs.take q)).length
      = encodeBody (evs.take q) := by
  have h := prefix_untouched hf n evs trunc q hq
  have : encodeBody (winsort sortFn n evs trunc).out
      = encodeBody (evs.take q) ++ encodeBody ((winsort sortFn n evs trunc).out.drop q) := by
    conv => lhs; rw [← List.take_append_drop q (winsort sortFn n evs trunc).out, h]
    unfold encodeBody; rw [List.flatMap_append]
  rw [this, List.take_left' rfl]

/-- With a stable `qsort`, events with the
    same clock keep their relative order — for every stream, look-back and
    outcome. -/
theorem equal_clock_order_preserved {sortFn : List Ev → List Ev} (hs : Stable sortFn) (n : Nat)
    (evs : List Ev) (trunc : Bool) (c : Nat) :
    atClock c (winsort sortFn n evs trunc).out = atClock c evs := by
  rw [winsort_out]
  exact foldl_applyPlan (P := fun l => atClock c l = atClock c evs)
    (fun p _ l h => (applyPlan_atClock hs c l p).trans h) rfl

/-- Under the preconditions and stability, ovnisort computes *the* stable sort
    of the whole stream (here: insertion sort `isort`). -/
theorem winsort_eq_stable_sort {sortFn : List Ev → List Ev} (hf : IsSort sortFn) (hs : Stable sortFn)
    {n : Nat} (hn : 1 ≤ n) {evs : List Ev} (hne : evs ≠ []) (hr : OnlyRegionsUnsorted evs)
    (hw : WithinWindow n evs) (hc : ClocksSigned evs) :
    (winsort sortFn n evs).out = isort evs := by
  obtain ⟨_, h2, _⟩ := (winsort_main hf hn hne hr hc).1 hw
  apply sorted_ext h2
  · exact (isort_ssorted evs).sorted (fun e he => hc e ((isort_perm evs).mem_iff.1 he))
  · intro c
    rw [equal_clock_order_preserved hs, isort_atClock]

/-- On *any* stream whose events already have
    non-decreasing clocks — whatever its regions (closed or not, nested
    markers, empty), the look-back `n ≥ 1`, the clocks (also ≥ 2^63) and
    `qsort` — ovnisort exits 0, executes no sort plan and leaves every event,
    hence every byte, where it was: no region makes it look back.  (`_hn` is not
    needed: `winsort_sorted_noop` is this statement for every `n`.) -/
theorem sorted_input_noop (sortFn : List Ev → List Ev) {n : Nat} (_hn : 1 ≤ n) {evs : List Ev}
    (hne : evs ≠ []) (hsorted : Sorted evs) :
    (winsort sortFn n evs).status = Status.ok ∧
    (winsort sortFn n evs).out = evs ∧
    encodeBody (winsort sortFn n evs).out = encodeBody evs ∧
    (winsort sortFn n evs).plans = [] := by
  obtain ⟨h1, h2, h3⟩ := winsort_sorted_noop sortFn n hne hsorted false
  exact ⟨by simpa using h3, h1, by rw [h1], h2⟩

/-- The `region_in_place` shortcut changes no result: when the events before
    the `OU[` marker are sorted (the loop invariant under `OnlyRegionsUnsorted`)
    and the region is in place, the look back + `qsort` + write the code would
    otherwise perform (`sortRegion`) leaves the buffer as it is, also when it
    fails to find a destination.  The shortcut only removes that failure. -/
theorem in_place_skip_exact {sortFn : List Ev → List Ev} (hf : IsSort sortFn) (hs : Stable sortFn)
    {buf : List Ev} {opn : Nat} (hlt : opn < buf.length) (hpre : Sorted (buf.take (opn + 1)))
    (hip : regionInPlace buf opn = true) (hc : ClocksSigned buf) (r : Ring) (bad0 : Nat) :
    (sortRegion sortFn buf r bad0).2.1 = buf ∧
    (executeSortPlan sortFn buf r opn bad0) = (Status.ok, buf, r, none) := by
  refine ⟨?_, exec_inPlace hip⟩
  have hsd : Sorted buf := sorted_of_inPlace hlt hpre hip
  rcases sortRegion_shape sortFn buf r bad0 with ⟨h, _⟩ | ⟨first, h, _⟩
  · exact h
  · rw [h]
    unfold sortFrom
    rw [stable_sort_sorted_eq_self hf hs (List.Pairwise.sublist (List.drop_sublist _ _) hsd)
      (fun x hx => hc x (List.mem_of_mem_drop hx)), List.take_append_drop]

/-- Sorting a sorted stream changes nothing — for every
    look-back and `qsort`, also when the stream ends with an incomplete event
    (the exit status is not part of this statement; for a complete stream
    `sorted_input_noop` gives it). -/
theorem idempotent (sortFn : List Ev → List Ev) (n : Nat) {evs : List Ev} (hsorted : Sorted evs)
    (trunc : Bool) : (winsort sortFn n evs trunc).out = evs ∧ (winsort sortFn n evs trunc).plans = [] := by
  cases evs with
  | nil => exact ⟨rfl, rfl⟩
  | cons e t =>
    obtain ⟨h1, h2, _⟩ := winsort_sorted_noop sortFn n (List.cons_ne_nil e t) hsorted trunc
    exact ⟨h1, h2⟩

/-- Under the preconditions of `winsort_ok`, running
    ovnisort again on the result (same look-back `n`, or any other `n' ≥ 1`)
    exits 0, executes no sort plan and returns the same events and bytes
    (every further run: `every_rerun_noop`). -/
theorem second_run_noop {sortFn : List Ev → List Ev} (hf : IsSort sortFn) {n : Nat} (hn : 1 ≤ n)
    {evs : List Ev} (hne : evs ≠ []) (hr : OnlyRegionsUnsorted evs) (hw : WithinWindow n evs)
    (hc : ClocksSigned evs) {n' : Nat} (hn' : 1 ≤ n') :
    (winsort sortFn n' (winsort sortFn n evs).out).status = Status.ok ∧
    (winsort sortFn n' (winsort sortFn n evs).out).out = (winsort sortFn n evs).out ∧
    encodeBody (winsort sortFn n' (winsort sortFn n evs).out).out = encodeBody (winsort sortFn n evs).out ∧
    (winsort sortFn n' (winsort sortFn n evs).out).plans = [] := by
  obtain ⟨_, h2, h3⟩ := (winsort_main hf hn hne hr hc).1 hw
  have hne' : (winsort sortFn n evs).out ≠ [] := by
    intro h; rw [h] at h3; exact hne h3.symm.eq_nil
  exact sorted_input_noop sortFn hn' hne' h2

def rerun (sortFn : List Ev → List Ev) (n : Nat) : Nat → List Ev → List Ev
  | 0, l => l
  | k + 1, l => rerun sortFn n k (winsort sortFn n l).out

/-- Third, fourth, … run: a sorted stream survives any number of runs
    unchanged and each of them exits 0. -/
theorem every_rerun_noop (sortFn : List Ev → List Ev) {n : Nat} (hn : 1 ≤ n) {evs : List Ev}
    (hne : evs ≠ []) (hsorted : Sorted evs) (k : Nat) :
    rerun sortFn n k evs = evs ∧ (winsort sortFn n (rerun sortFn n k evs)).status = Status.ok := by
  obtain ⟨h1, h2, _, _⟩ := sorted_input_noop sortFn hn hne hsorted
  induction k with
  | zero => exact ⟨rfl, h1⟩
  | succ k ih =>
    show rerun sortFn n k (winsort sortFn n evs).out = evs ∧
      (winsort sortFn n (rerun sortFn n k (winsort sortFn n evs).out)).status = Status.ok
    rw [h2]; exact ih

/-- `ovnisort -c` passes exactly on non-empty streams with non-decreasing clocks. -/
theorem streamCheck_iff (l : List Ev) : streamCheck l = true ↔ l ≠ [] ∧ Sorted l := by
  cases l with
  | nil => simp [streamCheck]
  | cons e t =>
    simp only [streamCheck, checkLoop_eq, Bool.not_false, Bool.true_and, ne_eq, reduceCtorEq,
      not_false_eq_true, true_and]
    exact inPlaceLoop_iff.trans (List.pairwise_cons (R := fun a b : Ev => a.clock ≤ b.clock)).symm

theorem check_passes {sortFn : List Ev → List Ev} (hf : IsSort sortFn) {n : Nat} (hn : 1 ≤ n)
    {evs : List Ev} (hne : evs ≠ []) (hr : OnlyRegionsUnsorted evs) (hw : WithinWindow n evs)
    (hc : ClocksSigned evs) : streamCheck (winsort sortFn n evs).out = true := by
  obtain ⟨_, h2, h3⟩ := (winsort_main hf hn hne hr hc).1 hw
  rw [streamCheck_iff]
  exact ⟨fun h => by rw [h] at h3; exact hne h3.symm.eq_nil, h2⟩

/-- Stream level: the emulator's `stream_step`
    (monotonic-clock test on int64 values) accepts every event of the result. -/
theorem emulator_accepts_sorted {sortFn : List Ev → List Ev} (hf : IsSort sortFn) {n : Nat} (hn : 1 ≤ n)
    {evs : List Ev} (hne : evs ≠ []) (hr : OnlyRegionsUnsorted evs) (hw : WithinWindow n evs)
    (hc : ClocksSigned evs) : emuStreamAccepts (winsort sortFn n evs).out = true := by
  obtain ⟨_, h2, h3⟩ := (winsort_main hf hn hne hr hc).1 hw
  exact (emuStreamAccepts_iff _).2 (h2.ssorted (fun e he => hc e (h3.mem_iff.1 he)))

/-- **fails_loudly**, structural part: when the region is not in place and
    `find_destination` finds nothing, `execute_sort_plan` reports an error and
    writes nothing … -/
theorem no_destination_is_error (sortFn : List Ev → List Ev) (buf : List Ev) (r : Ring) (opn bad0 : Nat)
    (c : Nat) (hc : c = (if minClock (clockAt buf bad0) (buf.drop bad0) < clockAt buf bad0
      then minClock (clockAt buf bad0) (buf.drop bad0) else clockAt buf bad0))
    (hip : regionInPlace buf opn = false)
    (h : findDestination buf r c = Dest.notFound) :
    executeSortPlan sortFn buf r opn bad0 = (Status.errNoDest, buf, r, none) := by
  subst hc
  rw [exec_notInPlace hip]
  unfold sortRegion
  simp only [h]

/-- … and an error inside the loop is the status of the whole run, never `ok`. -/
theorem step_error_is_final {sortFn : List Ev → List Ev} {trunc : Bool} {s : WS} {e : Ev} {rest : List Ev}
    {st : Status} {buf : List Ev} {pl : List (Nat × Nat)} (h : wsStep sortFn s e = .error (st, buf, pl)) :
    (wsLoop sortFn trunc s (e :: rest)).status = st ∧ st ≠ Status.ok := by
  refine ⟨by simp only [wsLoop, h], ?_⟩
  obtain ⟨_, _, _, hres⟩ := wsStep_shape sortFn s e
  rcases hres with ⟨s', hs', _⟩ | ⟨st', hs', hne⟩
  · rw [hs'] at h; cases h
  · rw [hs'] at h
    injection h with h
    injection h with h1
    exact h1 ▸ hne

/-- If the stream is otherwise as required but some region
    that is not in place has its destination outside the look-back window, ovnisort reports
    "cannot find destination" — it never exits successfully. -/
theorem fails_loudly {sortFn : List Ev → List Ev} (hf : IsSort sortFn) {n : Nat} (hn : 1 ≤ n)
    {evs : List Ev} (hne : evs ≠ []) (hr : OnlyRegionsUnsorted evs) (hc : ClocksSigned evs)
    (hw : ¬ WithinWindow n evs) : (winsort sortFn n evs).status = Status.errNoDest :=
  (winsort_main hf hn hne hr hc).2 hw

theorem status_ok_iff {sortFn : List Ev → List Ev} (hf : IsSort sortFn) {n : Nat} (hn : 1 ≤ n)
    {evs : List Ev} (hne : evs ≠ []) (hr : OnlyRegionsUnsorted evs) (hc : ClocksSigned evs) :
    (winsort sortFn n evs).status = Status.ok ↔ WithinWindow n evs := by
  constructor
  · intro h
    apply Decidable.byContradiction
    intro hw
    rw [(winsort_main hf hn hne hr hc).2 hw] at h
    cases h
  · exact fun hw => ((winsort_main hf hn hne hr hc).1 hw).1

/-- `WithinWindow` is implied by the window condition imposed on *every*
    non-empty region, in place or not (`windowOkAll`). -/
theorem withinWindow_of_every_region {n : Nat} {evs : List Ev} (h : windowOkAll n St.S [] 0 evs = true) :
    WithinWindow n evs :=
  windowOk_of_all n evs St.S [] 0 true 0 h

/-- The hypotheses on `qsort` are satisfiable: insertion sort with `cmp_ev`. -/
theorem isort_is_stable_sort : IsSort isort ∧ Stable isort :=
  ⟨fun l => ⟨isort_perm l, isort_ssorted l⟩, fun l c => isort_atClock c l⟩

private def ev (c : Nat) (k : Kind := Kind.other) : Ev := ⟨c, 12, [], k⟩

/-- two regions; the second one reaches back in front of the first `OU]` -/
private def ex1 : List Ev :=
  [ev 0, ev 1 Kind.start, ev 2, ev 3, ev 4, ev 20 Kind.stop, ev 21 Kind.start, ev 10, ev 11, ev 12,
   ev 22 Kind.stop, ev 30]

example : ex1 ≠ [] ∧ OnlyRegionsUnsorted ex1 ∧ WithinWindow 7 ex1 ∧ ClocksSigned ex1 := by decide

example : (winsort isort 7 ex1).status = Status.ok ∧ (winsort isort 7 ex1).plans = [(4, 10)] ∧
    (winsort isort 7 ex1).out.map (·.clock) = [0, 1, 2, 3, 4, 10, 11, 12, 20, 21, 22, 30] := by decide

example : ¬ WithinWindow 6 ex1 ∧ (winsort isort 6 ex1).status = Status.errNoDest := by decide

/-- The defect that `region_in_place` repairs, on the code as it was: the
    first run with `-n 7` succeeds, the second run with `-n 7` on its
    (unchanged, sorted) result reports "cannot find destination" — the events
    moved in front of the first `OU]` made that region larger than the window
    (seen on the real tool before the fix). -/
theorem second_run_fails_before_fix :
    (winsortOld isort 7 ex1).status = Status.ok ∧
    Sorted (winsortOld isort 7 ex1).out ∧
    (winsortOld isort 7 (winsortOld isort 7 ex1).out).status = Status.errNoDest ∧
    (winsortOld isort 7 (winsortOld isort 7 ex1).out).out = (winsortOld isort 7 ex1).out := by decide

/-- … and on the code as it is: same first result, second and third run exit
    0 and change nothing. -/
theorem second_run_witness_fixed :
    (winsort isort 7 ex1).out = (winsortOld isort 7 ex1).out ∧
    (winsort isort 7 (winsort isort 7 ex1).out).status = Status.ok ∧
    (winsort isort 7 (winsort isort 7 ex1).out).out = (winsort isort 7 ex1).out ∧
    (winsort isort 7 (winsort isort 7 ex1).out).plans = [] ∧
    (winsort isort 7 (winsort isort 7 (winsort isort 7 ex1).out).out).status = Status.ok ∧
    (winsort isort 7 (winsort isort 7 (winsort isort 7 ex1).out).out).out = (winsort isort 7 ex1).out := by
  decide

/-- a sorted stream on which the old code failed at the *first* run (all
    clocks equal, more of them than the look-back 3): no event with a strictly
    smaller clock exists -/
private def ex2 : List Ev :=
  [ev 5, ev 5, ev 5, ev 5 Kind.start, ev 5, ev 5 Kind.stop, ev 6]

example : Sorted ex2 ∧ (winsortOld isort 3 ex2).status = Status.errNoDest ∧
    (winsort isort 3 ex2).status = Status.ok ∧ (winsort isort 3 ex2).out = ex2 := by decide

end Ovni.Props.C16
