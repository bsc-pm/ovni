import OvniModel.Lemmas.EmuCoreCases
import OvniModel.Lemmas.MarkRt
import OvniModel.Props.C08Stack

/-!
# C17 — mark API end to end

Models: `Rt/Mark.lean` (ovni_mark_type / label / push / pop / set guards and the
metadata they build) and `Emu/MarkEmu.lean` (parse_mark / add_label merging,
mark channels as a run-time channel group, mark_event).

The merge of the definitions of all threads is characterised against an
order-free specification (`Consistent`, spelled out by `consistent_iff`: it only
quantifies over members and pairs of members), for lists of any length.
-/
namespace Ovni.Props.C17
open Ovni.Emu Ovni.Emu.MarkL Ovni.Rt.Mark Ovni.Generated

/-- `ovni_mark_type` is refused (abort) exactly for a type outside [0,100), an
    empty title or a type already defined by this thread. -/
theorem markType_refused_iff (m : Meta) (type : Int) (flags : Nat) (title : String) :
    markType m type flags title = none ↔
      (type < 0 ∨ type ≥ 100) ∨ title.isEmpty = true ∨ (find m type).isSome = true := by
  -- refused = not successful (`markType_some_iff`)
  rw [← Decidable.not_iff_not, ← ne_eq, Option.ne_none_iff_exists']
  simp only [markType_some_iff]
  cases find m type <;> simp <;> omega

/-- `ovni_mark_label` is refused for a bad type, a value ≤ 0 (zero is
    forbidden), an empty label, an undefined type or a value already labelled. -/
theorem markLabel_refused_iff (m : Meta) (type value : Int) (label : String) :
    markLabel m type value label = none ↔
      (type < 0 ∨ type ≥ 100) ∨ value ≤ 0 ∨ label.isEmpty = true ∨ find m type = none ∨
      (∃ td, find m type = some td ∧ td.labels.any (·.1 == value) = true) := by
  rw [← Decidable.not_iff_not, ← ne_eq, Option.ne_none_iff_exists']
  simp only [markLabel_some_iff]
  cases find m type <;> simp [-List.any_eq_true, -List.any_eq_false] <;> omega

/-- The guard `ovni_mark_push/pop/set` share refuses the value 0 (the call aborts and no event is emitted);
    that the three calls go through this guard is part of the model (`Rt/Mark.lean`), not of this statement. -/
theorem mark_zero_refused : markEmitOk 0 = false := rfl

theorem title_conflict_refused (tab : List MarkType) (d : MarkIn) (t : MarkType)
    (ht : tab.find? (·.type == d.type) = some t) (title : String) (hd : d.title = some title)
    (hne : t.title ≠ title) : ∃ e, parseMark tab d = .error e :=
  parseMark_conflict ht (Or.inl ⟨title, hd, hne⟩)

theorem ctype_conflict_refused (tab : List MarkType) (d : MarkIn) (t : MarkType)
    (ht : tab.find? (·.type == d.type) = some t) (ct : String) (hd : d.chanType = some ct)
    (hne : t.stack ≠ decide (ct = "stack")) : ∃ e, parseMark tab d = .error e :=
  parseMark_conflict ht (Or.inr ⟨ct, hd, hne⟩)

/-- `add_label`: a second label for a value is refused unless it is the same. -/
theorem label_conflict_refused (ls : List (Int × String)) (v : Int) (l l' : String)
    (h : ls.find? (·.1 == v) = some (v, l')) (hne : l' ≠ l) : addLabel ls v l = .error .other := by
  unfold addLabel; rw [h]; simp [hne]

theorem label_agree_merges (ls : List (Int × String)) (v : Int) (l : String)
    (h : ls.find? (·.1 == v) = some (v, l)) : addLabel ls v l = .ok ls := by
  unfold addLabel; rw [h]; simp

theorem label_new_added (ls : List (Int × String)) (v : Int) (l : String)
    (h : ls.find? (·.1 == v) = none) : addLabel ls v l = .ok (ls ++ [(v, l)]) := by
  unfold addLabel; rw [h]

/-- An error while merging is final: once a definition is refused the whole
    trace is refused (`mark_create` fails, the emulator exits). -/
theorem parseMarks_error_final (tab : List MarkType) (d : MarkIn) (rest : List MarkIn) (e : Err)
    (h : parseMark tab d = .error e) : parseMarks tab (d :: rest) = .error e := by
  simp [parseMarks, h]

theorem malformed_refused (tab : List MarkType) (d : MarkIn)
    (h : d.type < 0 ∨ d.type ≥ 100 ∨ d.title = none ∨ d.chanType = none ∨
      (∃ ct, d.chanType = some ct ∧ ct ≠ "single" ∧ ct ≠ "stack")) :
    ∃ e, parseMark tab d = .error e := by
  refine (error_iff_not_ok _).mpr fun ⟨_, hr⟩ => ?_
  obtain ⟨h0, h1, title, stack, _, ht, hc, _⟩ := parseMark_ok_iff.mp hr
  rcases h with h | h | h | h | ⟨ct, hc', n1, n2⟩
  · omega
  · omega
  · rw [ht] at h; cases h
  · rw [hc] at h; cases h
  · rw [hc] at hc'
    cases hc'
    cases stack
    · exact n1 rfl
    · exact n2 rfl

/-- The specification (`Lemmas/MarkMerge.lean`: `WellFormed` of every member,
    `Agree` of every pair) spelled out. -/
theorem consistent_iff (defs : List MarkIn) :
    Consistent defs ↔
      (∀ d ∈ defs, 0 ≤ d.type ∧ d.type < 100 ∧ d.title.isSome = true ∧
          (d.chanType = some "single" ∨ d.chanType = some "stack") ∧
          (∀ p ∈ d.labels, ∀ q ∈ d.labels, p.1 = q.1 → p.2 = q.2)) ∧
      (∀ d ∈ defs, ∀ d' ∈ defs, d.type = d'.type →
          d.title = d'.title ∧ d.chanType = d'.chanType ∧
          (∀ p ∈ d.labels, ∀ q ∈ d'.labels, p.1 = q.1 → p.2 = q.2)) := Iff.rfl

theorem consistent_order_free {defs defs' : List MarkIn} (h : ∀ d, d ∈ defs' ↔ d ∈ defs) :
    Consistent defs' ↔ Consistent defs :=
  ⟨Consistent.of_subset fun d => (h d).mpr, Consistent.of_subset fun d => (h d).mp⟩

/-- **Accepted exactly when all definitions agree**: `mark_create` over the
    definitions of all threads (any number, any order) succeeds iff the
    collection is `Consistent`. -/
theorem merge_ok_iff (defs : List MarkIn) :
    (∃ tab, parseMarks [] defs = .ok tab) ↔ Consistent defs :=
  ⟨fun ⟨_, h⟩ => rep_consistent (merge_rep h), (parseMarks_spec rep_nil).2⟩

theorem merge_refused_iff (defs : List MarkIn) :
    (∃ e, parseMarks [] defs = .error e) ↔
      (∃ d ∈ defs, ¬ WellFormed d) ∨ (∃ d ∈ defs, ∃ d' ∈ defs, ¬ Agree d d') := by
  rw [error_iff_not_ok, merge_ok_iff, Consistent, Classical.not_and_iff_not_or_not]
  simp only [Classical.not_forall, exists_prop]

/-- **Content of the merged table**: exactly the types that occur in the
    definitions, one row each; every row carries the common title and channel
    type; its label set is exactly the union of the labels of the definitions
    of its type; no value is labelled twice. -/
theorem merge_content {defs : List MarkIn} {tab : List MarkType} (h : parseMarks [] defs = .ok tab) :
    (tab.map (·.type)).Nodup ∧
    (∀ ty, ty ∈ tab.map (·.type) ↔ ∃ d ∈ defs, d.type = ty) ∧
    (∀ t ∈ tab, ∀ d ∈ defs, d.type = t.type →
        d.title = some t.title ∧ d.chanType = some (if t.stack then "stack" else "single")) ∧
    (∀ t ∈ tab, ∀ v l, (v, l) ∈ t.labels ↔ ∃ d ∈ defs, d.type = t.type ∧ (v, l) ∈ d.labels) ∧
    (∀ t ∈ tab, (t.labels.map (·.1)).Nodup) := by
  have hR := merge_rep h
  exact ⟨hR.types_nodup, hR.mem_types, fun t ht d hd => hR.row_of ht hd,
    fun t ht v l => hR.labels t ht (v, l), hR.keys⟩

/-- … in particular a value has at most one label in the merged table. -/
theorem merge_labels_functional {defs : List MarkIn} {tab : List MarkType}
    (h : parseMarks [] defs = .ok tab) (t : MarkType) (ht : t ∈ tab) (v : Int) (l l' : String)
    (h1 : (v, l) ∈ t.labels) (h2 : (v, l') ∈ t.labels) : l = l' :=
  ((merge_rep h).keys t ht).agree_self (v, l) h1 (v, l') h2 rfl

/-- Two merged tables are the same up to the order of rows and the order of
    the labels inside a row. -/
theorem tabEquiv_iff (tab tab' : List MarkType) :
    TabEquiv tab tab' ↔
      (tab.map (·.type)).Perm (tab'.map (·.type)) ∧
      ∀ t ∈ tab, ∀ t' ∈ tab', t.type = t'.type →
        t.title = t'.title ∧ t.stack = t'.stack ∧ t.labels.Perm t'.labels := Iff.rfl

def SameOutcome (r r' : Except Err (List MarkType)) : Prop :=
  ((∃ tab', r' = .ok tab') ↔ (∃ tab, r = .ok tab)) ∧
  ∀ tab tab', r = .ok tab → r' = .ok tab' → TabEquiv tab tab'

/-- The merge only depends on *which* definitions occur (neither on their
    order nor on how often one is repeated). -/
theorem merge_mem_invariant {defs defs' : List MarkIn} (hm : ∀ d, d ∈ defs' ↔ d ∈ defs) :
    SameOutcome (parseMarks [] defs) (parseMarks [] defs') := by
  constructor
  · rw [merge_ok_iff, merge_ok_iff]
    exact consistent_order_free hm
  · exact fun tab tab' h h' => rep_equiv hm (merge_rep h) (merge_rep h')

/-- **Order independence**: any permutation of the definitions gives the same
    verdict and, when accepted, a table with the same types, titles, channel
    types and label sets. -/
theorem merge_perm_invariant {defs defs' : List MarkIn} (hp : defs'.Perm defs) :
    ((∃ tab', parseMarks [] defs' = .ok tab') ↔ (∃ tab, parseMarks [] defs = .ok tab)) ∧
    ∀ tab tab', parseMarks [] defs = .ok tab → parseMarks [] defs' = .ok tab' →
      (tab.map (·.type)).Perm (tab'.map (·.type)) ∧
      ∀ t ∈ tab, ∀ t' ∈ tab', t.type = t'.type →
        t.title = t'.title ∧ t.stack = t'.stack ∧ t.labels.Perm t'.labels :=
  merge_mem_invariant fun _ => hp.mem_iff

/-- `mark_create` over per-thread lists: the outcome depends only on the
    multiset of all definitions of all threads. -/
theorem mergeMarks_flatten_invariant {ths ths' : List (List MarkIn)}
    (hp : ths'.flatten.Perm ths.flatten) : SameOutcome (mergeMarks ths) (mergeMarks ths') :=
  merge_mem_invariant fun _ => hp.mem_iff

theorem mergeMarks_perm_threads {ths ths' : List (List MarkIn)} (hp : ths'.Perm ths) :
    SameOutcome (mergeMarks ths) (mergeMarks ths') :=
  mergeMarks_flatten_invariant hp.flatten

theorem mergeMarks_perm_inside (pre post : List (List MarkIn)) {th th' : List MarkIn}
    (hp : th'.Perm th) :
    SameOutcome (mergeMarks (pre ++ th :: post)) (mergeMarks (pre ++ th' :: post)) := by
  apply mergeMarks_flatten_invariant
  simp only [List.flatten_append, List.flatten_cons]
  exact (hp.append_right _).append_left _

/-- moving a definition from one thread to another, whichever of them comes first -/
theorem mergeMarks_move_def (pre mid post : List (List MarkIn)) (a₁ a₂ b₁ b₂ : List MarkIn) (d : MarkIn) :
    SameOutcome (mergeMarks (pre ++ (a₁ ++ d :: a₂) :: mid ++ (b₁ ++ b₂) :: post))
                (mergeMarks (pre ++ (a₁ ++ a₂) :: mid ++ (b₁ ++ d :: b₂) :: post)) ∧
    SameOutcome (mergeMarks (pre ++ (a₁ ++ a₂) :: mid ++ (b₁ ++ d :: b₂) :: post))
                (mergeMarks (pre ++ (a₁ ++ d :: a₂) :: mid ++ (b₁ ++ b₂) :: post)) := by
  -- in the concatenation `d` moves across `b₁`, `mid` and `a₂`
  have key : (pre ++ (a₁ ++ a₂) :: mid ++ (b₁ ++ d :: b₂) :: post).flatten.Perm
      (pre ++ (a₁ ++ d :: a₂) :: mid ++ (b₁ ++ b₂) :: post).flatten := by
    simp only [List.flatten_append, List.flatten_cons, List.append_assoc, List.cons_append]
    exact .append_left _ (.append_left _ ((((List.perm_middle.append_left _).trans
      List.perm_middle).append_left _).trans List.perm_middle))
  exact ⟨mergeMarks_flatten_invariant key, mergeMarks_flatten_invariant key.symm⟩

/-- The conversion from the runtime's `ovni.mark` object to what the emulator
    reads (`metaToDefs`, `Lemmas/MarkRt.lean`), spelled out. -/
theorem metaToDefs_eq (m : Meta) :
    metaToDefs m = m.map fun td =>
      { type := td.type, title := some td.title,
        chanType := some (if td.stack then "stack" else "single"), labels := td.labels } := rfl

/-- `Reachable m`: `m` is obtained from the empty object by successful
    `ovni_mark_type` / `ovni_mark_label` calls, in any number and order. -/
theorem reachable_iff_calls (m : Meta) :
    Reachable m ↔ m = [] ∨
      (∃ m₀ ty flags title, Reachable m₀ ∧ markType m₀ ty flags title = some m) ∨
      (∃ m₀ ty v l, Reachable m₀ ∧ markLabel m₀ ty v l = some m) := by
  constructor
  · intro h
    cases h with
    | init => exact Or.inl rfl
    | type ty flags title h0 hs => exact Or.inr (Or.inl ⟨_, ty, flags, title, h0, hs⟩)
    | label ty v l h0 hs => exact Or.inr (Or.inr ⟨_, ty, v, l, h0, hs⟩)
  · rintro (rfl | ⟨m₀, ty, flags, title, h0, hs⟩ | ⟨m₀, ty, v, l, h0, hs⟩)
    · exact Reachable.init
    · exact Reachable.type ty flags title h0 hs
    · exact Reachable.label ty v l h0 hs

/-- Whatever a thread builds with successful calls is consistent on its own … -/
theorem runtime_meta_consistent {m : Meta} (h : Reachable m) : Consistent (metaToDefs m) := by
  have hI := h.inv
  have := (consistent_metas_iff (ms := [m]) (by
    intro m' hm'; rw [List.mem_singleton.mp hm']; exact hI)).mpr (by
    intro m₁ h₁ m₂ h₂
    rw [List.mem_singleton.mp h₁, List.mem_singleton.mp h₂]
    exact hI.metaAgree_self)
  simpa using this

/-- … so **a single thread's metadata is always accepted by the emulator**. -/
theorem runtime_meta_parses {m : Meta} (h : Reachable m) :
    (∃ tab, parseMarks [] (metaToDefs m) = .ok tab) ∧ (∃ tab, mergeMarks [metaToDefs m] = .ok tab) := by
  have h1 := (merge_ok_iff _).mpr (runtime_meta_consistent h)
  refine ⟨h1, ?_⟩
  unfold mergeMarks
  simpa using h1

/-- **Several threads**: their metadata are accepted together iff every two of
    them agree (same title and channel type for a type both define, same label
    for a value both label). -/
theorem runtime_metas_merge_iff {ms : List Meta} (h : ∀ m ∈ ms, Reachable m) :
    (∃ tab, mergeMarks (ms.map metaToDefs) = .ok tab) ↔ ∀ m₁ ∈ ms, ∀ m₂ ∈ ms, MetaAgree m₁ m₂ := by
  unfold mergeMarks
  rw [merge_ok_iff]
  exact consistent_metas_iff fun m hm => (h m hm).inv

theorem metaAgree_iff (m₁ m₂ : Meta) :
    MetaAgree m₁ m₂ ↔ ∀ a ∈ m₁, ∀ b ∈ m₂, a.type = b.type →
      a.title = b.title ∧ a.stack = b.stack ∧
      (∀ p ∈ a.labels, ∀ q ∈ b.labels, p.1 = q.1 → p.2 = q.2) := Iff.rfl

theorem runtime_two_threads_iff {m₁ m₂ : Meta} (h₁ : Reachable m₁) (h₂ : Reachable m₂) :
    (∃ tab, mergeMarks [metaToDefs m₁, metaToDefs m₂] = .ok tab) ↔ MetaAgree m₁ m₂ := by
  have hsymm : MetaAgree m₁ m₂ → MetaAgree m₂ m₁ := fun hA x hx y hy hty =>
    let ⟨e1, e2, e3⟩ := hA y hy x hx hty.symm
    ⟨e1.symm, e2.symm, e3.symm⟩
  rw [show [metaToDefs m₁, metaToDefs m₂] = [m₁, m₂].map metaToDefs from rfl,
    runtime_metas_merge_iff (by simp [h₁, h₂])]
  simp only [List.forall_mem_cons, List.not_mem_nil, false_imp_iff, implies_true, and_true,
    h₁.inv.metaAgree_self, h₂.inv.metaAgree_self, true_and]
  exact ⟨fun h => h.1, fun h => ⟨h, hsymm h⟩⟩

/-- `mark_event` guards: wrong payload size, undefined type and value 0 are refused. -/
theorem mark_event_guards (tab : List MarkType) (e : Emu) (ti v : Nat) (payload : List Nat) :
    (payload.length ≠ 12 → ∃ er, markEvent tab e ti v payload = .error er) ∧
    (payload.length = 12 → tab.findIdx? (·.type == i32At payload 2) = none →
        ∃ er, markEvent tab e ti v payload = .error er) ∧
    (payload.length = 12 → i64At payload 0 = 0 → ∃ er, markEvent tab e ti v payload = .error er) := by
  -- the contrapositive of `markEvent_cases`
  refine ⟨fun h => ?_, fun _ hn => ?_, fun _ hz => ?_⟩ <;> refine (error_iff_not_ok _).mpr fun ⟨_, hok⟩ => ?_
  · exact h (markEvent_cases hok).1
  · obtain ⟨_, _, _, hw, _⟩ := markEvent_cases hok
    rw [hn] at hw; cases hw
  · exact (markEvent_cases hok).2.1 hz

/-- push on a `single` type and set on a `stack` type are refused by the channel. -/
theorem wrong_op_refused (c : Chan) (v : Value) (maxStack : Nat) :
    (c.isStack = false → c.push maxStack v = .error .chanType ∧ c.pop v = .error .chanType) ∧
    (c.isStack = true → c.set v = .error .chanType) := by
  constructor
  · intro h; simp [Chan.push, Chan.pop, h]
  · intro h; simp [Chan.set, h]

/-- A pop whose value is not the innermost pushed one is refused (C08's
    channel theorem instantiated on a mark channel). -/
theorem mismatched_pop_refused (c : Chan) (stk : List Int) (h : C08.Rep c stk) (v : Int)
    (hne : stk.getLast? ≠ some v) : ∃ e, c.pop (.int v) = .error e := C08.pop_err h v hne

/-- Every mark type is a channel of the run-time group with Paraver type
    `100 + type`, tracked ACTIVE on the thread row and RUNNING on the CPU row. -/
theorem mark_channel_spec (tab : List MarkType) (i : Nat) (t : MarkType) (h : tab[i]? = some t) :
    (markSpec tab).pvtType.getD i 0 = prvOvniMark + t.type.toNat ∧
    (markSpec tab).thTrack.getD i 0 = trackAct ∧ (markSpec tab).cpuTrack.getD i 0 = trackRun ∧
    (markSpec tab).chanStack.getD i false = t.stack ∧ (markSpec tab).prvFlags.getD i 0 = prvSkipDupNull := by
  simp [markSpec, List.getD_eq_getElem?_getD, List.getElem?_map, h]

/-- **Thread row**: the mark value (top of the channel) exactly while the
    thread is active (running, cooling or warming), nothing otherwise. -/
theorem mark_thread_view (tab : List MarkType) (t : Thread) (i : Nat) (hi : i < tab.length)
    (cs : List Chan) (hc : t.getChans markGroup = some cs) :
    thView t (markSpec tab) i = if t.state.isActive then (cs.getD i {}).cur else .null := by
  unfold thView
  have : (markSpec tab).char = markGroup := rfl
  rw [this, hc]
  rw [(mark_channel_spec tab i tab[i] (List.getElem?_eq_getElem hi)).2.1]
  unfold trackHolds
  cases t.state <;> simp [ThState.isActive, ThState.isRunning, trackAct, trackAny, trackRun]

/-- **CPU row**: the mark value of the thread that the CPU's `th_running` channel names
    (`cpuSelected`), nothing when it names none. -/
theorem mark_cpu_view (tab : List MarkType) (e : Emu) (c : Cpu) (i : Nat) :
    cpuView e c (markSpec tab) i =
      match cpuSelected e c with
      | none => .null
      | some t => match t.getChans markGroup with
        | none => .null
        | some cs => (cs.getD i {}).cur := by
  unfold cpuView
  cases cpuSelected e c with
  | none => simp [markSpec]
  | some t => rfl

theorem markExtra_consistent (tab : List MarkType) : ∀ s ∈ markExtra tab, s.pvtType.length = s.nch := by
  intro s hs
  unfold markExtra at hs
  split at hs
  · cases hs
  · simp only [List.mem_cons, List.mem_nil_iff, or_false] at hs
    subst hs; simp [markSpec]

-- non-vacuity: the hypotheses above are inhabited by non-trivial data and both verdicts occur

def dA : MarkIn := { type := 3, title := some "Phase", chanType := some "stack", labels := [(1, "init"), (2, "solve")] }
def dB : MarkIn := { type := 3, title := some "Phase", chanType := some "stack", labels := [(2, "solve"), (5, "io")] }
def dC : MarkIn := { type := 7, title := some "Iter", chanType := some "single", labels := [] }
/-- conflicts with `dA` on the label of value 2 -/
def dX : MarkIn := { dB with labels := [(2, "other")] }

/-- definitions of different threads that agree merge, in either order, to the same label set -/
example : (mergeMarks [[dA, dC], [dB]]).toOption.map (fun tab => tab.map (fun t => (t.type, t.title, t.stack, t.labels.length))) =
    some [(3, "Phase", true, 3), (7, "Iter", false, 0)] := by decide
example : (mergeMarks [[dB], [dC, dA]]).toOption.map (fun tab => tab.map (fun t => (t.type, t.title, t.stack, t.labels.length))) =
    some [(3, "Phase", true, 3), (7, "Iter", false, 0)] := by decide
/-- a conflicting label is refused in both orders -/
example : (mergeMarks [[dA], [dX]]).toOption = none := by decide
example : (mergeMarks [[dX], [dA]]).toOption = none := by decide

/-- `Consistent` is decidable and holds of a non-trivial collection (two
    definitions of one type with overlapping labels, one of another type) … -/
example : Consistent [dA, dC, dB] := by decide
/-- … and fails for a label conflict, a title conflict and a malformed definition -/
example : ¬ Consistent [dA, dX] := by decide
example : ¬ Consistent [dA, { dA with title := some "Other" }] := by decide
example : ¬ Consistent [{ dC with type := 100 }] := by decide
/-- `merge_ok_iff` / `merge_content` / `merge_perm_invariant` apply to it -/
example : ∃ tab, parseMarks [] [dA, dC, dB] = .ok tab := (merge_ok_iff _).mpr (by decide)
example : [dB, dA, dC].Perm [dA, dC, dB] :=
  (List.Perm.swap dA dB [dC]).trans (List.Perm.cons dA (List.Perm.swap dC dB []))

/-- runtime metadata built by successful calls (two types, labels on one) -/
def mA : Meta :=
  [{ type := 3, title := "Phase", stack := true, labels := [(1, "init"), (2, "solve")] },
   { type := 7, title := "Iter", stack := false }]
def mB : Meta := [{ type := 3, title := "Phase", stack := true, labels := [(2, "solve"), (5, "io")] }]
def mX : Meta := [{ type := 3, title := "Phase", stack := true, labels := [(2, "other")] }]

example : Reachable mA :=
  .label (m := [{ type := 3, title := "Phase", stack := true, labels := [(1, "init")] }, { type := 7, title := "Iter", stack := false }]) 3 2 "solve"
    (.label (m := [{ type := 3, title := "Phase", stack := true }, { type := 7, title := "Iter", stack := false }]) 3 1 "init"
      (.type (m := [{ type := 3, title := "Phase", stack := true }]) 7 0 "Iter"
        (.type (m := []) 3 1 "Phase" .init (by decide)) (by decide)) (by decide)) (by decide)
example : Reachable mB :=
  .label (m := [{ type := 3, title := "Phase", stack := true, labels := [(2, "solve")] }]) 3 5 "io"
    (.label (m := [{ type := 3, title := "Phase", stack := true }]) 3 2 "solve"
      (.type (m := []) 3 1 "Phase" .init (by decide)) (by decide)) (by decide)
example : metaToDefs mA = [dA, dC] := rfl
example : MetaAgree mA mB := by decide
example : ¬ MetaAgree mA mX := by decide

end Ovni.Props.C17
