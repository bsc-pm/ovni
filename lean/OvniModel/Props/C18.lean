import OvniModel.Lemmas.C18.All

/-!
# C18 — event catalogue consistency: declared, decodable and handled events coincide

* The tools' side: `Emu/EvSpec.lean` (`ev_spec_compile`, `ev_spec_print`,
  `model_evspec_init`) applied to the generated `Generated.<M>.evlist`;
  `declared M m c v` = some declaration of model `M` has MCV `(m, c, v)`.
* The emulator's side: `Emu/Dispatch.lean` (`process_ev` of the eight
  `event.c`) over the generated `Generated.<M>.table`; `handled M m c v` = the
  handler does not fail with an unknown-event error.
* The table-dependent part of every theorem is the Boolean `modelOk M`
  (`Lemmas/C18/Check.lean`), established per model in `Lemmas/C18/<Model>.lean`
  by one kernel evaluation (of `fastOk M`, `Lemmas/C18/Fast.lean`: the same
  checks with the sets held as bit masks); an edit of an `evlist` or a table in
  `/repo` regenerates `Generated/*` and re-opens exactly that obligation.

All codes are triples of natural numbers: every byte triple and beyond, not
only the printable range.
-/
namespace Ovni.Props.C18
open Ovni.Emu.EvSpec Ovni.Emu.Dispatch

/-- For every model and every code, the handler recognises the code iff the tools list it,
    except for the enumerated exceptions (value byte ignored in `OB*`/`OU*`; legacy `6TC`). -/
theorem catalogue_eq (M : ModelId) (m c v : Nat) :
    handled M m c v = true ↔ (declared M m c v = true ∨ isException M m c v = true) := by
  obtain ⟨_, hcat, _⟩ := modelOk_unfold M
  unfold catalogueOk at hcat
  simp only [Bool.and_eq_true, List.all_eq_true, Bool.or_eq_true, beq_iff_eq,
    List.contains_eq_mem, decide_eq_true_eq] at hcat
  obtain ⟨⟨⟨hwild, hfk⟩, hdecl⟩, hleg⟩ := hcat
  unfold handled declared isException
  simp only [Bool.and_eq_true, beq_iff_eq, Bool.or_eq_true, List.contains_eq_mem,
    decide_eq_true_eq]
  rw [accepts_iff, hwild]
  constructor
  · rintro ⟨hm, hc | hk⟩
    · exact Or.inr ⟨hm, Or.inl hc⟩
    · rcases hfk (c, v) hk with h | h
      · left; rw [hm]; exact h
      · exact Or.inr ⟨hm, Or.inr h⟩
  · rintro (h | ⟨hm, hc | hl⟩)
    · have := hdecl (m, c, v) h
      exact this
    · exact ⟨hm, Or.inl hc⟩
    · exact ⟨hm, Or.inr (hleg (c, v) hl)⟩

theorem declared_handled (M : ModelId) (m c v : Nat) (h : declared M m c v = true) :
    handled M m c v = true :=
  (catalogue_eq M m c v).2 (Or.inl h)

theorem undeclared_rejected (M : ModelId) (m c v : Nat) (hd : declared M m c v = false)
    (he : isException M m c v = false) : handled M m c v = false := by
  cases hh : handled M m c v with
  | false => rfl
  | true =>
    rcases (catalogue_eq M m c v).1 hh with h | h
    · rw [hd] at h; cases h
    · rw [he] at h; cases h

theorem handled_own_model (M : ModelId) (m c v : Nat) (h : handled M m c v = true) :
    m = M.char := by
  unfold handled at h
  simp only [Bool.and_eq_true, beq_iff_eq] at h
  exact h.1

/-- The exceptions, spelled out: base-model bursts `OB*` and unordered-region
    markers `OU*` with any value byte, and the old Nanos6 event `6TC`. -/
theorem exceptions_enumerated (M : ModelId) (m c v : Nat) :
    isException M m c v = true ↔
      (M = .ovni ∧ m = 79 ∧ (c = 66 ∨ c = 85)) ∨ (M = .nanos6 ∧ m = 54 ∧ c = 84 ∧ v = 67) := by
  cases M <;>
    simp [isException, wildCats, legacy, ModelId.char, Ovni.Generated.Ovni.modelChar,
      Ovni.Generated.Nanos6.modelChar]

/-- The context of the dispatch theorems is reachable: a running thread on
    its CPU passes the guard of every handler, where the verdict is `handled`. -/
theorem permissive_guard (M : ModelId) (m c v : Nat) :
    handledIn permissive M m c v = handled M m c v := by
  simp [handledIn, stateGuard, stateGuardOf, permissive]

/-- `model_evspec_init` succeeds on the generated event list of every model: every signature
    parses, its model character is the model's, no MCV is declared twice, and the arguments are laid
    out in declaration order without gaps (after the size word of a jumbo event). -/
theorem signature_wellformed (M : ModelId) :
    ∃ ds, evspecInit M.char M.evlist = .ok ds ∧ decls M = ds ∧
      (∀ p ∈ M.evlist, ∃ s, compile p.1 = .ok s ∧ s.m = M.char ∧ (s, p.2) ∈ ds) ∧
      (ds.map (·.1.mcv)).Nodup ∧
      (∀ d ∈ ds, layoutOk d.1 = true) := by
  obtain ⟨hinit, _⟩ := modelOk_unfold M
  obtain ⟨_, hss, hch, hn⟩ := evspecInit_ok_iff.mp hinit
  refine ⟨_, hinit, rfl, fun p hp => ?_, hn, fun d hd => ?_⟩
  · obtain ⟨s, hs, hmem⟩ := compileAll_mem hss p hp
    exact ⟨s, hs, hch _ hmem, hmem⟩
  · exact compileAll_layoutOk hss d hd

/-- For every declared event of every model and every payload of the declared shape,
    `ev_spec_print` into `ovnidump`'s 1024-byte buffer succeeds, and what it writes is exactly the
    description with each `%{name}` / `%fmt{name}` region replaced by the rendering of the payload
    field `name` (and nothing else changed). -/
theorem print_total (M : ModelId) (d : Decl) (hd : d ∈ decls M) (p : Str) (hp : Shape d.1 p) :
    ∃ out, print d.1 d.2 p OUTLEN = .ok out ∧ substitute d.1 d.2 p = some out := by
  obtain ⟨_, _, hdecls⟩ := modelOk_unfold M
  unfold declsOk at hdecls
  rw [List.all_eq_true] at hdecls
  have := hdecls d hd
  simp only [Bool.and_eq_true] at this
  exact print_of_printable d.1 d.2 p OUTLEN this.2 hp

/-- A listed event has a description `ovnidump` can find. -/
theorem declared_has_decl (M : ModelId) (m c v : Nat) (h : declared M m c v = true) :
    ∃ d ∈ decls M, d.1.mcv = (m, c, v) := by
  unfold declared declaredMcv at h
  simp only [List.contains_eq_mem, decide_eq_true_eq] at h
  obtain ⟨d, hd, he⟩ := List.mem_map.mp h
  exact ⟨d, hd, he⟩

/-- a declared and handled table event (`VAa`), an undeclared one (`VAz`) -/
example : declared .nosv 86 65 97 = true ∧ handled .nosv 86 65 97 = true ∧
    declared .nosv 86 65 122 = false ∧ handled .nosv 86 65 122 = false := by
  -- `declared` read off the first bytes of the signatures: evaluating `decls` compiles the whole list
  simp only [declared, declaredMcv_eq]
  decide +kernel

/-- the exceptions are real: accepted but not declared -/
example : handled .ovni 79 66 33 = true ∧ declared .ovni 79 66 33 = false ∧
    handled .ovni 79 85 0 = true ∧ declared .ovni 79 85 0 = false ∧
    handled .nanos6 54 84 67 = true ∧ declared .nanos6 54 84 67 = false := by
  simp only [declared, declaredMcv_eq]
  decide +kernel

/-- codes outside the printable range and outside a byte are covered -/
example : handled .mpi 77 300 7 = false ∧ declared .mpi 77 300 7 = false ∧
    handled .kernel 75 67 0 = false := by
  simp only [declared, declaredMcv_eq]
  decide +kernel

/-- the layout `ev_spec_compile` gives `OHx(i32 cpu, i32 tid, u64 tag)`, written out by hand (the examples
    below are about `Shape` and `print` on it, not about `compile` or `decls .ovni`) -/
private def exOHx : Spec :=
  { m := 79, c := 72, v := 120, jumbo := false, payloadSize := 16,
    args := [⟨.i32, ofString "cpu", 4, 0⟩, ⟨.i32, ofString "tid", 4, 4⟩,
             ⟨.u64, ofString "tag", 8, 8⟩] }

/-- likewise for the jumbo `VYc+(u32 typeid, str label)` -/
private def exVYc : Spec :=
  { m := 86, c := 89, v := 99, jumbo := true, payloadSize := 8,
    args := [⟨.u32, ofString "typeid", 4, 4⟩, ⟨.str, ofString "label", 0, 8⟩] }

/-- `Shape` is satisfiable and `print` substitutes: cpu = 3, tid = -1, tag = 0xabc. -/
example :
    Shape exOHx [3, 0, 0, 0, 255, 255, 255, 255, 188, 10, 0, 0, 0, 0, 0, 0] ∧
    (print exOHx (ofString "begins the execution on CPU %{cpu} created from %{tid} with tag %#llx{tag}")
      [3, 0, 0, 0, 255, 255, 255, 255, 188, 10, 0, 0, 0, 0, 0, 0] 1024).toOption
      = some (ofString "begins the execution on CPU 3 created from -1 with tag 0xabc") := by
  refine ⟨?_, ?_⟩
  · simp [Shape, Spec.hasStr, exOHx]
  · decide +kernel

/-- a jumbo event with a string (size word 7, typeid 9, label "ab") -/
example :
    Shape exVYc [7, 0, 0, 0, 9, 0, 0, 0, 97, 98, 0] ∧
    (print exVYc (ofString "creates task type %{typeid} with label \"%{label}\"")
      [7, 0, 0, 0, 9, 0, 0, 0, 97, 98, 0] 1024).toOption
      = some (ofString "creates task type 9 with label \"ab\"") := by
  refine ⟨?_, ?_⟩
  · refine ⟨[97, 98], ?_⟩
    simp [exVYc, MAX_LABEL]
  · decide +kernel

end Ovni.Props.C18
