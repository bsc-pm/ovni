import OvniModel.Lemmas.StreamTotal
import OvniModel.Lemmas.ListLemmas

/-!
# C19 — tools are total: any bytes give a clean exit (stream front end)

Model: `Emu/Stream.lean`.  The byte string `buf` is **arbitrary** (no
well-formedness assumption anywhere in this file), the memory outside it is
the arbitrary parameter `g`.  `ovniemu`, `ovnidump`, `ovnitop` and `ovnisort`
all consume a stream with the same loop: `load_obs`, then `stream_step` until
it stops returning 0 (`run`); `runReads` are the memory accesses of that loop.
The un-prefixed `streamStep`, `run`, … are `stream_step` as it was before ovni's
repair db50cd1; `Fixed.*` is the code as repaired (DESIGN §0.3).

`cursor_progress` / `terminates` and `reads_in_bounds` are **false before
db50cd1**: the negations are proved with concrete witnesses; the `_partial`
theorems hold for that code under the decidable hypothesis `guardedB` = "at
every call the header of the next event lies inside the stream (12 bytes, 16 for
a jumbo) and a jumbo size is at most 2^31−17"; `Fixed.*` are the full statements.

Not covered by theorems (sanitizer runs only): the handlers behind the front
end, `die()`/`abort()` policy.  The JSON parser: `Props/Json.lean`.
-/
namespace Ovni.Props.C19
open Ovni.Emu.Stream

/-- header + one jumbo event whose size field is 0xfffffff0: `ovni_ev_size` = 12 + (int)(4 + 0xfffffff0) = 0. -/
def hangBuf : List Nat :=
  header ++ [0x13, 79, 85, 91] ++ Ovni.Rt.le 8 15 ++ [0xf0, 0xff, 0xff, 0xff]

/-- The cursor after the first call on `hangBuf`. -/
def hangCur : Cur := { offset := 8, hasEv := true, active := true, lastclock := 15, unsorted := false }

/-- `stream_step` succeeds without moving: the call returns 0 and the cursor is
    exactly what it was (same offset, same event). -/
theorem no_progress (g : Garbage) : ∃ rd, streamStep g hangBuf hangCur = (.ok, hangCur, rd) := by
  -- the 16 bytes of the event's header lie in `hangBuf`, so `g` plays no part: size 0, clock 15
  obtain ⟨hs, _, hc, _⟩ := hdr_indep g (fun _ => 0) hangBuf 8 (by decide) (by decide) (fun _ => by decide)
  have hs0 : evSizeC g hangBuf 8 = 0 := hs.trans (by decide)
  have hc15 : clockAt g hangBuf 8 = 15 := hc.trans (by decide)
  have hn : nextOff g hangBuf hangCur = 8 := by
    simp only [nextOff, hangCur, hs0, if_true]; rfl
  rw [streamStep_eq, stepWith_load _ g hangBuf hangCur rfl (fun _ => by rw [hn]; decide), hn]
  unfold loadEv
  simp only [hs0, hc15]
  rw [if_neg (by decide), if_neg (by decide)]
  exact ⟨_, rfl⟩

/-- **`cursor_progress` is false** before db50cd1, here in the form "the offset advances by 12", over all
    cursors: a successful step that does not advance.  (`Fixed.cursor_progress` is about `nextOff` and
    assumes `Inv`; that `hangCur` is no stray cursor is the `example` after `never_terminates`.) -/
theorem not_cursor_progress :
    ¬ (∀ (g : Garbage) (buf : List Nat) (c c' : Cur) (rd : List Read),
        c.hasEv = true → streamStep g buf c = (.ok, c', rd) → c.offset + 12 ≤ c'.offset) := by
  intro h
  obtain ⟨rd, hs⟩ := no_progress (fun _ => 0)
  have := h _ _ _ _ rd rfl hs
  simp [hangCur] at this

/-- **Termination is false**: on `hangBuf`, from the cursor `hangCur` that the first
    call leaves (the `example` below), the loop is still running after any number
    of calls, whatever the memory around the buffer contains — `ovnidump`,
    `ovnitop`, `ovnisort` and `ovniemu` before db50cd1 never return. -/
theorem never_terminates (g : Garbage) : ∀ fuel, run g hangBuf fuel hangCur = .running := by
  obtain ⟨rd, hs⟩ := no_progress g
  intro fuel
  induction fuel with
  | zero => rfl
  | succ n ih => unfold run at ih ⊢; rw [runWith_ok _ n _ _ rd hs]; exact ih

/-- ... and `hangBuf` is what `load_obs` accepts, one call before `hangCur` (checked with
    zeros outside the buffer; that call reads bytes 8..23, all inside it). -/
example : loadObs hangBuf false = .ok (cur0 false) ∧
    (streamStep (fun _ => 0) hangBuf (cur0 false)).1 = .ok ∧
    (streamStep (fun _ => 0) hangBuf (cur0 false)).2.1 = hangCur := by decide

/-- header + the 12-byte header of a jumbo event and nothing else. -/
def tornBuf : List Nat := header ++ [0x13, 79, 85, 91] ++ Ovni.Rt.le 8 15

/-- **`reads_in_bounds` is false (1)**: the first call on `tornBuf` (20 bytes)
    reads the 4-byte jumbo size at offset 20, before any bounds check. -/
theorem reads_out_of_bounds_header (g : Garbage) :
    ∃ r ∈ (streamStep g tornBuf (cur0 false)).2.2, ¬ r.inBounds tornBuf.length := by
  have hf : isJumboF (flagsAt g tornBuf 8) = true := by
    have : flagsAt g tornBuf 8 = flagsAt (fun _ => 0) tornBuf 8 :=
      byteAt_inb g _ tornBuf 8 (by decide) (by decide)
    rw [this]; decide
  refine ⟨(20, 4), ?_, by decide⟩
  rw [streamStep_eq, stepWith_load _ g tornBuf (cur0 false) rfl nofun, loadEv_reads_eq]
  refine List.mem_append_left _ (List.mem_append_right _ ?_)
  show (20, 4) ∈ evSizeReads g tornBuf 8
  unfold evSizeReads
  rw [if_pos hf]
  simp

/-- header + a jumbo event with size field 0x7ffffffc: `ovni_ev_size` = 12 + INT_MIN = −2147483636. -/
def negBuf : List Nat :=
  header ++ [0x13, 79, 85, 91] ++ Ovni.Rt.le 8 15 ++ [0xfc, 0xff, 0xff, 0x7f]

/-- **`reads_in_bounds` is false (2)**: a negative event size passes the
    "fits" test and moves the cursor 2 GiB *before* the buffer; the second
    call reads the header there. -/
theorem reads_out_of_bounds_negative :
    ∃ r ∈ runReads (fun _ => 0) negBuf 2 (cur0 false), r.1 < 0 := by
  refine ⟨(-2147483628, 1), by decide, by decide⟩

/-- Both defects happen on inputs `load_obs` accepts. -/
example : loadObs tornBuf false = .ok (cur0 false) ∧ loadObs negBuf false = .ok (cur0 false) := by decide

/-- **`reads_in_bounds` is false** as a universally quantified statement. -/
theorem not_reads_in_bounds :
    ¬ (∀ (g : Garbage) (buf : List Nat) (c : Cur) (fuel : Nat), loadObs buf false = .ok c →
        ∀ r ∈ runReads g buf fuel c, r.inBounds buf.length) := by
  intro h
  obtain ⟨r, hr, hneg⟩ := reads_out_of_bounds_negative
  have := h (fun _ => 0) negBuf (cur0 false) 2 (by decide) r hr
  exact absurd this.1 (by omega)

/-- Before db50cd1, one call from a cursor satisfying `Inv`: if the header of the
    event about to be loaded lies inside the stream (and a jumbo size is
    ≤ 2^31−17), every access of the call is inside the stream.  The code did not
    check that hypothesis. -/
theorem reads_in_bounds_partial (g : Garbage) (buf : List Nat) (c : Cur) (hi : Inv g buf c)
    (hg : StepGuard g buf c) : ∀ r ∈ (streamStep g buf c).2.2, r.inBounds buf.length := by
  rw [step_eq_fixed g buf c hg]; exact Fixed.step_reads_inBounds g buf c hi

/-- Before db50cd1, one call, same hypotheses: `Fixed.cursor_progress`. -/
theorem cursor_progress_partial (g : Garbage) (buf : List Nat) (c c' : Cur) (rd : List Read)
    (hi : Inv g buf c) (hg : StepGuard g buf c) (h : streamStep g buf c = (.ok, c', rd)) :
    Inv g buf c' ∧ c'.offset = nextOff g buf c ∧
    nextOff g buf c + 12 ≤ nextOff g buf c' ∧ nextOff g buf c' ≤ (buf.length : Int) := by
  rw [step_eq_fixed g buf c hg] at h
  exact Fixed.step_ok g buf c c' rd hi h

/-- Before db50cd1, whole loop: on inputs for which the repair's guards would
    never fire (`guardedB`, a decidable property of the bytes), the loop
    behaves exactly as the repaired one: all accesses inside the stream, at
    most `(size − 8) / 12` events, finished within `size / 12 + 1` calls. -/
theorem total_partial (g : Garbage) (buf : List Nat) (u : Bool) (c : Cur) (fuel : Nat)
    (hl : loadObs buf u = .ok c) (hg : guardedB g buf fuel c = true) :
    (∀ r ∈ runReads g buf fuel c, r.inBounds buf.length) ∧
    12 * runSteps g buf fuel c + 8 ≤ buf.length ∧
    (buf.length / 12 + 1 ≤ fuel → run g buf fuel c ≠ .running) := by
  obtain ⟨hi, hn⟩ := loadObs_inv g buf u c hl
  obtain ⟨e1, e2, e3⟩ := run_eq_fixed g buf fuel c hg
  obtain ⟨hr, hs, ht⟩ := Ovni.Emu.Stream.Fixed.run_total g buf fuel c hi
  rw [hn] at hs ht
  rw [e1, e2, e3]
  exact ⟨hr, by omega, fun hf => ht (by omega)⟩

/-- The hypothesis is satisfiable by non-trivial input (a jumbo and a normal event)… -/
example : guardedB (fun _ => 0)
    (header ++ [0x13, 86, 89, 99] ++ Ovni.Rt.le 8 5 ++ [2, 0, 0, 0, 7, 7] ++ [0x01, 79, 72, 101] ++ Ovni.Rt.le 8 6 ++ [1, 2])
    10 (cur0 false) = true := by decide +kernel

/-- …and it is exactly what the three counterexamples violate. -/
example : guardedB (fun _ => 0) hangBuf 3 (cur0 false) = false ∧
    guardedB (fun _ => 0) tornBuf 3 (cur0 false) = false ∧
    guardedB (fun _ => 0) negBuf 3 (cur0 false) = false := by decide

/-- `cursor_progress`: from a cursor satisfying `Inv`, every successful call keeps
    `Inv` (so `0 ≤ offset ≤ size`), and the end of the loaded event (`nextOff`)
    advances by at least 12 bytes and stays ≤ size. -/
theorem Fixed.cursor_progress (g : Garbage) (buf : List Nat) (c c' : Cur) (rd : List Read)
    (hi : Inv g buf c) (h : Fixed.streamStep g buf c = (.ok, c', rd)) :
    Inv g buf c' ∧ c'.offset = nextOff g buf c ∧
    nextOff g buf c + 12 ≤ nextOff g buf c' ∧ nextOff g buf c' ≤ (buf.length : Int) :=
  Ovni.Emu.Stream.Fixed.step_ok g buf c c' rd hi h

/-- `reads_in_bounds`: for **every** byte string, every garbage and every
    number of calls, every access of the loop lies inside `[0, size)`. -/
theorem Fixed.reads_in_bounds (g : Garbage) (buf : List Nat) (u : Bool) (c : Cur) (fuel : Nat)
    (hl : loadObs buf u = .ok c) : ∀ r ∈ Fixed.runReads g buf fuel c, r.inBounds buf.length :=
  (Ovni.Emu.Stream.Fixed.run_total g buf fuel c (loadObs_inv g buf u c hl).1).1

/-- Termination: for every byte string the loop ends (end of stream or error)
    within `size / 12 + 1` calls, having delivered at most `(size − 8) / 12` events. -/
theorem Fixed.terminates (g : Garbage) (buf : List Nat) (u : Bool) (c : Cur) (hl : loadObs buf u = .ok c) :
    Fixed.run g buf (buf.length / 12 + 1) c ≠ .running ∧
    ∀ fuel, 12 * Fixed.runSteps g buf fuel c + 8 ≤ buf.length := by
  obtain ⟨hi, hn⟩ := loadObs_inv g buf u c hl
  have ht := fun fuel => Ovni.Emu.Stream.Fixed.run_total g buf fuel c hi
  rw [hn] at ht
  exact ⟨(ht _).2.2 (by omega), fun fuel => by have := (ht fuel).2.1; omega⟩

/-- The verdict and the accesses of the repaired loop are a function of the
    file's bytes alone: whatever lies outside the stream is never consulted.
    (Before db50cd1 this was false: `truncation_not_rejected` in C12.) -/
theorem Fixed.garbage_independent (g g' : Garbage) (buf : List Nat) (u : Bool) (c : Cur) (fuel : Nat)
    (hl : loadObs buf u = .ok c) :
    Fixed.run g buf fuel c = Fixed.run g' buf fuel c ∧
    Fixed.runReads g buf fuel c = Fixed.runReads g' buf fuel c :=
  Ovni.Emu.Stream.Fixed.run_indep g g' buf fuel c (loadObs_inv g buf u c hl).1

/-- The three inputs that break the cursor of before db50cd1 are refused cleanly by the repaired one. -/
example : Fixed.run (fun _ => 0) hangBuf 3 (cur0 false) = .err .jumbosize ∧
    Fixed.run (fun _ => 0) tornBuf 3 (cur0 false) = .err .incomplete ∧
    Fixed.run (fun _ => 0) negBuf 3 (cur0 false) = .err .jumbosize := by decide

/-- `ovnidump` before 23400de (DESIGN §6-E): `print_arg` dereferences `ev->payload` for every `%{arg}` of
    the declared signature without comparing the stored payload size: an
    `OHx(i32 cpu, i32 tid, u64 tag)` stored without payload reads through NULL. -/
theorem print_null_payload :
    printReads [(0, 4), (4, 4), (8, 8)] { payloadSize := 0, hasPayload := false, isJumbo := false } = none := by
  decide

/-- The printer as repaired by 23400de: every access lies inside the stored payload. -/
theorem Fixed.print_reads_guarded (args : List (Nat × Nat)) (ev : EmuEv) :
    ∀ rs, Ovni.Emu.Stream.Fixed.printReads args ev = some rs → ∀ r ∈ rs, r.1 + r.2 ≤ ev.payloadSize := by
  intro rs h r hr
  unfold Ovni.Emu.Stream.Fixed.printReads at h
  split at h <;> cases h
  · cases hr
  · rename_i hsz
    have := le_foldl_max (args.map fun a => a.1 + a.2) 0 (List.mem_map_of_mem hr)
    unfold declaredSize at hsz
    omega

end Ovni.Props.C19
