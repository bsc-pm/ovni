import OvniModel.Lemmas.Sort
import OvniModel.Lemmas.SortState
import OvniModel.Lemmas.Breakdown
import OvniModel.Lemmas.BreakdownSys
import OvniModel.Lemmas.CoreBayOrder
import OvniModel.Lemmas.TaskCouple
import OvniModel.Lemmas.DirtyOrder

/-!
# C20 — breakdown view: the rows hold the sorted per-CPU breakdown values

Models: `OvniModel/Emu/Sort.lean` (`src/emu/sort.c`)
and `OvniModel/Emu/Breakdown.lean` (`src/emu/{nosv,nanos6}/breakdown.c` over
`mux.c`/`bay.c`/`chan.c`).  Arrays are `List Int`, unbounded in length and in
values.  `qsort` is a parameter `qs` about which only `IsSort qs` (returns a
sorted permutation) is assumed.
-/
namespace Ovni.Props.C20
open Ovni.Emu.Sort Ovni.Emu.Breakdown

/-- `sort_replace` refines "erase one `old`, insert `new` in order", both branches and the `n/2`
    shortcut included.  The three hypotheses are the documented preconditions. -/
theorem sort_replace_spec (arr : List Int) (old new : Int)
    (hs : Sorted arr) (hm : old ∈ arr) (hne : old ≠ new) :
    sortReplace arr old new = some (insertSorted new (arr.erase old)) :=
  sortReplace_eq arr old new hs hm hne

theorem sort_replace_sorted_multiset (arr : List Int) (old new : Int)
    (hs : Sorted arr) (hm : old ∈ arr) (hne : old ≠ new) :
    ∃ r, sortReplace arr old new = some r ∧ Sorted r ∧ r.length = arr.length ∧
      (old :: r).Perm (new :: arr) := by
  refine ⟨_, sort_replace_spec arr old new hs hm hne, ?_, ?_, ?_⟩
  · exact insertSorted_sorted _ _ (hs.erase _)
  · have h1 := (insertSorted_perm new (arr.erase old)).length_eq
    have h2 := (List.perm_cons_erase hm).length_eq
    simp only [List.length_cons] at h1 h2
    omega
  · exact ((List.Perm.cons old (insertSorted_perm new (arr.erase old))).trans
      (List.Perm.swap new old _)).trans (List.Perm.cons new (List.perm_cons_erase hm).symm)

/-- `old == new` is the `die("old == new")` path. -/
theorem sort_replace_dies_on_equal (arr : List Int) (x : Int) : sortReplace arr x x = none := by
  simp [sortReplace]

example : sortReplace [1, 3, 3, 5, 9] 3 7 = some [1, 3, 5, 7, 9] := by decide +kernel
example : sortReplace [1, 3, 3, 5, 9] 9 0 = some [0, 1, 3, 3, 5] := by decide +kernel
example : Sorted [1, 3, 3, 5, 9] ∧ (3 : Int) ∈ [1, 3, 3, 5, 9] ∧ (3 : Int) ≠ 7 := by decide +kernel

/-- After every history of input changes (any number of inputs, any values,
    `NULL`s and non-integers included) the rows are non-decreasing from the
    first to the last and hold exactly the multiset of the input values. -/
theorem rows_are_sorted_values (qs : List Int → List Int) (hq : IsSort qs) (n : Nat)
    (evs : List (Nat × Value)) :
    Sorted (rows (run qs (init n) evs)) ∧
    (rows (run qs (init n) evs)).Perm (inputVals n evs) ∧
    (rows (run qs (init n) evs)).length = n := by
  obtain ⟨hi, hn, hv⟩ := run_spec qs hq evs _ (inv_init n)
  have hr := rows_of_inv _ hi
  have hvals : (run qs (init n) evs).values = inputVals n evs := hv
  exact ⟨hr.1, hvals ▸ hr.2.1, hr.2.2.trans hn⟩

/-- Once any input has changed, every output channel holds an integer (never
    `NULL` again). -/
theorem outputs_are_ints (qs : List Int → List Int) (hq : IsSort qs) (n : Nat)
    (evs : List (Nat × Value)) (hc : (run qs (init n) evs).copied = true) :
    (run qs (init n) evs).outs = (rows (run qs (init n) evs)).map Value.int := by
  have hi := (run_spec qs hq evs _ (inv_init n)).1
  rw [hi.rows_eq hc]
  exact (hi.cop hc).2.2

/-- The `qsort` hypothesis is satisfiable (insertion sort; the driver uses it). -/
theorem qsort_assumption_satisfiable : IsSort isort := isort_isSort

example : rows (run isort (init 3) [(0, .int 5), (2, .int (-2)), (0, .null), (1, .dbl 17)]) = [-2, 0, 0] := by
  decide +kernel

/-- In any reachable state, one callback writes output `j` with `v` iff
    the value of output `j` changes, and then `v` is its new value.  (Outputs
    not written keep their value: that is the right-to-left direction.) -/
theorem minimal_writes (qs : List Int → List Int) (hq : IsSort qs) (n : Nat)
    (evs : List (Nat × Value)) (index : Nat) (cur : Value) (j : Nat) (v : Int) :
    let s := run qs (init n) evs
    let r := cbInput qs s index cur
    (j, v) ∈ r.2 ↔ (r.1.outs[j]? = some (Value.int v) ∧ s.outs[j]? ≠ r.1.outs[j]?) := by
  intro s r
  have hi : Inv s := (run_spec qs hq evs _ (inv_init n)).1
  show (j, v) ∈ (cbInput qs s index cur).2 ↔
    ((cbInput qs s index cur).1.outs[j]? = some (Value.int v) ∧ s.outs[j]? ≠ (cbInput qs s index cur).1.outs[j]?)
  rcases cbInput_cases qs hq s hi index cur with ⟨_, e⟩ | ⟨srt, _, _, hlen, e⟩ <;> rw [e]
  · simp
  · have hmap : (srt.map Value.int)[j]? = some (Value.int v) ↔ srt[j]? = some v := by
      rw [List.getElem?_map]
      cases srt[j]? <;> simp
    simp only []
    rw [writeLoop_log srt s.outs j v (hlen.trans hi.lenO.symm)]
    constructor
    · rintro ⟨h1, h2⟩
      exact ⟨hmap.mpr h1, by rw [hmap.mpr h1]; exact h2⟩
    · rintro ⟨h1, h2⟩
      exact ⟨hmap.mp h1, by rw [h1] at h2; exact h2⟩

/-- Outputs are written in increasing index order, each at most once per
    callback. -/
theorem writes_increasing (qs : List Int → List Int) (s : State) (index : Nat) (cur : Value) :
    ((cbInput qs s index cur).2.map Prod.fst).Pairwise (· < ·) := by
  by_cases hc : rd s.values index = cur.toInt ∨ s.n ≤ index
  · rw [cbInput_same qs s index cur hc]; exact List.Pairwise.nil
  · rw [cbInput_change qs s index cur hc]
    exact writeLoop_increasing _ 0 s.outs

/-- An input "change" to the value the module already holds (e.g. `NULL`
    where it holds 0) touches nothing. -/
theorem no_change_no_write (qs : List Int → List Int) (s : State) (index : Nat) (cur : Value)
    (h : rd s.values index = cur.toInt) : cbInput qs s index cur = (s, []) :=
  cbInput_same qs s index cur (Or.inl h)

example : (cbInput isort (run isort (init 4) [(0, .int 1), (1, .int 2), (2, .int 3)]) 0 (.int 2)).2
    = [(1, 2)] := by decide +kernel

/-- The mux theorem at selection time: right after `mux0`'s `cb_select` ran
    (with `select_tr`), `tr` is the specified value of the inputs *as they are
    at that moment*; likewise `mux1` / `select_idle`. -/
theorem select_time_value (k : Consts) (ss tt tr idle : Value) :
    (Mux.cbSelect (.int k.unknownSs) (selectTr k ss [ss, tt]) [ss, tt]).out = trSpec k ss tt ∧
    (Mux.cbSelect .null (selectIdle k idle) [tr, idle]).out = triSpec k tr idle :=
  ⟨cbSelect_tr k ss tt, cbSelect_tri k tr idle⟩

/-- After any history of propagations (any subsets of the three CPU channels, any values, any
    dirty order in which `idle` is not ahead of `ss`/`tt`), if `mux0` has been evaluated and holds
    the selection `select_tr` would make on the current inputs (`Fresh`: the select was
    re-evaluated after the last change of what it reads), the value the sort module holds for this
    CPU is `spec(ss, tt, idle)`. -/
theorem breakdown_value (k : Consts) (props : List (List (Src × Value))) (ho : OrdersOk props)
    (he : (runCpu k props).mux0.evaluated = true) (hf : Fresh k (runCpu k props)) :
    let c := runCpu k props
    c.tr = trSpec k c.ss c.tt ∧ c.tri = triSpec k c.tr c.idle ∧ c.seen = spec k c.ss c.tt c.idle := by
  intro c
  have hq := runCpu_quiescent k props ho
  have h1 := tr_of_fresh k c hq.ss hq.tt he hf
  have h2 := tri_of_delivered k c hq.idle hq.tr
  refine ⟨h1, h2, ?_⟩
  have h3 : c.seen = c.tri := hq.tri
  rw [h3, h2, h1]; rfl

theorem fresh_after_ss (k : Consts) (c : Cpu) (sets : List (Src × Value)) (hq : Quiescent k c)
    (h : Src.ss ∈ sets.map (·.1)) :
    Fresh k (step k c sets) ∧ (step k c sets).mux0.evaluated = true :=
  (step_sel k c sets).fresh h

/-- The explicit side condition: a propagation that does not touch `ss` keeps
    the selection fresh iff it does not flip the null-ness of `tt` while the
    subsystem is "task body" — `select_tr` reads `tt` only then, and only
    whether it is `NULL`. -/
theorem fresh_preserved_iff (k : Consts) (c : Cpu) (sets : List (Src × Value)) (hq : Quiescent k c)
    (hf : Fresh k c) (h : Src.ss ∉ sets.map (·.1)) :
    Fresh k (step k c sets) ↔
      (c.ss = .int k.taskBody → (c.tt = .null ↔ (step k c sets).tt = .null)) := by
  obtain ⟨hss, hsel⟩ := (step_sel k c sets).keep h
  unfold Fresh at hf ⊢
  rw [hsel, hss, hf]
  exact selectTr_tt_iff k c.ss c.tt _

/-- The deviation, classified.  In a quiescent state whose selection is
    *not* fresh there are exactly two possibilities, both with the subsystem
    at "task body":
    (A) input 0 (`ss`) is selected although a task type is present — `tr`
        shows `ST_TASK_BODY` instead of the task type (`… VAP VTr`);
    (B) input 1 (`tt`) is selected although the task type is `NULL` — `tr` is
        `NULL` instead of `ST_TASK_BODY` (`VTx VTp`). -/
theorem stale_select_classes (k : Consts) (props : List (List (Src × Value))) (ho : OrdersOk props)
    (he : (runCpu k props).mux0.evaluated = true) (hf : ¬ Fresh k (runCpu k props)) :
    let c := runCpu k props
    (c.mux0.selected = some 0 ∧ c.ss = .int k.taskBody ∧ c.tt ≠ .null ∧ c.tr = .int k.taskBody) ∨
    (c.mux0.selected = some 1 ∧ c.ss = .int k.taskBody ∧ c.tt = .null ∧ c.tr = .null) := by
  intro c
  have hq := runCpu_quiescent k props ho
  exact stale_classes k c hq.ss hq.tt he hf

/-- dirty_level_ordered per CPU, with the order as a hypothesis (`ho`; derived per event class of
    the emulator below).  `tri` has an upstream of level 1 (`idle`) and one of level 2 (`tr`) and
    is processed once per propagation.  If no `idle` entry is ahead of an `ss`/`tt` entry in the
    dirty list, then after the propagation the sort module has seen the final `tri`, `tri` follows
    `tr`/`idle`, and both muxes agree with their inputs — for every subset of dirty channels and
    every such order, duplicates included. -/
theorem dirty_level_ordered_partial (k : Consts) (c : Cpu) (sets : List (Src × Value))
    (hq : Quiescent k c) (ho : orderOk (dedup (sets.map (·.1))) = true) :
    let c' := step k c sets
    Quiescent k c' ∧ c'.seen = c'.tri ∧ c'.tri = triSpec k c'.tr c'.idle := by
  intro c'
  have q := quiescent_step k c sets hq ho
  exact ⟨q, q.tri, tri_of_delivered k c' q.idle q.tr⟩

/-- dirty_level_ordered for the thread-state and affinity events (ovni `OH*`, `OA*`), derived from
    the bay `emu_connect` builds (`Shape.connect`, C06).  In every emulator step that writes only
    system channels (`SimP Src.isSys`) all track outputs are appended to the dirty list while the
    written channels are processed — so all three CPU channels are on the list before any of them
    is processed — those of one CPU and one model in channel-index order; hence for channels
    `itt`, `iss` below `iidle` (nOS-V: task type 2, subsystem 4, idle 6) `orderOk` holds for the
    CPU's three breakdown inputs. -/
theorem dirty_level_ordered_sys {e e' : Ovni.Emu.Emu} {b0 b : Ovni.Emu.Bay} (hc : e.shape.connect = .ok b0)
    (hs : Ovni.Emu.Shaped e) (hi : Ovni.Emu.Inv b0 e b) (hsim : Ovni.Emu.SimP Ovni.Emu.Src.isSys e e')
    {c k itt iss iidle : Nat} {m : Ovni.Emu.ModelSpec} (hcl : c < e.cpus.length) (hk : e.specs[k]? = some m)
    (h1 : itt < iidle) (h2 : iss < iidle) (h3 : iidle < m.nch) (hne : itt ≠ iss) :
    ∃ b1 bP bF em, Ovni.Emu.Bay.Writes (e.shape.okP Ovni.Emu.Src.isSys) b b1 ∧ Ovni.Emu.Mirrors e' b1 ∧
      b1.dirtyPhase b1.chans.length 0 = .ok bP ∧ b1.propagate = .ok (bF, em) ∧ Ovni.Emu.Inv b0 e'.flushAll bF ∧
      bP.dirty = b1.dirty ++ b1.dirty.flatMap b0.selOuts ∧
      orderOk (dedup (srcOrder (e.shape.cpuOut c k itt) (e.shape.cpuOut c k iss) (e.shape.cpuOut c k iidle)
        bP.dirty)) = true := by
  obtain ⟨b1, bP, bF, em, E⟩ := hi.event hc hs hsim
  refine ⟨b1, bP, bF, em, E.writes, E.mirrors, E.phase, E.prop, E.inv, E.sys_dirty, ?_⟩
  exact orderOk_of_ahead _ _ _ (Ovni.Emu.Shape.cpuOut_ne hcl hk (by omega) h3 (Nat.ne_of_lt h1))
    (Ovni.Emu.Shape.cpuOut_ne hcl hk (by omega) h3 (Nat.ne_of_lt h2)) _ E.wfP.dirtyNodup
    (E.cpu_order_sys hcl hk h1 h3) (E.cpu_order_sys hcl hk h2 h3)

/-- The ovni thread events (`OHx OHe OHp OHr OHc OHw`) are such steps. -/
theorem dirty_level_ordered_thread_events {e e' : Ovni.Emu.Emu} {ti v : Nat} {p : List Nat}
    (h : Ovni.Emu.preThread e ti v p = .ok e') : Ovni.Emu.SimP Ovni.Emu.Src.isSys e e' :=
  Ovni.Emu.SimP.preThread h

/-- … and so are the affinity events (`OAs`, `OAr`). -/
theorem dirty_level_ordered_affinity_events {e e' : Ovni.Emu.Emu} {ti : Nat} {p : List Nat} :
    (Ovni.Emu.preAffinitySet e ti p = .ok e' → Ovni.Emu.SimP Ovni.Emu.Src.isSys e e') ∧
    (Ovni.Emu.preAffinityRemote e ti p = .ok e' → Ovni.Emu.SimP Ovni.Emu.Src.isSys e e') :=
  ⟨Ovni.Emu.SimP.preAffinitySet, Ovni.Emu.SimP.preAffinityRemote⟩

/-- In a step that writes sources of a class `P` not containing the CPU's `th_running`, the CPU
    track of a channel `i` of model `k` that `P` contains for no thread does not enter the dirty
    list: a track output enters only when its select channel or one of its inputs was written
    (`Bay.dirtyPhase_reached`).  With `orderOk_of_absent`: a step that leaves the idle channel
    alone, or the `ss` and `tt` channels, satisfies `orderOk` whatever the order in which the
    handler wrote the others. -/
theorem unwritten_tracks_absent {P : Ovni.Emu.Src → Prop} {e e' : Ovni.Emu.Emu} {b0 b : Ovni.Emu.Bay}
    (hc : e.shape.connect = .ok b0) (hs : Ovni.Emu.Shaped e) (hi : Ovni.Emu.Inv b0 e b)
    (hsim : Ovni.Emu.SimP P e e') {c k : Nat} {m : Ovni.Emu.ModelSpec} (hcl : c < e.cpus.length)
    (hk : e.specs[k]? = some m) (hrun : ¬ P (.run c)) :
    ∃ b1 bP bF em, Ovni.Emu.Bay.Writes (e.shape.okP P) b b1 ∧ Ovni.Emu.Mirrors e' b1 ∧
      b1.dirtyPhase b1.chans.length 0 = .ok bP ∧ b1.propagate = .ok (bF, em) ∧ Ovni.Emu.Inv b0 e'.flushAll bF ∧
      ∀ i, i < m.nch → (∀ g, ¬ P (.raw g k i)) → e.shape.cpuOut c k i ∉ bP.dirty := by
  obtain ⟨b1, bP, bF, em, E⟩ := hi.event hc hs hsim
  exact ⟨b1, bP, bF, em, E.writes, E.mirrors, E.phase, E.prop, E.inv,
    fun i hil hraw => E.cpuOut_absent hcl hk hil hrun hraw⟩

/-- The task events of nOS-V and Nanos6 (`VTx VTe VTp VTr`, `6Tx …`, and the creation events,
    which write nothing): the task hook (`Emu/TaskHook.lean`: the rules of `Emu/Task.lean` plus
    `update_task`'s channel writes in the order of the C code — subsystem push / pop first, then
    body id, task id, type, app id, rank) writes only task channels of the event's thread. -/
theorem dirty_level_ordered_task_events {tm : Ovni.Task.Model} {P : Ovni.Task.ProcInfo} {ε : Ovni.Task.Emu}
    {ev : Ovni.Task.Ev} {e e' : Ovni.Emu.Emu} {ti a b : Nat} {p : List Nat}
    (h : Ovni.Emu.taskHook tm P ε ev e ti a b p = .ok e') :
    Ovni.Emu.SimP (Ovni.Emu.rawOf ti (Ovni.Emu.taskIdx tm).all) e e' :=
  Ovni.Emu.taskHook_simP h

/-- The idle channel is not a task channel: nOS-V `CH_IDLE = 6`, Nanos6 `CH_IDLE = 5`. -/
theorem idle_not_task_channel :
    6 ∉ (Ovni.Emu.taskIdx .nosv).all ∧ 5 ∉ (Ovni.Emu.taskIdx .nanos6).all := by decide

/-- dirty_level_ordered for the task events, no order hypothesis: for `itt`, `iss` below an idle
    channel `iidle` that is not a task channel (nOS-V: 2, 4, 6; Nanos6: 1, 2, 5 —
    `idle_not_task_channel`) the idle track stays off the list. -/
theorem dirty_level_ordered_task {tm : Ovni.Task.Model} {P : Ovni.Task.ProcInfo} {ε : Ovni.Task.Emu}
    {ev : Ovni.Task.Ev} {e e' : Ovni.Emu.Emu} {b0 b : Ovni.Emu.Bay} {ti a b' : Nat} {p : List Nat}
    (hc : e.shape.connect = .ok b0) (hs : Ovni.Emu.Shaped e) (hi : Ovni.Emu.Inv b0 e b)
    (h : Ovni.Emu.taskHook tm P ε ev e ti a b' p = .ok e')
    {c k itt iss iidle : Nat} {m : Ovni.Emu.ModelSpec} (hcl : c < e.cpus.length) (hk : e.specs[k]? = some m)
    (h1 : itt < iidle) (h2 : iss < iidle) (h3 : iidle < m.nch) (hne : itt ≠ iss)
    (hidle : iidle ∉ (Ovni.Emu.taskIdx tm).all) :
    ∃ b1 bP bF em, Ovni.Emu.Bay.Writes (· < e.shape.L) b b1 ∧ Ovni.Emu.Mirrors e' b1 ∧
      b1.dirtyPhase b1.chans.length 0 = .ok bP ∧ b1.propagate = .ok (bF, em) ∧ Ovni.Emu.Inv b0 e'.flushAll bF ∧
      orderOk (dedup (srcOrder (e.shape.cpuOut c k itt) (e.shape.cpuOut c k iss) (e.shape.cpuOut c k iidle)
        bP.dirty)) = true := by
  obtain ⟨b1, bP, bF, em, hw, hm, hph, hp, hinv, habs⟩ :=
    unwritten_tracks_absent hc hs hi (Ovni.Emu.taskHook_simP h) hcl hk Ovni.Emu.rawOf_run
  exact ⟨b1, bP, bF, em, hw.mono (fun _ h => Ovni.Emu.Shape.okP_lt h), hm, hph, hp, hinv,
    orderOk_of_absent _ _ _ _ (Or.inl (habs iidle h3 (fun _ hx => hidle (Ovni.Emu.rawOf_raw hx))))⟩

/-- `dirty_level_ordered_partial` with the order hypothesis in the form `dirty_level_ordered_sys` /
    `_task` / `_table` deliver it: `sets` are the writes a CPU's breakdown sees when a dirty list
    `d` is walked (`srcOrder`).  Nothing in the statement ties `d` to an emulator step; the caller
    does. -/
theorem dirty_level_ordered_emu (k : Consts) (c : Cpu) (sets : List (Src × Value)) (hq : Quiescent k c)
    (tt ss idle : Nat) (d : List Nat) (hd : sets.map (·.1) = srcOrder tt ss idle d)
    (ho : orderOk (dedup (srcOrder tt ss idle d)) = true) :
    let c' := step k c sets
    Quiescent k c' ∧ c'.seen = c'.tri ∧ c'.tri = triSpec k c'.tr c'.idle :=
  dirty_level_ordered_partial k c sets hq (hd ▸ ho)

/-- dirty_level_ordered for every table event, the idle events included.  `orderOk` only
    constrains events that put BOTH an `idle` and an `ss` / `tt` entry of the CPU on the list.  A
    table event (`simple` of nOS-V / Nanos6, in particular `VPp VPr VPa` / `6Pp 6Pr 6Pa`,
    `SimP.tableEvent`) writes one channel `ch` of its thread: if `ch` is the idle channel the
    `ss` and `tt` tracks stay off the list, otherwise the idle track does
    (`unwritten_tracks_absent`). -/
theorem dirty_level_ordered_table {e e' : Ovni.Emu.Emu} {b0 b : Ovni.Emu.Bay} {ti ec ev : Nat}
    {ms : Ovni.Emu.ModelSpec} (hc : e.shape.connect = .ok b0) (hs : Ovni.Emu.Shaped e) (hi : Ovni.Emu.Inv b0 e b)
    (h : Ovni.Emu.tableEvent e ti ms ec ev = .ok e')
    {c k itt iss iidle : Nat} {m : Ovni.Emu.ModelSpec} (hcl : c < e.cpus.length) (hk : e.specs[k]? = some m)
    (h1 : itt < iidle) (h2 : iss < iidle) (h3 : iidle < m.nch) (hne : itt ≠ iss) :
    ∃ b1 bP bF em, Ovni.Emu.Bay.Writes (· < e.shape.L) b b1 ∧ Ovni.Emu.Mirrors e' b1 ∧
      b1.dirtyPhase b1.chans.length 0 = .ok bP ∧ b1.propagate = .ok (bF, em) ∧ Ovni.Emu.Inv b0 e'.flushAll bF ∧
      (iidle ∈ Ovni.Emu.tableChans ms ec ev →
        e.shape.cpuOut c k itt ∉ bP.dirty ∧ e.shape.cpuOut c k iss ∉ bP.dirty) ∧
      (iidle ∉ Ovni.Emu.tableChans ms ec ev → e.shape.cpuOut c k iidle ∉ bP.dirty) ∧
      orderOk (dedup (srcOrder (e.shape.cpuOut c k itt) (e.shape.cpuOut c k iss) (e.shape.cpuOut c k iidle)
        bP.dirty)) = true := by
  obtain ⟨b1, bP, bF, em, hw, hm, hph, hp, hinv, habs⟩ :=
    unwritten_tracks_absent hc hs hi (Ovni.Emu.SimP.tableEvent h) hcl hk Ovni.Emu.rawOf_run
  -- the one written channel cannot be both `iidle` and a channel below it
  have hin : iidle ∈ Ovni.Emu.tableChans ms ec ev →
      e.shape.cpuOut c k itt ∉ bP.dirty ∧ e.shape.cpuOut c k iss ∉ bP.dirty := fun hid =>
    ⟨habs itt (by omega) fun _ hx => Nat.ne_of_lt h1 (Ovni.Emu.tableChans_single (Ovni.Emu.rawOf_raw hx) hid),
      habs iss (by omega) fun _ hx => Nat.ne_of_lt h2 (Ovni.Emu.tableChans_single (Ovni.Emu.rawOf_raw hx) hid)⟩
  have hout : iidle ∉ Ovni.Emu.tableChans ms ec ev → e.shape.cpuOut c k iidle ∉ bP.dirty :=
    fun hid => habs iidle h3 (fun _ hx => hid (Ovni.Emu.rawOf_raw hx))
  refine ⟨b1, bP, bF, em, hw.mono (fun _ h => Ovni.Emu.Shape.okP_lt h), hm, hph, hp, hinv, hin, hout,
    orderOk_of_absent _ _ _ _ ?_⟩
  by_cases hid : iidle ∈ Ovni.Emu.tableChans ms ec ev
  · exact Or.inr (hin hid)
  · exact Or.inl (hout hid)

/-- The rows of the generated tables on the idle channel: nOS-V `VPa VPp VPr`
    (`CH_IDLE = 6`), Nanos6 `6Pa 6Pp 6Pr` (`CH_IDLE = 5`), all `chan_set`; they
    write exactly the idle channel. -/
theorem idle_rows :
    (Ovni.Emu.specNosv.table.filter (fun r => r.2.2.1 == 6)).map (fun r => (r.1, r.2.1, r.2.2.2.1)) =
      [(80, 97, 3), (80, 112, 3), (80, 114, 3)] ∧
    (Ovni.Emu.specNanos6.table.filter (fun r => r.2.2.1 == 5)).map (fun r => (r.1, r.2.1, r.2.2.2.1)) =
      [(80, 97, 3), (80, 112, 3), (80, 114, 3)] ∧
    (∀ v ∈ [97, 112, 114], Ovni.Emu.tableChans Ovni.Emu.specNosv 80 v = [6] ∧
      Ovni.Emu.tableChans Ovni.Emu.specNanos6 80 v = [5]) := by decide +kernel

/-- The dirty list after a task event: `ss` before `tt`, no `idle`.  `iss` = the model's subsystem
    channel, `itt` one of the channels `update_task_channels` sets (the task type), `iidle` not a
    task channel (nOS-V: 4, 2, 6; Nanos6: 2, 1, 5 — `task_channel_groups`).  The `ss` track
    precedes the `tt` track whenever both are there: `update_task` calls `update_task_ss_channel`
    before `update_task_channels`, and outputs enter the list in the order in which their inputs
    are processed (`Bay.dirtyPhase_ordered`).  Hence the CPU's breakdown sees a sublist of
    `[ss, tt]`, and for an event other than `x` / `e` (pause, resume; the creation events write
    nothing) a sublist of `[tt]`. -/
theorem task_event_dirty_positions {tm : Ovni.Task.Model} {P : Ovni.Task.ProcInfo} {ε : Ovni.Task.Emu}
    {ev : Ovni.Task.Ev} {e e' : Ovni.Emu.Emu} {b0 b : Ovni.Emu.Bay} {ti a b' : Nat} {p : List Nat}
    (hc : e.shape.connect = .ok b0) (hs : Ovni.Emu.Shaped e) (hi : Ovni.Emu.Inv b0 e b)
    (h : Ovni.Emu.taskHook tm P ε ev e ti a b' p = .ok e')
    {c k itt iidle : Nat} {m : Ovni.Emu.ModelSpec} (hcl : c < e.cpus.length) (hk : e.specs[k]? = some m)
    (hss : (Ovni.Emu.taskIdx tm).ss < m.nch) (htt : itt < m.nch) (h3 : iidle < m.nch)
    (hin : itt ∈ (Ovni.Emu.taskIdx tm).sets) (hssn : (Ovni.Emu.taskIdx tm).ss ∉ (Ovni.Emu.taskIdx tm).sets)
    (hidle : iidle ∉ (Ovni.Emu.taskIdx tm).all) :
    let iss := (Ovni.Emu.taskIdx tm).ss
    ∃ b1 bP bF em, Ovni.Emu.Bay.Writes (e.shape.okP (Ovni.Emu.rawOf ti (Ovni.Emu.taskIdx tm).all)) b b1 ∧
      Ovni.Emu.Mirrors e' b1 ∧
      b1.dirtyPhase b1.chans.length 0 = .ok bP ∧ b1.propagate = .ok (bF, em) ∧ Ovni.Emu.Inv b0 e'.flushAll bF ∧
      bP.WF ∧ e.shape.cpuOut c k iidle ∉ bP.dirty ∧
      (e.shape.cpuOut c k iss ∈ bP.dirty → e.shape.cpuOut c k itt ∈ bP.dirty →
        bP.dirty.idxOf (e.shape.cpuOut c k iss) < bP.dirty.idxOf (e.shape.cpuOut c k itt)) ∧
      (srcOrder (e.shape.cpuOut c k itt) (e.shape.cpuOut c k iss) (e.shape.cpuOut c k iidle) bP.dirty).Sublist
        [Src.ss, Src.tt] ∧
      ((∀ th t bp, ev ≠ .task th .x t bp ∧ ev ≠ .task th .e t bp) →
        e.shape.cpuOut c k iss ∉ bP.dirty ∧
        (srcOrder (e.shape.cpuOut c k itt) (e.shape.cpuOut c k iss) (e.shape.cpuOut c k iidle) bP.dirty).Sublist
          [Src.tt]) := by
  intro iss
  obtain ⟨b1, bP, bF, em, E, hpos, hnoss⟩ := hi.taskHook_event hc hs h hcl hk hss htt hin hssn
  have hnot : e.shape.cpuOut c k iidle ∉ bP.dirty :=
    E.cpuOut_absent hcl hk h3 Ovni.Emu.rawOf_run fun _ hx => hidle (Ovni.Emu.rawOf_raw hx)
  exact ⟨b1, bP, bF, em, E.writes, E.mirrors, E.phase, E.prop, E.inv, E.wfP, hnot, hpos,
    srcOrder_sublist_of_ahead _ _ _ (Ovni.Emu.Shape.cpuOut_ne hcl hk htt hss fun hq => hssn (hq ▸ hin)) _
      E.wfP.dirtyNodup hnot hpos,
    fun hpr => ⟨hnoss hpr, srcOrder_sublist_tt _ E.wfP.dirtyNodup (hnoss hpr) hnot⟩⟩

/-- The exact dirty list after a task event, for the CPU `c` whose `th_running` shows the thread,
    in a coupled state (`Ovni.Emu.Coupled`, an invariant of every accepted history:
    `C06.coupled_history`): the CPU's breakdown inputs appear EXACTLY as `[ss, tt]` for `VTx` /
    `VTe` (`6Tx` / `6Te`) and as `[tt]` for `VTp` / `VTr`.  Order: `Ovni.Emu.Inv.taskHook_event`.
    Presence: in a coupled state the task channels are clean and have no `CHAN_IGNORE_DUP`, so the
    accepted `chan_push` / `chan_pop` on the subsystem channel and the accepted `chan_set` on the
    task type take effect and dirty the channel (`taskHook_task_dirty`), the CPU mux has the running
    thread's input callback enabled (`MuxSync` from `Inv`), and `cb_input` dirties the ALLOW_DUP
    output (`Event.cpuOut_present`). -/
theorem task_event_dirty_exact {tm : Ovni.Task.Model} {P : Ovni.Task.ProcInfo} {ε : Ovni.Task.Emu}
    {e e' : Ovni.Emu.Emu} {b0 b : Ovni.Emu.Bay} {ti a k t bp : Nat} {tv : Ovni.Task.TaskEv} {p : List Nat}
    (hc : e.shape.connect = .ok b0) (hs : Ovni.Emu.Shaped e) (hi : Ovni.Emu.Inv b0 e b)
    (hk : e.specs[k]? = some (Ovni.Emu.specOf tm)) (hcp : Ovni.Emu.Coupled tm k e ε)
    (h : Ovni.Emu.taskHook tm P ε (.task ti tv t bp) e ti (Ovni.Emu.specOf tm).char a p = .ok e')
    {c iidle : Nat} {x : Ovni.Emu.Chan} (hcl : c < e.cpus.length) (hti : ti < e.threads.length)
    (hrun : e.src (.run c) = some x) (hcur : x.cur = .int (ti : Int))
    (h3 : iidle < (Ovni.Emu.specOf tm).nch) (hidle : iidle ∉ (Ovni.Emu.taskIdx tm).all) :
    let iss := (Ovni.Emu.taskIdx tm).ss
    let itt := (Ovni.Emu.taskIdx tm).typ
    ∃ b1 bP bF em, Ovni.Emu.Bay.Writes (· < e.shape.L) b b1 ∧ Ovni.Emu.Mirrors e' b1 ∧
      b1.dirtyPhase b1.chans.length 0 = .ok bP ∧ b1.propagate = .ok (bF, em) ∧ Ovni.Emu.Inv b0 e'.flushAll bF ∧
      srcOrder (e.shape.cpuOut c k itt) (e.shape.cpuOut c k iss) (e.shape.cpuOut c k iidle) bP.dirty =
        (if tv = .x ∨ tv = .e then [Src.ss, Src.tt] else [Src.tt]) := by
  intro iss itt
  have hgrp : iss < (Ovni.Emu.specOf tm).nch ∧ itt < (Ovni.Emu.specOf tm).nch ∧
      itt ∈ (Ovni.Emu.taskIdx tm).sets ∧ iss ∉ (Ovni.Emu.taskIdx tm).sets := by
    cases tm <;> decide
  obtain ⟨g1, g2, g3, g4⟩ := hgrp
  obtain ⟨b1, bP, bF, em, E, hpos, hnoss⟩ := hi.taskHook_event (c := c) (k := k) (itt := itt) hc hs h hcl hk g1 g2 g3 g4
  have hnot : e.shape.cpuOut c k iidle ∉ bP.dirty :=
    E.cpuOut_absent hcl hk h3 Ovni.Emu.rawOf_run fun _ hx => hidle (Ovni.Emu.rawOf_raw hx)
  -- a dirty raw channel of the running thread puts its CPU track on the list
  have hpres : ∀ {i ch}, i < (Ovni.Emu.specOf tm).nch → e'.src (.raw ti k i) = some ch → ch.dirty = true →
      e.shape.cpuOut c k i ∈ bP.dirty :=
    fun hil => E.cpuOut_present (fun _ => Ovni.Emu.rawOf_isRaw) hcl hk hil hti hrun hcur
  obtain ⟨⟨ch1, d1, d2⟩, hssd⟩ := Ovni.Emu.taskHook_task_dirty hs hk hcp h
  have hpt := hpres g2 d1 d2
  have hts : e.shape.cpuOut c k itt ≠ e.shape.cpuOut c k iss :=
    Ovni.Emu.Shape.cpuOut_ne hcl hk g2 g1 fun hq => g4 (hq ▸ g3)
  -- the three tracks are different channels, so presence on the list is presence in the projection
  have hmem : ∀ {x : Src}, chOf (e.shape.cpuOut c k itt) (e.shape.cpuOut c k iss) (e.shape.cpuOut c k iidle) x ∈
      bP.dirty → x ∈ srcOrder (e.shape.cpuOut c k itt) (e.shape.cpuOut c k iss) (e.shape.cpuOut c k iidle)
        bP.dirty :=
    mem_srcOrder_of_mem hts
      (Ovni.Emu.Shape.cpuOut_ne hcl hk g2 h3 (fun hq => hidle (hq ▸ Ovni.Emu.TaskChanIdx.mem_all.mpr (Or.inr g3))))
      (Ovni.Emu.Shape.cpuOut_ne hcl hk g1 h3 (fun hq => hidle (hq ▸ Ovni.Emu.TaskChanIdx.mem_all.mpr (Or.inl rfl))))
  refine ⟨b1, bP, bF, em, E.writesL, E.mirrors, E.phase, E.prop, E.inv, ?_⟩
  by_cases hxe : tv = .x ∨ tv = .e
  · rw [if_pos hxe]
    obtain ⟨ch2, d3, d4⟩ := hssd hxe
    exact sublist_full (srcOrder_sublist_of_ahead _ _ _ hts _ E.wfP.dirtyNodup hnot hpos) (by decide)
      (by simp [hmem (x := .ss) (hpres g1 d3 d4), hmem (x := .tt) hpt])
  · rw [if_neg hxe]
    have hne2 : ∀ th t2 bp2, Ovni.Task.Ev.task ti tv t bp ≠ .task th .x t2 bp2 ∧
        Ovni.Task.Ev.task ti tv t bp ≠ .task th .e t2 bp2 := by
      intro th t2 bp2
      constructor
      · intro hq; injection hq with _ hq _ _; exact hxe (Or.inl hq)
      · intro hq; injection hq with _ hq _ _; exact hxe (Or.inr hq)
    exact sublist_full (srcOrder_sublist_tt _ E.wfP.dirtyNodup (hnoss hne2) hnot) (by decide)
      (by simp [hmem (x := .tt) hpt])

/-! `orderOk` per event class of the reference emulator, with no hypothesis on the registration order:
* thread-state / affinity events (`OH*`, `OA*`; `dirty_level_ordered_sys`): the three CPU channels enter
  the dirty list as `task_type`, `subsystem`, `idle`, all before any is processed, because
  `model_cpu_connect` calls `mux_init` in channel-index order (`Bay.dirtyPhase_selectOnly`,
  `Event.cpu_order_sys`).  Of the classes listed here only this one puts both an `idle` and an `ss` / `tt`
  entry of one CPU on the list, which is all that `orderOk` constrains.
* task events `VTx VTe VTp VTr`, `6T*` (`dirty_level_ordered_task`): `update_task` writes `ss`, then
  body id, task id, type, app id, rank, never the idle channel, and a CPU track enters the list only
  when its select or one of its inputs was written (`Bay.dirtyPhase_reached`): no `idle` entry.  More is
  known (`task_event_dirty_positions`, `task_event_dirty_exact`): `ss` before `tt`; for the CPU the
  thread runs on, in a `Coupled` state, exactly `[ss, tt]` for `x` / `e` and `[tt]` for `p` / `r`.
* table events, `VPa VPp VPr` / `6Pa 6Pp 6Pr` on `CH_IDLE` included (`dirty_level_ordered_table`,
  `idle_rows`): one channel is written, so the `ss` / `tt` tracks or the `idle` track stay off the list.
* any other step that leaves `th_running` and either the idle channel or the `ss` and `tt` channels
  alone: `unwritten_tracks_absent` with `orderOk_of_absent`.  The ovni mark / flush events are such
  steps but are not instantiated.

OPEN: the positions of the other tracks on the list (thread tracks; body id, task id, app id, rank).
`Bay.dirtyPhase_ordered` orders them by trigger; two outputs with the same trigger (thread track and
CPU track of one channel) come in the order in which their `cb_input` callbacks were enabled, which
depends on the history and is not characterised.  The breakdown does not read them.

Not modelled: the breakdown muxes are not part of `bayOf` (they are chained muxes on the CPU track
outputs); `step` is their per-CPU model.  That part is exercised against the real `connect_cpu` by the
harness and against `ovniemu -b` by the e2e oracle.

Not proved: the per-CPU theorems are about `step` (one CPU's walk of the dirty list), `system_rows`
about `stepSys`, which walks the global list; that the first is the projection of the second is
checked by the driver on every line it executes (it prints `proj-mismatch` otherwise), i.e. on all
unit and e2e cases of the correspondence run. -/

/-- Even with a bad order the muxes themselves end up right; only what the
    sort module saw can be out of date. -/
theorem muxes_right_in_any_order (k : Consts) (c : Cpu) (sets : List (Src × Value))
    (hq : Quiescent k c) :
    (step k c sets).tri = triSpec k (step k c sets).tr (step k c sets).idle :=
  let p := step_post k c sets hq
  tri_of_delivered k _ p.didle p.dtr

/-- The rows of the breakdown view.  For any number of CPUs and any history of propagations of
    the whole patch-bay (any channels of any CPUs in any order), the rows are non-decreasing from
    the first to the last and are exactly the multiset of the values the sort module has seen on
    each CPU's `tri` channel (`NULL` counting as 0).  Together with `breakdown_value` (that value
    is `spec(ss, tt, idle)` for a CPU whose selection is fresh) this is the property;
    `stale_select_classes` says what the row shows otherwise. -/
theorem system_rows (k : Consts) (qs : List Int → List Int) (hq : IsSort qs) (n : Nat)
    (hist : List (List (Nat × Src × Value))) :
    let S := runSys k qs n hist
    Sorted (rows S.sort) ∧ (rows S.sort).Perm (S.cpus.map (fun c => c.seen.toInt)) ∧
      (rows S.sort).length = S.cpus.length := by
  intro S
  have hi := runSys_inv k qs hq n hist
  have hr := rows_of_inv S.sort hi.sort
  exact ⟨hr.1, hi.vals ▸ hr.2.1, hr.2.2.trans hi.len⟩

example : rows (runSys nosv isort 2 [[(0, .tt, .null), (0, .ss, .null), (0, .idle, .int 100)],
    [(0, .ss, .int 11), (0, .tt, .int 7)], [(1, .tt, .null), (1, .ss, .int 6), (1, .idle, .int 100)]]).sort
    = [6, 7] := by decide +kernel

example : Quiescent nosv Cpu.init := quiescent_init nosv

/-- The emulator's orders satisfy the order hypothesis: `th_running` change
    (`tt`, `ss`, `idle`), `VTx`/`VTe` (`ss`, `tt`), single-channel events. -/
example : orderOk (dedup [.tt, .ss, .idle]) = true ∧ orderOk (dedup [.ss, .tt]) = true ∧
    orderOk (dedup [.idle]) = true ∧ orderOk (dedup [.idle, .ss]) = false := by decide

def hOHx : List (Src × Value) := [(.tt, .null), (.ss, .null), (.idle, .int 100)]
def hVTx : List (Src × Value) := [(.ss, .int 11), (.tt, .int 7)]

/-- A normal pause: `OHx VTx VAp VTp VTr VAP` (task type 7). -/
def exNormal : Cpu :=
  runCpu nosv [hOHx, hVTx, [(.ss, .int 15)], [(.tt, .null)], [(.tt, .int 7)], [(.ss, .int 11)]]

/-- DESIGN.md §6-G, class (A): `OHx VTx VAp VTp VAP VTr` — the resume comes after the pop. -/
def exStaleA : Cpu :=
  runCpu nosv [hOHx, hVTx, [(.ss, .int 15)], [(.tt, .null)], [(.ss, .int 11)], [(.tt, .int 7)]]

/-- Class (B): `OHx VTx VTp` — a bare pause. -/
def exStaleB : Cpu := runCpu nosv [hOHx, hVTx, [(.tt, .null)]]

/-- The hypotheses of `breakdown_value` hold on a non-trivial history, and
    the sort input is the task type. -/
example : OrdersOk [hOHx, hVTx, [(.ss, .int 15)], [(.tt, .null)], [(.tt, .int 7)], [(.ss, .int 11)]] ∧
    Fresh nosv exNormal ∧ exNormal.mux0.evaluated = true ∧ exNormal.seen = .int 7 := by decide +kernel

/-- (A): `ss = 11`, `tt = 7`, but the sort input stays 11 ("Task: In body")
    where the specification says 7. -/
example : ¬ Fresh nosv exStaleA ∧ exStaleA.mux0.evaluated = true ∧
    exStaleA.ss = .int 11 ∧ exStaleA.tt = .int 7 ∧ exStaleA.seen = .int 11 ∧
    spec nosv exStaleA.ss exStaleA.tt exStaleA.idle = .int 7 := by decide +kernel

/-- (B): `ss = 11`, `tt = NULL`; the sort input becomes `NULL` (row value 0)
    where the specification says 11. -/
example : ¬ Fresh nosv exStaleB ∧ exStaleB.seen = .null ∧
    spec nosv exStaleB.ss exStaleB.tt exStaleB.idle = .int 11 := by decide +kernel

/-- The order hypothesis of `dirty_level_ordered_partial` is needed: with
    `idle` ahead of `ss` in the dirty list the sort module keeps a stale value
    (here it still holds `NULL` although `tri = 5`). -/
example : (step nosv Cpu.init [(.idle, .int 100), (.ss, .int 5)]).tri = .int 5 ∧
    (step nosv Cpu.init [(.idle, .int 100), (.ss, .int 5)]).seen = .null := by decide +kernel


/-! ### Non-vacuity of `dirty_level_ordered_sys`

Two threads, a physical and the virtual CPU, models ovni + nOS-V (position 1
in the spec list: task type = channel 2, subsystem = 4, idle = 6).  The event
is `OHx` of thread 0 on CPU 0. -/

def exEmu : Ovni.Emu.Emu :=
  Ovni.Emu.mkEmu [(100, 10, 0), (101, 10, 0)] [(0, 0, false), (0, -1, true)] [79, 86] false []

def exBay0 : Ovni.Emu.Bay :=
  match exEmu.shape.connect with
  | .ok b => b
  | .error _ => {}

theorem exBay0_connect : exEmu.shape.connect = .ok exBay0 := by
  obtain ⟨b, h⟩ := exEmu.shape.connect_total (Ovni.Emu.Shape.modesOk_of_lists (by decide) (by decide))
  rw [exBay0, h]

theorem exOHx_accepted :
    (match Ovni.Emu.preThread exEmu 0 120 [0, 0, 0, 0] with | .ok _ => true | .error _ => false) = true := by
  decide +kernel

theorem ok_of_accepted {r : Except Ovni.Emu.Err Ovni.Emu.Emu}
    (h : (match r with | .ok _ => true | .error _ => false) = true) : ∃ e', r = .ok e' := by
  cases r with
  | ok e' => exact ⟨e', rfl⟩
  | error _ => cases h

/-- The state `emu_connect` leaves (`Inv.init`). -/
theorem exInit : Ovni.Emu.Shaped exEmu ∧ ∃ bI, Ovni.Emu.Inv exBay0 exEmu bI := by
  obtain ⟨hs, _, bI, _, _, _, hi⟩ := Ovni.Emu.Inv.init _ _ _ _ _ exBay0_connect (by decide) (by decide)
    (by rw [List.append_nil]; exact Ovni.Emu.initSingle_allSpecs _)
  exact ⟨hs, bI, hi⟩

/-- `dirty_level_ordered_sys` applies: initial state from `Inv.init`, event `OHx`. -/
example : ∃ (bI : Ovni.Emu.Bay) (e' : Ovni.Emu.Emu) (bP : Ovni.Emu.Bay), Ovni.Emu.Inv exBay0 exEmu bI ∧ Ovni.Emu.preThread exEmu 0 120 [0, 0, 0, 0] = .ok e' ∧
    orderOk (dedup (srcOrder (exEmu.shape.cpuOut 0 1 2) (exEmu.shape.cpuOut 0 1 4) (exEmu.shape.cpuOut 0 1 6)
      bP.dirty)) = true := by
  obtain ⟨hs, bI, hi⟩ := exInit
  obtain ⟨e', h⟩ : ∃ e', Ovni.Emu.preThread exEmu 0 120 [0, 0, 0, 0] = .ok e' := ok_of_accepted exOHx_accepted
  obtain ⟨_, bP, _, _, _, _, _, _, _, _, hord⟩ :=
    dirty_level_ordered_sys (c := 0) (k := 1) (itt := 2) (iss := 4) (iidle := 6) (m := Ovni.Emu.specNosv)
      exBay0_connect hs hi (Ovni.Emu.SimP.preThread h) (by decide) (by rfl) (by decide) (by decide)
      (by decide) (by decide)
  exact ⟨bI, e', bP, hi, h, hord⟩

/-! ### The task events

nOS-V process with app id 1 and no rank; task type 1 and task 1 created
(`VYc`, `VTc`); the event is `VTx` of task 1 on thread 0. -/

def exTaskE : Ovni.Task.Emu :=
  match Ovni.Task.Emu.run .nosv ⟨1, -1⟩ Ovni.Task.Emu.init [.typeCreate 1 7 true, .taskCreate false 1 1] with
  | .ok x => x
  | .error _ => Ovni.Task.Emu.init

theorem exVTx_accepted :
    (match Ovni.Emu.taskHook .nosv ⟨1, -1⟩ exTaskE (.task 0 .x 1 0) exEmu 0 86 84 [] with
      | .ok _ => true | .error _ => false) = true := by
  decide +kernel

/-- `dirty_level_ordered_task` applies: state from `Inv.init`, event `VTx`. -/
example : ∃ (bI : Ovni.Emu.Bay) (e' : Ovni.Emu.Emu) (bP : Ovni.Emu.Bay), Ovni.Emu.Inv exBay0 exEmu bI ∧
    Ovni.Emu.taskHook .nosv ⟨1, -1⟩ exTaskE (.task 0 .x 1 0) exEmu 0 86 84 [] = .ok e' ∧
    orderOk (dedup (srcOrder (exEmu.shape.cpuOut 0 1 2) (exEmu.shape.cpuOut 0 1 4) (exEmu.shape.cpuOut 0 1 6)
      bP.dirty)) = true := by
  obtain ⟨hs, bI, hi⟩ := exInit
  obtain ⟨e', h⟩ : ∃ e', Ovni.Emu.taskHook .nosv ⟨1, -1⟩ exTaskE (.task 0 .x 1 0) exEmu 0 86 84 [] = .ok e' := ok_of_accepted exVTx_accepted
  obtain ⟨_, bP, _, _, _, _, _, _, _, hord⟩ :=
    dirty_level_ordered_task (c := 0) (k := 1) (itt := 2) (iss := 4) (iidle := 6) (m := Ovni.Emu.specNosv)
      exBay0_connect hs hi h (by decide) (by rfl) (by decide) (by decide) (by decide) (by decide)
      idle_not_task_channel.1
  exact ⟨bI, e', bP, hi, h, hord⟩

/-! ### The idle events and the positions after a task event: non-vacuity

`exEmuR`: the state after `OHx` of thread 0 on CPU 0 (`bay_propagate` done).  The
event is `VPr` (nOS-V `CH_IDLE := ST_RESTING`) of thread 0. -/

def exEmuR : Ovni.Emu.Emu :=
  (match Ovni.Emu.preThread exEmu 0 120 [0, 0, 0, 0] with
   | .ok e => e
   | .error _ => exEmu).flushAll

/-- `exEmuR` is reached from `exEmu` by an accepted step (`Inv.event`), still coupled with
    `exTaskE`. -/
theorem exInitR : exEmuR.shape.connect = .ok exBay0 ∧ Ovni.Emu.Shaped exEmuR ∧
    Ovni.Emu.Coupled .nosv 1 exEmuR exTaskE ∧ ∃ bR, Ovni.Emu.Inv exBay0 exEmuR bR := by
  obtain ⟨hs, bI, hi⟩ := exInit
  obtain ⟨e1, h⟩ : ∃ e', Ovni.Emu.preThread exEmu 0 120 [0, 0, 0, 0] = .ok e' := ok_of_accepted exOHx_accepted
  have hops := Ovni.Emu.preThread_ops hs h
  obtain ⟨_, _, bR, _, E⟩ := hi.event exBay0_connect hs hops.simP
  have hcp : Ovni.Emu.Coupled .nosv 1 e1.flushAll exTaskE :=
    (Ovni.Emu.coupled_init .nosv _ _ _ _ _ (by rfl) : Ovni.Emu.Coupled .nosv 1 exEmu Ovni.Task.Emu.init).keep_ops
      hs hops (fun _ _ hx => hx) (by rfl) (by rfl)
  have hR : exEmuR = e1.flushAll := by unfold exEmuR; rw [h]
  rw [hR]
  exact ⟨E.shapeF ▸ exBay0_connect, E.shapedF, hcp, bR, E.inv⟩

theorem exVPr_accepted :
    (match Ovni.Emu.tableEvent exEmuR 0 Ovni.Emu.specNosv 80 114 with | .ok _ => true | .error _ => false) = true := by
  decide +kernel

/-- `dirty_level_ordered_table` applies in a state where the CPU tracks are live (`Inv` after
    `OHx` from `Inv.event`), event `VPr`: the `ss` / `tt` tracks of CPU 0 are not on the dirty
    list. -/
example : ∃ (bR : Ovni.Emu.Bay) (e' : Ovni.Emu.Emu) (bP : Ovni.Emu.Bay), Ovni.Emu.Inv exBay0 exEmuR bR ∧
    Ovni.Emu.tableEvent exEmuR 0 Ovni.Emu.specNosv 80 114 = .ok e' ∧
    exEmuR.shape.cpuOut 0 1 2 ∉ bP.dirty ∧ exEmuR.shape.cpuOut 0 1 4 ∉ bP.dirty ∧
    orderOk (dedup (srcOrder (exEmuR.shape.cpuOut 0 1 2) (exEmuR.shape.cpuOut 0 1 4) (exEmuR.shape.cpuOut 0 1 6)
      bP.dirty)) = true := by
  obtain ⟨hcR, hs1, _, bR, hiR⟩ := exInitR
  obtain ⟨e', h2⟩ : ∃ e', Ovni.Emu.tableEvent exEmuR 0 Ovni.Emu.specNosv 80 114 = .ok e' := ok_of_accepted exVPr_accepted
  obtain ⟨_, bP, _, _, _, _, _, _, _, hin, _, hord⟩ :=
    dirty_level_ordered_table (c := 0) (k := 1) (itt := 2) (iss := 4) (iidle := 6) (m := Ovni.Emu.specNosv)
      hcR hs1 hiR h2 (by decide) (by rfl) (by decide) (by decide) (by decide) (by decide)
  obtain ⟨h3, h4⟩ := hin (by decide)
  exact ⟨bR, e', bP, hiR, h2, h3, h4, hord⟩

/-- `task_event_dirty_positions` applies (state from `Inv.init`, event `VTx`): a sublist of
    `[ss, tt]` (`exDirtyT` below: exactly `[ss, tt]` when the thread runs on the CPU). -/
example : ∃ (bI : Ovni.Emu.Bay) (e' : Ovni.Emu.Emu) (bP : Ovni.Emu.Bay), Ovni.Emu.Inv exBay0 exEmu bI ∧
    Ovni.Emu.taskHook .nosv ⟨1, -1⟩ exTaskE (.task 0 .x 1 0) exEmu 0 86 84 [] = .ok e' ∧
    (srcOrder (exEmu.shape.cpuOut 0 1 2) (exEmu.shape.cpuOut 0 1 4) (exEmu.shape.cpuOut 0 1 6) bP.dirty).Sublist
      [Src.ss, Src.tt] := by
  obtain ⟨hs, bI, hi⟩ := exInit
  obtain ⟨e', h⟩ : ∃ e', Ovni.Emu.taskHook .nosv ⟨1, -1⟩ exTaskE (.task 0 .x 1 0) exEmu 0 86 84 [] = .ok e' := ok_of_accepted exVTx_accepted
  obtain ⟨_, bP, _, _, _, _, _, _, _, _, _, _, hsub, _⟩ :=
    task_event_dirty_positions (c := 0) (k := 1) (itt := 2) (iidle := 6) (m := Ovni.Emu.specNosv)
      exBay0_connect hs hi h (by decide) (by rfl) (by decide) (by decide) (by decide) (by decide) (by decide)
      idle_not_task_channel.1
  exact ⟨bI, e', bP, hi, h, hsub⟩

/-! ### The exact list: non-vacuity

`exEmuR` (thread 0 runs on CPU 0), coupled with the task layer state `exTaskE`
(type 1 and task 1 created, every task channel null), event `VTx` of task 1. -/

theorem exVTxR_accepted :
    (match Ovni.Emu.taskHook .nosv ⟨1, -1⟩ exTaskE (.task 0 .x 1 0) exEmuR 0 86 84 [] with
      | .ok _ => true | .error _ => false) = true := by
  decide +kernel

/-- `task_event_dirty_exact` applies: CPU 0's breakdown inputs are on the dirty list exactly as
    `[ss, tt]`. -/
example : ∃ (bR : Ovni.Emu.Bay) (e' : Ovni.Emu.Emu) (bP : Ovni.Emu.Bay), Ovni.Emu.Inv exBay0 exEmuR bR ∧
    Ovni.Emu.Coupled .nosv 1 exEmuR exTaskE ∧
    Ovni.Emu.taskHook .nosv ⟨1, -1⟩ exTaskE (.task 0 .x 1 0) exEmuR 0 86 84 [] = .ok e' ∧
    srcOrder (exEmuR.shape.cpuOut 0 1 2) (exEmuR.shape.cpuOut 0 1 4) (exEmuR.shape.cpuOut 0 1 6) bP.dirty =
      [Src.ss, Src.tt] := by
  obtain ⟨hcR, hs1, hcpR, bR, hiR⟩ := exInitR
  obtain ⟨e', h2⟩ : ∃ e', Ovni.Emu.taskHook .nosv ⟨1, -1⟩ exTaskE (.task 0 .x 1 0) exEmuR 0 86 84 [] = .ok e' := ok_of_accepted exVTxR_accepted
  obtain ⟨_, bP, _, _, _, _, _, _, _, hex⟩ :=
    task_event_dirty_exact (tm := .nosv) (c := 0) (k := 1) (iidle := 6) (x := (exEmuR.src (.run 0)).getD {})
      hcR hs1 hiR (by rfl) hcpR h2 (by decide) (by decide) (by rfl) (by decide) (by decide)
      idle_not_task_channel.1
  exact ⟨bR, e', bP, hiR, hcpR, h2, hex⟩

/-! ### The dirty lists of the three events, computed

`exBay0` is run through `emu_connect`'s initial writes, the writes of the event and the
dirty phase by the bay model itself, with no use of the theorems above. -/

private def unwrapB {α} (d : α) : Except Ovni.Emu.Err α → α
  | .ok a => a
  | .error _ => d

/-- `OHx` of thread 0 on CPU 0 right after `emu_connect` (connect, idle := Progressing,
    propagate): the three writes (thread 0's state, CPU 0's `th_running` and
    `th_active`) and the dirty phase.  The CPU's breakdown inputs enter the dirty
    list as task type, subsystem, idle. -/
def exDirty : List Nat :=
  let σ := exEmu.shape
  let b1 := (σ.addrs.filter σ.hasInit).foldl
    (fun b s => unwrapB b (b.write (σ.idx s) (σ.initOp s))) exBay0
  let bI := (unwrapB (b1, []) b1.propagate).1
  let w1 := unwrapB bI (bI.chanSet (σ.idx (.st 0)) (.int 1))
  let w2 := unwrapB w1 (w1.chanSet (σ.idx (.run 0)) (.int 0))
  let w3 := unwrapB w2 (w2.chanSet (σ.idx (.act 0)) (.int 0))
  (unwrapB w3 (w3.dirtyPhase w3.chans.length 0)).dirty

/-- `VTx` in a state where the CPU tracks are live: `emu_connect`, `OHx` of thread 0 on CPU 0 and
    `bay_propagate`, then the writes of `VTx` in the order of `update_task` — subsystem push, body
    id, task id, type, app id — and the dirty phase.  The CPU's breakdown inputs enter the dirty
    list as subsystem, task type; no idle track.  (`orderOk` accepts `[tt, ss]` as well.) -/
def exDirtyT : List Nat :=
  let σ := exEmu.shape
  let b1 := (σ.addrs.filter σ.hasInit).foldl
    (fun b s => unwrapB b (b.write (σ.idx s) (σ.initOp s))) exBay0
  let bI := (unwrapB (b1, []) b1.propagate).1
  let w1 := unwrapB bI (bI.chanSet (σ.idx (.st 0)) (.int 1))
  let w2 := unwrapB w1 (w1.chanSet (σ.idx (.run 0)) (.int 0))
  let w3 := unwrapB w2 (w2.chanSet (σ.idx (.act 0)) (.int 0))
  let bX := (unwrapB (w3, []) w3.propagate).1
  let t1 := unwrapB bX (bX.chanPush (σ.idx (.raw 0 1 4)) (.int 11))
  let t2 := unwrapB t1 (t1.chanSet (σ.idx (.raw 0 1 0)) (.int 1))
  let t3 := unwrapB t2 (t2.chanSet (σ.idx (.raw 0 1 1)) (.int 1))
  let t4 := unwrapB t3 (t3.chanSet (σ.idx (.raw 0 1 2)) (.int 1673))
  let t5 := unwrapB t4 (t4.chanSet (σ.idx (.raw 0 1 3)) (.int 1))
  (unwrapB t5 (t5.dirtyPhase t5.chans.length 0)).dirty

/-- `VPr` in the same state: the one write `chan_set(CH_IDLE, ST_RESTING)` and the dirty phase;
    the CPU's breakdown sees `[idle]` only. -/
def exDirtyP : List Nat :=
  let σ := exEmu.shape
  let b1 := (σ.addrs.filter σ.hasInit).foldl
    (fun b s => unwrapB b (b.write (σ.idx s) (σ.initOp s))) exBay0
  let bI := (unwrapB (b1, []) b1.propagate).1
  let w1 := unwrapB bI (bI.chanSet (σ.idx (.st 0)) (.int 1))
  let w2 := unwrapB w1 (w1.chanSet (σ.idx (.run 0)) (.int 0))
  let w3 := unwrapB w2 (w2.chanSet (σ.idx (.act 0)) (.int 0))
  let bX := (unwrapB (w3, []) w3.propagate).1
  let t1 := unwrapB bX (bX.chanSet (σ.idx (.raw 0 1 6)) (.int 101))
  (unwrapB t1 (t1.dirtyPhase t1.chans.length 0)).dirty

theorem exDirty_eq : exDirty = [0, 2, 3, 26, 27, 28, 29, 30, 31, 32, 24, 40, 41, 42, 43, 44, 45, 46] ∧
    exDirtyT = [12, 8, 9, 10, 11, 30, 44, 26, 40, 27, 41, 28, 42, 29, 43] ∧ exDirtyP = [14, 32, 46] := by
  decide +kernel

example : srcOrder (exEmu.shape.cpuOut 0 1 2) (exEmu.shape.cpuOut 0 1 4) (exEmu.shape.cpuOut 0 1 6) exDirty
    = [.tt, .ss, .idle] ∧ exDirty.length = 18 := by rw [exDirty_eq.1]; decide +kernel

example : srcOrder (exEmu.shape.cpuOut 0 1 2) (exEmu.shape.cpuOut 0 1 4) (exEmu.shape.cpuOut 0 1 6) exDirtyT
    = [.ss, .tt] ∧ orderOk (dedup [Src.ss, Src.tt]) = true ∧ orderOk (dedup [Src.tt, Src.ss]) = true := by
  rw [exDirty_eq.2.1]; decide +kernel

example : srcOrder (exEmu.shape.cpuOut 0 1 2) (exEmu.shape.cpuOut 0 1 4) (exEmu.shape.cpuOut 0 1 6) exDirtyP
    = [.idle] ∧ exDirtyP.length = 3 ∧ orderOk (dedup [Src.idle]) = true := by rw [exDirty_eq.2.2]; decide +kernel

end Ovni.Props.C20
