import OvniModel.Emu.MarkEmu
import OvniModel.Emu.Dispatch
import OvniModel.Version

/-!
# Generated handler facts vs. their transcription by hand

Not tied to one property.  `Generated/Handlers.lean` is regenerated from
`/repo`'s `event.c` / `setup.c` on every run (`tools/gen/gen_handlers.py`,
clang AST) and the models consume it (`specNosv … specOvni`, `disp` /
`stateGuard`, `alwaysOn`).  This file keeps a transcription by hand of the same
values (`…Hand`) and states, by evaluation, that they coincide; and it
ties the hand-written control flow of the model (`ovniEvent`,
`preThread`, `preFlush`, `markEvent`: the inversion lemmas of
`Lemmas/EmuCoreCases.lean`, on which C04/C05/C17 rest, unfold them) to the
generated switches.  When `/repo` changes a guard, a `case` or a connect-time
value, the models follow the code and the theorem below that names the changed
fact stops checking.
-/
namespace Ovni.Props.Gen
open Ovni.Emu Ovni.Generated

/-- nothing in the eight handlers was left unrecognised by the extractor -/
theorem unresolved_empty : ∀ f ∈ Handlers.all, f.unresolved = [] := by decide +kernel

/-- every handler was found, dispatches on the category or indexes its table,
    and each of its switches (on category or on value) fails in its `default` -/
theorem dispatch_found : ∀ f ∈ Handlers.all,
    (f.directTable = true ∨ f.catSwitch.isSome = true) ∧
    (∀ s ∈ f.switches, s.defaultErr = true) := by decide +kernel

/-- the model character `model_<m>_event` tests is the registered one -/
theorem evChar_is_model_char :
    Handlers.all.map (·.evChar) = allSpecs.map (fun s => some s.char) := by decide +kernel

def catsOf (s : String) : List Nat := s.toList.map Char.toNat

/-- order of `allSpecs`: ovni, nanos6, nosv, nodes, tampi, mpi, kernel, openmp -/
def catsHand : List (Option (List Nat)) :=
  [some [], some (catsOf "CSUFOtHDBWMP"), some (catsOf "SUMHAP"), some (catsOf "RUWITCSP"),
   none, none, some [67], none]

theorem cats_hand : allSpecs.map (·.cats) = catsHand := by decide +kernel

def stateReqHand : List Nat := [0, 2, 2, 1, 1, 1, 0, 1]

theorem stateReq_hand : allSpecs.map (·.stateReq) = stateReqHand := by decide +kernel

def checkOutOfCpuHand : List Bool := [true, false, true, false, false, false, false, false]

theorem checkOutOfCpu_hand : allSpecs.map (·.checkOutOfCpu) = checkOutOfCpuHand := by decide +kernel

def lintChanHand : List (Option Nat) := [none, some 2, some 4, some 0, some 0, some 0, none, some 0]

theorem lintChan_hand : allSpecs.map (·.lintChan) = lintChanHand := by decide +kernel

/-- the channel `end_lint` inspects is a stack channel of the model -/
theorem lintChan_is_stack : ∀ s ∈ allSpecs, ∀ i, s.lintChan = some i → s.chanStack.getD i false = true := by
  decide +kernel

/-- by hand: nOS-V / Nanos6 set the idle channel to the first label of its
    PCF table (*Progressing*) and give the CPU mux the second (*Resting*) -/
def initValsHand : List (List (Nat × Int)) :=
  [[], [(5, labelVal Nanos6.labels 5 0)], [(6, labelVal Nosv.labels 6 0)], [], [], [], [], []]

def cpuDefaultHand : List (List (Nat × Int)) :=
  [[], [(5, labelVal Nanos6.labels 5 1)], [(6, labelVal Nosv.labels 6 1)], [], [], [], [], []]

theorem initVals_hand : allSpecs.map (·.initVals) = initValsHand := by decide +kernel

theorem cpuDefault_hand : allSpecs.map (·.cpuDefault) = cpuDefaultHand := by decide +kernel

/-- by hand: KCO pushes / KCI pops `ST_CSOUT` on channel 0 -/
def kernelTableHand : List (Nat × Nat × Nat × Nat × Int) :=
  [(67, 79, 0, 1, kernelCsOut), (67, 73, 0, 2, kernelCsOut)]

theorem kernelTable_hand : specKernel.table = kernelTableHand := by decide +kernel

/-- `is_out_of_cpu` is set by KCO and cleared by KCI -/
theorem kernelOutOfCpu_hand : specKernel.outOfCpu = [(67, 79, true), (67, 73, false)] := by decide +kernel

/-- only nOS-V and Nanos6 hand `T` / `Y` to the task layer -/
theorem taskCats_hand :
    allSpecs.map (·.taskCats) = [[], [84, 89], [84, 89], [], [], [], [], []] := by decide +kernel

/-- only the kernel model touches `is_out_of_cpu` -/
theorem outOfCpu_only_kernel : ∀ s ∈ allSpecs, s.char ≠ 75 → s.outOfCpu = [] := by decide +kernel

open Ovni.Emu.Dispatch in
/-- the dispatch transcribed by hand from the eight `event.c` -/
def dispHand : ModelId → Disp
  | .ovni => {
      cats := [(72, .vals (chars "Cxeprcw")),   -- 'H' pre_thread
               (65, .vals (chars "sr")),        -- 'A' pre_affinity
               (66, .any),                      -- 'B' pre_burst
               (67, .vals (chars "n")),         -- 'C' pre_cpu
               (70, .vals (chars "[]")),        -- 'F' pre_flush
               (85, .any),                      -- 'U'
               (77, .vals (chars "[]="))],      -- 'M' mark_event
      dflt := false }
  | .nanos6 => {
      cats := catsTab "CSUFOtHDBWMP" ++
              [(84, .vals (chars "Ccxerp")),    -- 'T' pre_task
               (89, .vals (chars "c"))],        -- 'Y' pre_type
      dflt := false }
  | .nosv => {
      cats := catsTab "SUMHAP" ++
              [(84, .vals (chars "Ccxerp")),
               (89, .vals (chars "c"))],
      dflt := false }
  | .nodes => { cats := catsTab "RUWITCSP", dflt := false }
  | .tampi => { cats := [], dflt := true }
  | .mpi => { cats := [], dflt := true }
  | .kernel => { cats := [(67, .vals (chars "OI"))], dflt := false }
  | .openmp => { cats := [], dflt := true }

open Ovni.Emu.Dispatch in
theorem disp_hand : ∀ M ∈ ModelId.all, disp M = dispHand M := by decide +kernel

open Ovni.Emu.Dispatch in
def stateGuardHand : ModelId → Ctx → Bool
  | .ovni, x => !x.outOfCpu
  | .nanos6, x => x.active
  | .nosv, x => x.active && !x.outOfCpu
  | .nodes, x | .tampi, x | .mpi, x | .openmp, x => x.running
  | .kernel, _ => true

open Ovni.Emu.Dispatch in
theorem stateGuard_hand (M : ModelId) (x : Ctx) : stateGuard M x = stateGuardHand M x := by
  have all : ∀ M ∈ ModelId.all, ∀ a r o : Bool,
      stateGuard M ⟨a, r, o⟩ = stateGuardHand M ⟨a, r, o⟩ := by decide +kernel
  exact all M (by cases M <;> decide) x.active x.running x.outOfCpu

open Ovni.Version in
/-- the models whose probe returns 1 unconditionally -/
def alwaysOnChars : List Nat := (probeFacts.filter (·.2)).map (·.1)

open Ovni.Version in
theorem alwaysOn_iff (ch : Nat) : alwaysOn ch = true ↔ ch ∈ alwaysOnChars := by
  unfold alwaysOn alwaysOnChars
  simp only [List.any_eq_true, Bool.and_eq_true, beq_iff_eq, List.mem_map, List.mem_filter]
  constructor
  · rintro ⟨p, hp, rfl, h2⟩; exact ⟨p, ⟨hp, h2⟩, rfl⟩
  · rintro ⟨p, ⟨hp, h2⟩, rfl⟩; exact ⟨p, hp, rfl, h2⟩

/-- by hand: `alwaysOn ch = (ch == 79)`, only the ovni model -/
theorem alwaysOnChars_hand : alwaysOnChars = [79] := by decide +kernel

open Ovni.Version in
theorem alwaysOn_hand (ch : Nat) : alwaysOn ch = (ch == 79) := by
  rw [Bool.eq_iff_iff, alwaysOn_iff, alwaysOnChars_hand, List.mem_singleton, beq_iff_eq]

/-! `ovniEvent`, `preThread`, `preFlush` (Core) and `markEvent` (MarkEmu) stay
hand-written `if` chains.  Their *unknown event* verdict is compared with the
dispatch computed from the generated switches for every category and value
below 128 (the proof does not use the bound on `c`), on a state where every
other precondition of reaching the `switch` holds. -/

def probeTab : List MarkType := [{ type := 1, title := "t", stack := true, labels := [] }]

/-- one thread, one CPU, ovni model and one mark type -/
def probeEmu : Emu := mkEmu [(1, 1, 0)] [(0, 0, false)] [79] false [markSpec probeTab]

/-- mark payload: value 1 (i64), type 1 (i32) -/
def probePayload : List Nat := [1, 0, 0, 0, 0, 0, 0, 0, 1, 0, 0, 0]

def isUnknown : Except Err Emu → Bool
  | .error .unknownEvent => true
  | _ => false

def ovniUnknown (c v : Nat) : Bool :=
  isUnknown (ovniEvent probeEmu 0 c v probePayload (fun e ti v p => markEvent probeTab e ti v p))

/-- the categories `ovniEvent` has a case for -/
def ovniCats : List Nat := [72, 65, 66, 67, 70, 85, 77]

theorem ovniUnknown_other (c v : Nat) (h : c ∉ ovniCats) : ovniUnknown c v = true := by
  simp only [ovniCats, List.mem_cons, List.not_mem_nil, or_false, not_or] at h
  obtain ⟨h1, h2, h3, h4, h5, h6, h7⟩ := h
  obtain ⟨t, ht, ho⟩ : ∃ t, probeEmu.threads[0]? = some t ∧ t.outOfCpu = false := ⟨_, rfl, rfl⟩
  unfold ovniUnknown ovniEvent
  simp only [ht, ho, h1, h2, h3, h4, h5, h6, h7, if_false, bind, Except.bind]
  rfl

/-- the generated category switch has no case beyond those of `ovniEvent` -/
theorem generated_cats_known : ∀ k ∈ (Dispatch.disp .ovni).cats, k.1 ∈ ovniCats := by decide +kernel

open Ovni.Emu.Dispatch in
theorem ovniEvent_follows_generated :
    ∀ c ∈ List.range 128, ∀ v ∈ List.range 128,
      ovniUnknown c v = !(disp .ovni).accepts [] c v := by
  have listed : ∀ c ∈ ovniCats, ∀ v ∈ List.range 128,
      ovniUnknown c v = !(disp .ovni).accepts [] c v := by decide +kernel
  intro c _ v hv
  by_cases h : c ∈ ovniCats
  · exact listed c h v hv
  · -- outside `ovniCats` both sides say *unknown*, whatever the value
    have hl : (disp .ovni).cats.lookup c = none :=
      List.lookup_eq_none_iff.2 fun k hk => by
        simpa using fun hc : c = k.1 => h (hc ▸ generated_cats_known k hk)
    rw [ovniUnknown_other c v h, Disp.accepts, hl]
    rfl

/-- `pre_flush` as generated: `OF[` sets the flush channel (0) to 1, `OF]` to null -/
theorem preFlush_hand :
    (Handlers.ovni.valSwitch "pre_flush").map (fun s => s.cases.map fun k => (k.label, k.chanOp, k.chan, k.valKind, k.val))
      = some [(91, 3, some 0, 1, 1), (93, 3, some 0, 2, 0)] := by decide +kernel

/-- `mark_event` as generated: `[` push, `]` pop, `=` set -/
theorem markEvent_hand :
    (Handlers.ovni.valSwitch "mark_event").map (fun s => s.cases.map fun k => (k.label, k.chanOp))
      = some [(91, 1), (93, 2), (61, 3)] := by decide +kernel

end Ovni.Props.Gen
