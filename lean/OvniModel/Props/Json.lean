import OvniModel.Lemmas.JsonComments
import OvniModel.Lemmas.JsonTop
import OvniModel.Lemmas.JsonGet

/-!
# parson as ovni uses it: totality, round trip, truncation, the getters

Model: `OvniModel/Json.lean` (`parse` = `json_parse_file_with_comments`, the
getters, `dotset`, `serializePretty` = `json_serialize_to_string_pretty`), tied
to the real `src/parson.c` by `checks/json_lib.py` (harness `harness/json_h.c`).
Not tied to one property: C09 (a cut `stream.json` is refused), C12 (metadata
gates read what these getters return), C17 / C19.
-/
namespace Ovni.Props.Json
open Ovni.Json

/-- `parse` runs `parse_value` with fuel `2 * length + 1`: that fuel is never
    exhausted and every larger fuel computes the same result, so `parse` does
    not hide a diverging computation. -/
theorem parse_total (s : List Nat) (n : Nat) :
    parseValue (2 * s.length + 1) n s ≠ .oof
    ∧ ∀ f, 2 * s.length + 1 ≤ f → parseValue f n s = parseValue (2 * s.length + 1) n s :=
  ⟨parseValue_ne_oof (Nat.le_refl _), fun _ hf => parseValue_fuel_eq hf⟩

/-- The result of `parse` is the result of `parse_value` at nesting 0 on the
    prepared text with *any* sufficient fuel; only number values the model does
    not compute turn an accepted document into `unsup`. -/
theorem parse_eq (s : List Nat) (f : Nat) (hf : 2 * (prepare s).length + 1 ≤ f) :
    parse s = match parseValue f 0 (prepare s) with
      | .ok (v, _) => if v.exact then .ok v else .unsup
      | _ => .fail := by
  unfold parse
  rw [parseValue_fuel_eq hf]
  have h := parseValue_answered (n := 0) (Nat.le_refl (2 * (prepare s).length + 1))
  cases hp : parseValue (2 * (prepare s).length + 1) 0 (prepare s) with
  | ok a => rfl
  | fail => rfl
  | unsup => exact (hp ▸ h).elim
  | oof => exact (hp ▸ h).elim

/-- `json_parse_file_with_comments` on what `json_serialize_to_file_pretty`
    wrote gives the value back, for every writable value: any nesting up to
    `MAX_NESTING`, any byte strings, any names without NUL and no name twice in
    an object, integers up to 2^53 in magnitude. -/
theorem roundtrip (j : Json) (hw : Writable j) : parse (serializePretty j) = .ok j := by
  unfold parse
  rw [prepare_prefix (List.prefix_refl _), parseValue_serializePretty j hw]
  simp only [wr_exact j 0 hw, if_true]

/-- A `stream.json` (any writable object, array or string) cut anywhere before
    its last byte — by a kill during `fputs`, by a full disk — is refused by
    `json_parse_file_with_comments`; so is the empty file.  (Not so for a number:
    `12` cut to `1` parses.) -/
theorem truncation_rejected (j : Json) (hw : Writable j) (hd : delimited j = true) (p : List Nat)
    (hp : p <+: serializePretty j) (hne : p ≠ serializePretty j) : parse p = .fail := by
  obtain ⟨u, hu⟩ := hp
  rw [parse_eq p _ (Nat.le_refl _), prepare_prefix ⟨u, hu⟩]
  cases hres : parseValue (2 * p.length + 1) 0 p with
  | fail | unsup | oof => rfl
  | ok a =>
    exfalso
    obtain ⟨v', r'⟩ := a
    -- `p` begins as the serialization does, with `{`, `[` or `"`: the value parsed from it is closed
    have hcl : closed v' = true := by
      obtain ⟨a0, t0, hser, ha0⟩ := ser_head_delimited hd 0
      cases p with
      | nil => rw [parseValue.eq_2] at hres; simp [skipWs] at hres
      | cons b p' =>
        obtain rfl : b = a0 := (List.cons.inj (hu.trans hser)).1
        exact (closed_of_head ha0 p').ok hres
    -- so it is no strict prefix of the serialization, which parses to `j` with nothing left
    have hu0 := parseValue_prefix_free (u := u) hres hcl (by rw [hu]; exact parseValue_serializePretty j hw)
    rw [hu0, List.append_nil] at hu
    exact hne hu

theorem cut_rejected (j : Json) (hw : Writable j) (hd : delimited j = true) (k : Nat)
    (hk : k < (serializePretty j).length) : parse ((serializePretty j).take k) = .fail :=
  truncation_rejected j hw hd _ (List.take_prefix ..) fun e => by
    have := congrArg List.length e
    rw [List.length_take] at this
    omega

/-- `parse_value` stops at the closing delimiter of the root value: whatever
    follows a complete object, array or string is handed back unread, and
    `json_parse_string` drops it.  (About `parse_value` only; that `parse`, which
    first strips comments from the whole text, accepts garbage after the final
    `}` is shown on an instance, in the last `example` of this file.) -/
theorem trailing_ignored (j : Json) (hw : Writable j) (hd : delimited j = true) (g : List Nat) (f : Nat)
    (hf : 2 * (serializePretty j ++ g).length + 1 ≤ f) :
    parseValue f 0 (serializePretty j ++ g) = .ok (j, g) :=
  parseValue_ser j 0 0 g f hw (.inl (closed_of_delimited hd)) hf

/-- `json_object_dotget_value` after `json_object_dotset_value` on the same path. -/
theorem dotget_after_dotset (j j' : Json) (p : List Nat) (v : Json) (h : dotset j p v = some j') :
    dotget j' p = some v := dotget_dotset_same h

/-- … and on a path that neither contains nor is contained in the one set. -/
theorem dotget_unchanged_by_dotset (j j' : Json) (p q : List Nat) (v : Json) (h : dotset j p v = some j')
    (hi : Indep (splitDots p) (splitDots q)) : dotget j' q = dotget j q := dotget_dotset_other h hi

/-- What libovni stored with a sequence of `json_object_dotset_*` calls is
    what the emulator's `json_object_dotget_*` finds in the parsed file, for a
    path set in the sequence and not overwritten later by a `dotset` through or
    above it (the last two conjuncts restate this through the typed getters). -/
theorem getter_law (pre : List (List Nat × Json)) (p : List Nat) (v : Json) (post : List (List Nat × Json))
    (j : Json) (h : applySets (.object []) (pre ++ (p, v) :: post) = some j) (hw : Writable j)
    (hi : ∀ qv ∈ post, Indep (splitDots qv.1) (splitDots p)) :
    ∃ j', parse (serializePretty j) = .ok j' ∧ dotget j' p = some v
      ∧ getNumber (dotget j' p) = getNumber (some v) ∧ getString (dotget j' p) = getString (some v) :=
  ⟨j, roundtrip j hw, applySets_get pre p v post _ j h hi,
    by rw [applySets_get pre p v post _ j h hi], by rw [applySets_get pre p v post _ j h hi]⟩

/-- The typed getters on a missing path: `json_object_dotget_number` = 0,
    `json_object_dotget_string` = NULL, `json_object_dotget_boolean` = -1.  (A value
    of another type gives the same defaults by the definition of the getters; the
    last `getNumber` of the `realJson` example below is an instance.) -/
theorem getters_default (j : Json) (p : List Nat) (h : dotget j p = none) :
    getNumber (dotget j p) = (0, 0) ∧ getString (dotget j p) = none ∧ getObject (dotget j p) = none
      ∧ getArray (dotget j p) = none ∧ getBoolean (dotget j p) = -1 := by
  rw [h]; exact ⟨rfl, rfl, rfl, rfl, rfl⟩

/-- A `stream.json` written by libovni (`ovni_thread_free` of a thread with two
    `ovni_thread_require`, two CPUs, a rank, a mark type with a label and three
    `ovni_attr_set_*` attributes), byte for byte (938 bytes). -/
def realText : List Nat := [
  123, 10, 32, 32, 32, 32, 34, 118, 101, 114, 115, 105, 111, 110, 34, 58, 32, 51, 44, 10, 32, 32, 32, 32,
  34, 111, 118, 110, 105, 34, 58, 32, 123, 10, 32, 32, 32, 32, 32, 32, 32, 32, 34, 108, 105, 98, 34, 58,
  32, 123, 10, 32, 32, 32, 32, 32, 32, 32, 32, 32, 32, 32, 32, 34, 118, 101, 114, 115, 105, 111, 110, 34,
  58, 32, 34, 49, 46, 49, 49, 46, 48, 34, 44, 10, 32, 32, 32, 32, 32, 32, 32, 32, 32, 32, 32, 32,
  34, 99, 111, 109, 109, 105, 116, 34, 58, 32, 34, 117, 110, 107, 110, 111, 119, 110, 34, 10, 32, 32, 32, 32,
  32, 32, 32, 32, 125, 44, 10, 32, 32, 32, 32, 32, 32, 32, 32, 34, 112, 97, 114, 116, 34, 58, 32, 34,
  116, 104, 114, 101, 97, 100, 34, 44, 10, 32, 32, 32, 32, 32, 32, 32, 32, 34, 116, 105, 100, 34, 58, 32,
  53, 54, 55, 56, 44, 10, 32, 32, 32, 32, 32, 32, 32, 32, 34, 112, 105, 100, 34, 58, 32, 49, 50, 51,
  52, 44, 10, 32, 32, 32, 32, 32, 32, 32, 32, 34, 108, 111, 111, 109, 34, 58, 32, 34, 110, 111, 100, 101,
  48, 34, 44, 10, 32, 32, 32, 32, 32, 32, 32, 32, 34, 97, 112, 112, 95, 105, 100, 34, 58, 32, 49, 44,
  10, 32, 32, 32, 32, 32, 32, 32, 32, 34, 114, 101, 113, 117, 105, 114, 101, 34, 58, 32, 123, 10, 32, 32,
  32, 32, 32, 32, 32, 32, 32, 32, 32, 32, 34, 111, 118, 110, 105, 34, 58, 32, 34, 49, 46, 49, 49, 46,
  48, 34, 44, 10, 32, 32, 32, 32, 32, 32, 32, 32, 32, 32, 32, 32, 34, 110, 111, 115, 118, 34, 58, 32,
  34, 50, 46, 53, 46, 49, 34, 10, 32, 32, 32, 32, 32, 32, 32, 32, 125, 44, 10, 32, 32, 32, 32, 32,
  32, 32, 32, 34, 109, 97, 114, 107, 34, 58, 32, 123, 10, 32, 32, 32, 32, 32, 32, 32, 32, 32, 32, 32,
  32, 34, 55, 34, 58, 32, 123, 10, 32, 32, 32, 32, 32, 32, 32, 32, 32, 32, 32, 32, 32, 32, 32, 32,
  34, 116, 105, 116, 108, 101, 34, 58, 32, 34, 97, 92, 47, 98, 32, 92, 34, 113, 92, 34, 34, 44, 10, 32,
  32, 32, 32, 32, 32, 32, 32, 32, 32, 32, 32, 32, 32, 32, 32, 34, 99, 104, 97, 110, 95, 116, 121, 112,
  101, 34, 58, 32, 34, 115, 116, 97, 99, 107, 34, 44, 10, 32, 32, 32, 32, 32, 32, 32, 32, 32, 32, 32,
  32, 32, 32, 32, 32, 34, 108, 97, 98, 101, 108, 115, 34, 58, 32, 123, 10, 32, 32, 32, 32, 32, 32, 32,
  32, 32, 32, 32, 32, 32, 32, 32, 32, 32, 32, 32, 32, 34, 49, 34, 58, 32, 34, 111, 110, 101, 34, 10,
  32, 32, 32, 32, 32, 32, 32, 32, 32, 32, 32, 32, 32, 32, 32, 32, 125, 10, 32, 32, 32, 32, 32, 32,
  32, 32, 32, 32, 32, 32, 125, 10, 32, 32, 32, 32, 32, 32, 32, 32, 125, 44, 10, 32, 32, 32, 32, 32,
  32, 32, 32, 34, 114, 97, 110, 107, 34, 58, 32, 48, 44, 10, 32, 32, 32, 32, 32, 32, 32, 32, 34, 110,
  114, 97, 110, 107, 115, 34, 58, 32, 50, 44, 10, 32, 32, 32, 32, 32, 32, 32, 32, 34, 108, 111, 111, 109,
  95, 99, 112, 117, 115, 34, 58, 32, 91, 10, 32, 32, 32, 32, 32, 32, 32, 32, 32, 32, 32, 32, 123, 10,
  32, 32, 32, 32, 32, 32, 32, 32, 32, 32, 32, 32, 32, 32, 32, 32, 34, 105, 110, 100, 101, 120, 34, 58,
  32, 48, 44, 10, 32, 32, 32, 32, 32, 32, 32, 32, 32, 32, 32, 32, 32, 32, 32, 32, 34, 112, 104, 121,
  105, 100, 34, 58, 32, 48, 10, 32, 32, 32, 32, 32, 32, 32, 32, 32, 32, 32, 32, 125, 44, 10, 32, 32,
  32, 32, 32, 32, 32, 32, 32, 32, 32, 32, 123, 10, 32, 32, 32, 32, 32, 32, 32, 32, 32, 32, 32, 32,
  32, 32, 32, 32, 34, 105, 110, 100, 101, 120, 34, 58, 32, 49, 44, 10, 32, 32, 32, 32, 32, 32, 32, 32,
  32, 32, 32, 32, 32, 32, 32, 32, 34, 112, 104, 121, 105, 100, 34, 58, 32, 51, 10, 32, 32, 32, 32, 32,
  32, 32, 32, 32, 32, 32, 32, 125, 10, 32, 32, 32, 32, 32, 32, 32, 32, 93, 44, 10, 32, 32, 32, 32,
  32, 32, 32, 32, 34, 102, 105, 110, 105, 115, 104, 101, 100, 34, 58, 32, 49, 10, 32, 32, 32, 32, 125, 44,
  10, 32, 32, 32, 32, 34, 110, 111, 115, 118, 34, 58, 32, 123, 10, 32, 32, 32, 32, 32, 32, 32, 32, 34,
  99, 97, 110, 95, 98, 114, 101, 97, 107, 100, 111, 119, 110, 34, 58, 32, 116, 114, 117, 101, 44, 10, 32, 32,
  32, 32, 32, 32, 32, 32, 34, 108, 105, 98, 95, 118, 101, 114, 115, 105, 111, 110, 34, 58, 32, 34, 51, 46,
  49, 46, 48, 34, 10, 32, 32, 32, 32, 125, 44, 10, 32, 32, 32, 32, 34, 110, 97, 110, 111, 115, 54, 34,
  58, 32, 123, 10, 32, 32, 32, 32, 32, 32, 32, 32, 34, 120, 34, 58, 32, 50, 10, 32, 32, 32, 32, 125,
  10, 125]

/-- The value libovni held when it wrote `realText`. -/
def realJson : Json := .object [
  ([118, 101, 114, 115, 105, 111, 110] /- version -/, .number 3 0),
  ([111, 118, 110, 105] /- ovni -/, .object [
    ([108, 105, 98] /- lib -/, .object [
      ([118, 101, 114, 115, 105, 111, 110] /- version -/, .string [49, 46, 49, 49, 46, 48] /- "1.11.0" -/),
      ([99, 111, 109, 109, 105, 116] /- commit -/, .string [117, 110, 107, 110, 111, 119, 110] /- "unknown" -/)]),
    ([112, 97, 114, 116] /- part -/, .string [116, 104, 114, 101, 97, 100] /- "thread" -/),
    ([116, 105, 100] /- tid -/, .number 5678 0),
    ([112, 105, 100] /- pid -/, .number 1234 0),
    ([108, 111, 111, 109] /- loom -/, .string [110, 111, 100, 101, 48] /- "node0" -/),
    ([97, 112, 112, 95, 105, 100] /- app_id -/, .number 1 0),
    ([114, 101, 113, 117, 105, 114, 101] /- require -/, .object [
      ([111, 118, 110, 105] /- ovni -/, .string [49, 46, 49, 49, 46, 48] /- "1.11.0" -/),
      ([110, 111, 115, 118] /- nosv -/, .string [50, 46, 53, 46, 49] /- "2.5.1" -/)]),
    ([109, 97, 114, 107] /- mark -/, .object [
      ([55] /- 7 -/, .object [
        ([116, 105, 116, 108, 101] /- title -/, .string [97, 47, 98, 32, 34, 113, 34] /- "a/b \"q\"" -/),
        ([99, 104, 97, 110, 95, 116, 121, 112, 101] /- chan_type -/, .string [115, 116, 97, 99, 107] /- "stack" -/),
        ([108, 97, 98, 101, 108, 115] /- labels -/, .object [
          ([49] /- 1 -/, .string [111, 110, 101] /- "one" -/)])])]),
    ([114, 97, 110, 107] /- rank -/, .number 0 0),
    ([110, 114, 97, 110, 107, 115] /- nranks -/, .number 2 0),
    ([108, 111, 111, 109, 95, 99, 112, 117, 115] /- loom_cpus -/, .array [
      .object [
        ([105, 110, 100, 101, 120] /- index -/, .number 0 0),
        ([112, 104, 121, 105, 100] /- phyid -/, .number 0 0)],
      .object [
        ([105, 110, 100, 101, 120] /- index -/, .number 1 0),
        ([112, 104, 121, 105, 100] /- phyid -/, .number 3 0)]]),
    ([102, 105, 110, 105, 115, 104, 101, 100] /- finished -/, .number 1 0)]),
  ([110, 111, 115, 118] /- nosv -/, .object [
    ([99, 97, 110, 95, 98, 114, 101, 97, 107, 100, 111, 119, 110] /- can_breakdown -/, .bool true),
    ([108, 105, 98, 95, 118, 101, 114, 115, 105, 111, 110] /- lib_version -/, .string [51, 46, 49, 46, 48] /- "3.1.0" -/)]),
  ([110, 97, 110, 111, 115, 54] /- nanos6 -/, .object [
    ([120] /- x -/, .number 2 0)])]

/-- The `json_object_dotset_*` calls of libovni that built it, in call order. -/
def realSets : List (List Nat × Json) := [
  ([118, 101, 114, 115, 105, 111, 110] /- version -/, .number 3 0),
  ([111, 118, 110, 105, 46, 108, 105, 98, 46, 118, 101, 114, 115, 105, 111, 110] /- ovni.lib.version -/, .string [49, 46, 49, 49, 46, 48] /- "1.11.0" -/),
  ([111, 118, 110, 105, 46, 108, 105, 98, 46, 99, 111, 109, 109, 105, 116] /- ovni.lib.commit -/, .string [117, 110, 107, 110, 111, 119, 110] /- "unknown" -/),
  ([111, 118, 110, 105, 46, 112, 97, 114, 116] /- ovni.part -/, .string [116, 104, 114, 101, 97, 100] /- "thread" -/),
  ([111, 118, 110, 105, 46, 116, 105, 100] /- ovni.tid -/, .number 5678 0),
  ([111, 118, 110, 105, 46, 112, 105, 100] /- ovni.pid -/, .number 1234 0),
  ([111, 118, 110, 105, 46, 108, 111, 111, 109] /- ovni.loom -/, .string [110, 111, 100, 101, 48] /- "node0" -/),
  ([111, 118, 110, 105, 46, 97, 112, 112, 95, 105, 100] /- ovni.app_id -/, .number 1 0),
  ([111, 118, 110, 105, 46, 114, 101, 113, 117, 105, 114, 101, 46, 111, 118, 110, 105] /- ovni.require.ovni -/, .string [49, 46, 49, 49, 46, 48] /- "1.11.0" -/),
  ([111, 118, 110, 105, 46, 114, 101, 113, 117, 105, 114, 101, 46, 110, 111, 115, 118] /- ovni.require.nosv -/, .string [50, 46, 53, 46, 49] /- "2.5.1" -/),
  ([111, 118, 110, 105, 46, 109, 97, 114, 107, 46, 55, 46, 116, 105, 116, 108, 101] /- ovni.mark.7.title -/, .string [97, 47, 98, 32, 34, 113, 34] /- "a/b \"q\"" -/),
  ([111, 118, 110, 105, 46, 109, 97, 114, 107, 46, 55, 46, 99, 104, 97, 110, 95, 116, 121, 112, 101] /- ovni.mark.7.chan_type -/, .string [115, 116, 97, 99, 107] /- "stack" -/),
  ([111, 118, 110, 105, 46, 109, 97, 114, 107, 46, 55, 46, 108, 97, 98, 101, 108, 115, 46, 49] /- ovni.mark.7.labels.1 -/, .string [111, 110, 101] /- "one" -/),
  ([111, 118, 110, 105, 46, 114, 97, 110, 107] /- ovni.rank -/, .number 0 0),
  ([111, 118, 110, 105, 46, 110, 114, 97, 110, 107, 115] /- ovni.nranks -/, .number 2 0),
  ([111, 118, 110, 105, 46, 108, 111, 111, 109, 95, 99, 112, 117, 115] /- ovni.loom_cpus -/, .array [
    .object [
      ([105, 110, 100, 101, 120] /- index -/, .number 0 0),
      ([112, 104, 121, 105, 100] /- phyid -/, .number 0 0)],
    .object [
      ([105, 110, 100, 101, 120] /- index -/, .number 1 0),
      ([112, 104, 121, 105, 100] /- phyid -/, .number 3 0)]]),
  ([111, 118, 110, 105, 46, 102, 105, 110, 105, 115, 104, 101, 100] /- ovni.finished -/, .number 1 0),
  ([110, 111, 115, 118, 46, 99, 97, 110, 95, 98, 114, 101, 97, 107, 100, 111, 119, 110] /- nosv.can_breakdown -/, .bool true),
  ([110, 111, 115, 118, 46, 108, 105, 98, 95, 118, 101, 114, 115, 105, 111, 110] /- nosv.lib_version -/, .string [51, 46, 49, 46, 48] /- "3.1.0" -/),
  ([110, 97, 110, 111, 115, 54, 46, 120] /- nanos6.x -/, .number 2 0)]

theorem realJson_written :
    Writable realJson ∧ delimited realJson = true ∧ serializePretty realJson = realText := by decide +kernel

theorem parse_realText : parse realText = .ok realJson :=
  realJson_written.2.2 ▸ roundtrip realJson realJson_written.1

theorem parse_realText_cut (k : Nat) (hk : k < 938) : parse (realText.take k) = .fail :=
  realJson_written.2.2 ▸ cut_rejected realJson realJson_written.1 realJson_written.2.1 k
    (realJson_written.2.2 ▸ (by decide +kernel : realText.length = 938) ▸ hk)

set_option maxRecDepth 100000 in
/-- the file parses to the value … -/
example : parse realText = .ok realJson := parse_realText

set_option maxRecDepth 100000 in
/-- … which is writable and serializes to exactly the bytes libovni wrote -/
example : Writable realJson ∧ delimited realJson = true ∧ serializePretty realJson = realText := realJson_written

set_option maxRecDepth 100000 in
/-- the `dotset` calls of libovni build that value -/
example : applySets (.object []) realSets = some realJson := by decide +kernel

set_option maxRecDepth 100000 in
/-- cuts of the real file (inside a string, after a complete member, before the last brace) and the empty file -/
example : parse (realText.take 100) = .fail ∧ parse (realText.take 470) = .fail
    ∧ parse (realText.take 937) = .fail ∧ parse [] = .fail :=
  ⟨parse_realText_cut 100 (by omega), parse_realText_cut 470 (by omega), parse_realText_cut 937 (by omega), by decide⟩

set_option maxRecDepth 100000 in
/-- every cut of a small object with a nested array -/
example : ∀ k, k < (serializePretty (.object [([97], .array [.number 1 0, .string [47]])])).length →
    parse ((serializePretty (.object [([97], .array [.number 1 0, .string [47]])])).take k) = .fail :=
  cut_rejected _ (by decide) rfl

set_option maxRecDepth 100000 in
/-- the getters the emulator applies to it: `ovni.tid`, `ovni.part`, `ovni.finished`, `ovni.require`, `ovni.loom_cpus` -/
example : getNumber (dotget realJson [111, 118, 110, 105, 46, 116, 105, 100]) = (5678, 0)
    ∧ getString (dotget realJson [111, 118, 110, 105, 46, 112, 97, 114, 116]) = some [116, 104, 114, 101, 97, 100]
    ∧ cInt (getNumber (dotget realJson [111, 118, 110, 105, 46, 102, 105, 110, 105, 115, 104, 101, 100])) = 1
    ∧ (getObject (dotget realJson [111, 118, 110, 105, 46, 114, 101, 113, 117, 105, 114, 101])).isSome = true
    ∧ ((getArray (dotget realJson [111, 118, 110, 105, 46, 108, 111, 111, 109, 95, 99, 112, 117, 115])).map List.length) = some 2
    ∧ getBoolean (dotget realJson [110, 111, 115, 118, 46, 99, 97, 110, 95, 98, 114, 101, 97, 107, 100, 111, 119, 110]) = 1
    ∧ getNumber (dotget realJson [111, 118, 110, 105, 46, 112, 97, 114, 116]) = (0, 0) := by decide +kernel

/-- the path `ovni.tid` is independent of every path set after it -/
example : Indep (splitDots [111, 118, 110, 105, 46, 116, 105, 100]) (splitDots [111, 118, 110, 105, 46, 112, 105, 100]) := by
  unfold Indep; decide

/-- what parson does with documents libovni never writes: a duplicate name is
    refused, garbage after the root object is ignored, comments are blanked, a
    quote inside a line comment hides the block comment that follows it. -/
example : parse [123, 34, 97, 34, 58, 49, 44, 34, 97, 34, 58, 50, 125] = .fail                      -- {"a":1,"a":2}
    ∧ parse [123, 34, 97, 34, 58, 49, 125, 125, 120] = .ok (.object [([97], .number 1 0)])             -- {"a":1}}x
    ∧ parse [47, 42, 99, 42, 47, 91, 49, 44, 47, 47, 120, 10, 50, 93] = .ok (.array [.number 1 0, .number 2 0])  -- /*c*/[1,//x\n2]
    ∧ parse [47, 47, 34, 10, 47, 42, 42, 47, 49] = .fail                                               -- //"\n/**/1
    ∧ parse [48, 46, 49] = .unsup ∧ parse [48, 101, 49] = .fail := by decide +kernel                            -- 0.1   0e1

end Ovni.Props.Json
